/-
Tie for C19: facts regenerated from pkg/bech32/address/address.go, pkg/migration/migration.go,
iota.go consts and guards (network prefixes, version bytes, hash lengths, the migration constants) agree with the models
`Iota.Address` / `Iota.Migration`.  (The Bech32 and b1t6 layers underneath are tied by Tie/Bech32, Tie/C14.)
Then the re-exports `code_*` of the code ties: migration.go with the guard `IsTrytesOfExactLength` (proofs in
`Iota/Tie/MigrationCode.lean`) and address.go — `ParsePrefix`, `ParseBech32`, `Bech32`, `Bytes`, `Version` — (proofs in
`Iota/Tie/AddressCode.lean`), translated as code, equal the model; `Decode` and `ParseBech32` never panic.
-/
import Iota.Gen.Address
import Iota.Tie.Expect
import Iota.Tie.Bech32
import Iota.Tie.C14
import Iota.Model.Address
import Iota.Proofs.Vectors.Hash
import Iota.Tie.MigrationCode
import Iota.Tie.AddressCode

namespace Iota.Tie.C19
open Iota

theorem prefixes : Gen.Address.hrpStrings = Address.hrpStrings.map (·.map UInt8.toNat) ∧
    Gen.Address.prefixConsts = [0, 1, 2, 3] := by decide

theorem versions :
    Gen.Address.versionEd25519 = (Address.Kind.ed25519.version.toNat : Int) ∧
    Gen.Address.versionAlias = (Address.Kind.alias.version.toNat : Int) ∧
    Gen.Address.versionNFT = (Address.Kind.nft.version.toNat : Int) ∧
    Gen.Address.blake2b160Length = (Address.Kind.alias.hashLen : Int) ∧
    Gen.Address.blake2b160Length = (Address.Kind.nft.hashLen : Int) ∧
    Address.Kind.ed25519.hashLen = 32 := by decide

theorem migration_constants :
    Gen.Address.migPrefix = Migration.pfx.map UInt8.toNat ∧
    Gen.Address.migSuffix = Migration.sfx.map UInt8.toNat ∧
    Gen.Address.migChecksumSize = (Migration.checksumSize : Int) ∧
    Gen.Address.migAddressSize = (Migration.addressSize : Int) ∧
    Gen.Address.hashTrytesSize = (Migration.hashTrytesSize : Int) ∧
    Gen.Address.tritsPerTryte = 3 := by decide

/-- the normalized text of everything else the package declares (imports, constants, types, variables, build constraints and
the functions not held one by one) equals the expected one (`Iota/Tie/Expect.lean`): no declaration of the modelled packages
can change without a tie theorem failing. -/
theorem rest :
    Gen.Address.rest_address = Expect.Address_rest_address ∧
    Gen.Address.rest_migration = Expect.Address_rest_migration :=
  ⟨rfl, rfl⟩

/-! ### migration.go — and the functions of iota.go it calls: `guards.IsTrytesOfExactLength` and iota.go's copy of
`encoding/b1t6` — translated AS CODE = the model (`Gen.Migration.*` in `Iota/Gen/Migration.lean`; `none` = Go run-time
panic, `error` = `Option String`).  `blake2b.Sum256` is a PARAMETER `sum` of the generated `Encode` / `Decode`; the model has
the hash `H` as a parameter too, and `hH` says that `H` is `sum` on model bytes (`bv` converts `UInt8` to `BitVec 8`).
Proofs: `Iota/Tie/MigrationCode.lean`; end-to-end corollaries on the generated functions alone: `Iota/Tie/E2E/Migration.lean`. -/

open Iota.Tie.Bech32Code (bv) in
/-- **the guard `IsTrytesOfExactLength(trytes, n)`, which loops over the RUNES of the string, never panics and is true exactly
when the string has `n` bytes, is not empty and every BYTE is one of `A`…`Z`, `9`** — for every byte string (non-ASCII bytes
included: they start a rune ≥ 128 or yield U+FFFD) of a length a Go string can have -/
theorem code_guard (t : List UInt8) (n : Nat) (ht : t.length < 2 ^ 63) (hn : n < 2 ^ 63) :
    Gen.Migration.guards.IsTrytesOfExactLength (bv t) (BitVec.ofNat 64 n) = some (Migration.isTrytesOfExactLength t n) :=
  MigrationCode.IsTrytesOfExactLength_eq t n ht hn

open Iota.Tie.Bech32Code (bv) in
/-- **`migration.Decode`, for EVERY byte string and whatever function is passed for `blake2b.Sum256`, returns what the model's
`decode` returns: the address and a nil error, or the zero address and the error** (`MigrationCode.errName`: the name of the
error variable it is or wraps; the two `fmt.Errorf("…%w", err)` errors both wrap `b1t6.ErrInvalidTrits` and are not told
apart, message texts are not modelled).  No hypothesis on the length of `sum`'s results is needed: the bounds of
`hash[:len(checksumBytes)]` are checked against the length 32 of the array type. -/
theorem code_migration_decode (sum : List (BitVec 8) → List (BitVec 8)) (H : Migration.Bytes → Migration.Bytes)
    (hH : ∀ x, sum (bv x) = bv (H x)) (t : List UInt8) (ht : t.length < 2 ^ 63) :
    Gen.Migration.migration.Decode sum (bv t) = some (match Migration.decode H t with
      | .ok a => (bv a, none)
      | .error e => (List.replicate 32 0#8, some (MigrationCode.errName e))) := by
  rw [MigrationCode.Decode_enc sum H hH t ht]
  cases Migration.decode H t <;> rfl

/-- **`migration.Decode` never panics: not on lower-case or non-ASCII input, not for any length, not for any `sum`** (the
guard admits only 81 characters `A`…`Z`, `9`, so the table lookups of `b1t6.DecodeTrytes` — which alone panics on `"aa"`,
`C14.code_b1t6_decodeTrytes` — are in range and every slice bound is valid) -/
theorem code_migration_decode_never_panics (sum : List (BitVec 8) → List (BitVec 8)) (s : List (BitVec 8))
    (hs : s.length < 2 ^ 63) : Gen.Migration.migration.Decode sum s ≠ none := by
  obtain ⟨t, rfl, hl⟩ := Bech32Code.exists_bv s
  exact MigrationCode.Decode_never_panics sum t (hl ▸ hs)

open Iota.Tie.Bech32Code (bv) in
/-- **`migration.Encode` of a 32-byte address never panics and is the model's `encode`**: `TRANSFER`, the b1t6 trytes of the
address followed by the first four bytes of its hash, `9` -/
theorem code_migration_encode (sum : List (BitVec 8) → List (BitVec 8)) (H : Migration.Bytes → Migration.Bytes)
    (hH : ∀ x, sum (bv x) = bv (H x)) (a : List UInt8) (ha : a.length = 32) :
    Gen.Migration.migration.Encode sum (bv a) = some (bv (Migration.encode H a)) :=
  MigrationCode.Encode_eq sum H hH a ha

/-! ### address.go — `ParsePrefix`, `Prefix.String`, `ParseBech32`, `Bech32`, the `Bytes` / `Version` methods of the three
address types — translated AS CODE = the model (`Gen.AddressCode.address.*` in `Iota/Gen/AddressCode.lean`; the
translation covers named integer types, the read-only table `hrpStrings`, struct values with one array field, and the interface
`Address` as a CLOSED sum `Go.Iface = Option (Nat × bytes)` over the package's own three implementations; `none` as a
result = Go run-time panic).  `ParseBech32` and `Bech32` call the generated `bech32.Decode` / `Encode`, so the
only assumptions are the `Externs` of `Iota.Tie.Bech32ApiCode` (strings.ToLower / ToUpper on ASCII strings, strings.LastIndex).
Proofs: `Iota/Tie/AddressCode.lean`; end-to-end corollaries on the generated functions alone: `Iota/Tie/E2E/Address.lean`.
The source text of these functions is not held as text. -/

open Iota.Tie.Bech32Code (bv)
open Iota.Tie.Bech32CharsCode (encTable decTable)
open Iota.Tie.AddressCode (encParse encAddr encEnc)

theorem code_parsePrefix (s : List UInt8) :
    Gen.AddressCode.address.ParsePrefix (bv s) = some (match Address.parsePrefix s with
        | some p => (BitVec.ofNat 64 p, none) | none => (0#64, some "ErrInvalidPrefix")) :=
  AddressCode.code_parsePrefix s

/-- **The Go function `ParseBech32`, translated statement by statement together with the `bech32.Decode` it calls, returns
for EVERY byte string exactly what the model returns: the prefix index and the address (kind and hash bytes), or the error
kind — the wrapped Bech32 error with its offset, `ErrInvalidPrefix`, `ErrInvalidVersion`, `ErrInvalidLength`.** -/
theorem code_parseBech32 (E : Bech32ApiCode.Externs) (s : List UInt8) (hlen : s.length < 2 ^ 63) :
    Gen.AddressCode.address.ParseBech32 decTable E.lastIndex E.toLower E.toUpper (bv s) = some (encParse (Address.parseBech32 s)) :=
  AddressCode.code_parseBech32 E s hlen

/-- **`ParseBech32` never panics, whatever the input** (the property's words): every byte list shorter than 2^63. -/
theorem code_parseBech32_never_panics (E : Bech32ApiCode.Externs) (l : List (BitVec 8)) (hlen : l.length < 2 ^ 63) :
    Gen.AddressCode.address.ParseBech32 decTable E.lastIndex E.toLower E.toUpper l ≠ none := by
  obtain ⟨t, rfl, hl⟩ := Bech32Code.exists_bv l
  exact AddressCode.code_parseBech32_never_panics E t (hl ▸ hlen)

/-- the three `Bytes()` methods behind the interface: version byte, then the hash -/
theorem code_bytes (a : Address.Addr) : Gen.AddressCode.address.Address_Bytes (encAddr a) = some (bv a.bytes) :=
  AddressCode.code_bytes a

theorem code_version (a : Address.Addr) :
    Gen.AddressCode.address.Address_Version (encAddr a) = some a.kind.version.toBitVec := AddressCode.code_version a

/-- **`Bech32(hrp, addr)` as code = the model, for the four `Prefix` constants and every address of the three kinds** (any
hash length the encoder admits); it panics for a `Prefix` value outside 0…3 (`hrpStrings[p]`) and for a nil `Address`. -/
theorem code_bech32 (E : Bech32ApiCode.Externs) (p : Nat) (hp : p < 4) (a : Address.Addr) (hl : a.hash.length + 1 < 2 ^ 60) :
    Gen.AddressCode.address.Bech32 encTable E.toLower E.toUpper (BitVec.ofNat 64 p) (encAddr a) =
      some (encEnc (Address.bech32 p a)) :=
  AddressCode.code_bech32_gen E p hp a hl

theorem code_bech32_panics (ce : List (BitVec 8)) (tl tu : List (BitVec 8) → List (BitVec 8)) (hrp : BitVec 64)
    (h : hrp.toInt < 0 ∨ 4 ≤ hrp.toInt) (addr : Go.Iface) :
    Gen.AddressCode.address.Bech32 ce tl tu hrp addr = none := AddressCode.code_bech32_panics ce tl tu hrp h addr

end Iota.Tie.C19
