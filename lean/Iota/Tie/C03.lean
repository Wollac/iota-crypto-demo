/-
Tie for C03 and C09: facts regenerated from pkg/bip39 (constants, PBKDF2 call arguments, both
embedded word lists, source snapshots).  The word lists embedded in the repository must be, index
for index, the committed official lists, and their files must hash to the official digests.
Then the re-exports `code_*` of the code ties: `code_helpers` (the four helpers without library calls, proofs in
`Iota/Tie/Bip39Code.lean`), `code_entropyToMnemonic`, `code_mnemonicToEntropy`, `code_computeChecksum` (the `*big.Int`
functions, proofs in `Iota/Tie/Bip39BigCode.lean`) and `code_externs_satisfiable` for the assumption on the word-list methods.
-/
import Iota.Tie.Bip39Code
import Iota.Tie.Bip39BigCode
import Iota.Gen.Bip39
import Iota.Tie.Expect
import Iota.Model.Mnemonic
import Iota.Spec.Bip39Words
import Iota.Proofs.Vectors.Bip39
import Iota.Proofs.Vectors.Hash
import Iota.Proofs.Vectors.Mac

namespace Iota.Tie.C03
open Iota

theorem constants :
    Gen.Bip39.entropyMultiple = (Bip39.entropyMultiple : Int) ∧
    Gen.Bip39.entropyMinBits = (Bip39.entropyMinBits : Int) ∧
    Gen.Bip39.entropyMaxBits = (Bip39.entropyMaxBits : Int) ∧
    Gen.Bip39.indexBits = (Bip39.indexBits : Int) ∧ Gen.Bip39.wordCount = 2048 ∧
    Gen.Bip39.wordIndexMask = 2047 ∧ Gen.Bip39.seedSize = 64 := by decide

/-- `pbkdf2.Key([]byte(mnemonic.String()), []byte("mnemonic"+passphrase), 2048, SeedSize, sha512.New)` -/
theorem pbkdf2_call :
    Gen.Bip39.pbkdf2Iterations = 2048 ∧ Gen.Bip39.pbkdf2KeyLen = 64 ∧
    Gen.Bip39.pbkdf2Password = "[]byte(mnemonic.String())" ∧
    Gen.Bip39.pbkdf2Salt = "[]byte(\"mnemonic\" + passphrase)" ∧
    Gen.Bip39.pbkdf2Hash = "sha512.New" ∧ Gen.Bip39.defaultLanguage = "english" := by
  refine ⟨by decide, by decide, rfl, rfl, rfl, rfl⟩

/-- Written with the recursor, and run on the eight parts of a word list one by one (`chunks_eq`): the kernel then unfolds
one `List.rec` per element.  The compiled form of a structural recursion (this function by pattern matching, or the instance
`DecidableEq (List _)`) costs it three to five times as much, and so does reaching the elements through the left-nested `++`
of the whole list. -/
noncomputable def all2 {α β : Type} (r : α → β → Bool) (g : List α) : List β → Bool :=
  List.rec (motive := fun _ => List β → Bool) List.isEmpty
    (fun a _ ih s => List.rec false (fun b bs _ => r a b && ih bs) s) g

theorem all2_sound {α β : Type} (r : α → β → Bool) (f : β → α) (h : ∀ a b, r a b = true → a = f b) :
    ∀ g s, all2 r g s = true → g = s.map f
  | [], [], _ => rfl
  | [], _ :: _, e => (Bool.false_ne_true e).elim
  | _ :: _, [], e => (Bool.false_ne_true e).elim
  | a :: as, b :: bs, e => by
    have e' : (r a b && all2 r as bs) = true := e
    rw [Bool.and_eq_true] at e'
    rw [List.map_cons, ← h a b e'.1, ← all2_sound r f h as bs e'.2]

theorem chunks_eq (gs : List (List (List Nat))) (ss : List (List (List UInt8)))
    (h : all2 (all2 (all2 fun a c => Nat.beq a c.toNat)) gs ss = true) :
    gs.flatten = ss.flatten.map (·.map UInt8.toNat) := by
  rw [List.map_flatten]
  exact congrArg List.flatten (all2_sound _ (List.map (List.map UInt8.toNat))
    (all2_sound _ (List.map UInt8.toNat) (all2_sound _ UInt8.toNat fun _ _ => Nat.eq_of_beq_eq_true)) gs ss h)

/-- the embedded lists are the official BIP-39 lists, index for index -/
theorem english_official : Gen.Bip39.english = Spec.Bip39Words.english.map (·.map UInt8.toNat) := by
  have h := chunks_eq
    (open Gen.Bip39 in [english0, english1, english2, english3, english4, english5, english6, english7])
    (open Spec.Bip39Words in [english0, english1, english2, english3, english4, english5, english6, english7])
    (by decide +kernel)
  simpa only [List.flatten_cons, List.flatten_nil, List.append_nil, List.append_assoc, Gen.Bip39.english,
    Spec.Bip39Words.english] using h
theorem japanese_official : Gen.Bip39.japanese = Spec.Bip39Words.japanese.map (·.map UInt8.toNat) := by
  have h := chunks_eq
    (open Gen.Bip39 in [japanese0, japanese1, japanese2, japanese3, japanese4, japanese5, japanese6, japanese7])
    (open Spec.Bip39Words in [japanese0, japanese1, japanese2, japanese3, japanese4, japanese5, japanese6, japanese7])
    (by decide +kernel)
  simpa only [List.flatten_cons, List.flatten_nil, List.append_nil, List.append_assoc, Gen.Bip39.japanese,
    Spec.Bip39Words.japanese] using h

/-- SHA-256 of the list bodies (words joined by and ending in '\n') = digests of the official
bip-0039/english.txt and japanese.txt (what the two tests of /repo/pkg/bip39/internal/wordlists/wordlist_test.go compare
over the network, and so fail offline) -/
theorem official_digests :
    Gen.Bip39.englishSha256 = "2f5eed53a4727b4bf8880d8f3f199efc90e58503646d9ff8eff3a2ed3b24dbda" ∧
    Gen.Bip39.japaneseSha256 = "2eed0aef492291e061633d7ad8117f1a2b03eb80a29d0e4e3117ac2528d05ffd" ∧
    Gen.Bip39.englishCount = 2048 ∧ Gen.Bip39.japaneseCount = 2048 := ⟨rfl, rfl, rfl, rfl⟩

theorem src :
    Gen.Bip39.src_bip39_MnemonicToSeed = Expect.Bip39_src_bip39_MnemonicToSeed ∧
    Gen.Bip39.src_bip39_ParseMnemonic = Expect.Bip39_src_bip39_ParseMnemonic ∧
    Gen.Bip39.src_bip39_Mnemonic_String = Expect.Bip39_src_bip39_Mnemonic_String ∧
    Gen.Bip39.src_bip39_Mnemonic_MarshalText = Expect.Bip39_src_bip39_Mnemonic_MarshalText ∧
    Gen.Bip39.src_bip39_Mnemonic_UnmarshalText = Expect.Bip39_src_bip39_Mnemonic_UnmarshalText ∧
    Gen.Bip39.src_bip39_SetWordList = Expect.Bip39_src_bip39_SetWordList ∧
    Gen.Bip39.src_bip39_RegisterWordList = Expect.Bip39_src_bip39_RegisterWordList ∧
    Gen.Bip39.src_bip39_init = Expect.Bip39_src_bip39_init ∧
    Gen.Bip39.src_wordlists_newWordList = Expect.Bip39_src_wordlists_newWordList ∧
    Gen.Bip39.src_wordlists_wordList_Contains = Expect.Bip39_src_wordlists_wordList_Contains ∧
    Gen.Bip39.src_wordlists_wordList_Word = Expect.Bip39_src_wordlists_wordList_Word ∧
    Gen.Bip39.src_wordlists_wordList_Index = Expect.Bip39_src_wordlists_wordList_Index ∧
    Gen.Bip39.src_wordlists_English = Expect.Bip39_src_wordlists_English ∧
    Gen.Bip39.src_wordlists_Japanese = Expect.Bip39_src_wordlists_Japanese :=
  ⟨rfl, rfl, rfl, rfl, rfl, rfl, rfl, rfl, rfl, rfl, rfl, rfl, rfl, rfl⟩

/-- the normalized text of everything else the package declares (imports, constants, types, variables, build constraints and
the functions not held one by one) equals the expected one (`Iota/Tie/Expect.lean`): no declaration of the modelled packages
can change without a tie theorem failing. -/
theorem rest :
    Gen.Bip39.rest_bip39 = Expect.Bip39_rest_bip39 ∧
    Gen.Bip39.rest_wordlists_glue = Expect.Bip39_rest_wordlists_glue ∧
    Gen.Bip39.rest_wordlist = Expect.Bip39_rest_wordlist :=
  ⟨rfl, rfl, rfl⟩

/-! ### the helpers of bip39.go without library calls, translated AS CODE = the model (proofs: `Iota/Tie/Bip39Code.lean`) -/
open Iota.Tie.Bech32Code (bv) in
theorem code_helpers :
    (∀ n, 3 * n < 2 ^ 63 →
      Gen.Bip39.code.entropyBitsToWordCount (BitVec.ofNat 64 n) = BitVec.ofNat 64 (Bip39.entropyBitsToWordCount n)) ∧
    (∀ n, 32 * n < 2 ^ 63 →
      Gen.Bip39.code.wordCountToEntropyBits (BitVec.ofNat 64 n) = BitVec.ofNat 64 (Bip39.wordCountToEntropyBits n)) ∧
    (∀ (b : List UInt8) (size : Nat), b.length < 2 ^ 63 → size < 2 ^ 63 →
      Gen.Bip39.code.padBytes (bv b) (BitVec.ofNat 64 size) =
        if size < b.length then none else some (bv (Bip39.padBytes b size))) ∧
    (∀ e : List UInt8, e.length < 2 ^ 59 →
      Gen.Bip39.code.validateEntropy (bv e) =
        if (e.length * 8) % Bip39.entropyMultiple = 0 ∧ Bip39.entropyMinBits ≤ e.length * 8 ∧ e.length * 8 ≤ Bip39.entropyMaxBits
        then none else some "ErrInvalidEntropySize") :=
  ⟨Bip39Code.entropyBitsToWordCount_eq, Bip39Code.wordCountToEntropyBits_eq, Bip39Code.padBytes_eq, Bip39Code.validateEntropy_eq⟩

/-! ### bip39.go — `EntropyToMnemonic`, `MnemonicToEntropy`, `computeChecksum`, `validateMnemonic` — translated AS CODE = the
model (`Gen.Bip39Code.big.*` in `Iota/Gen/Bip39Code.lean`; the translation covers `*big.Int` as `Int` with `SetBytes`,
`Bytes`, `Int64`, `And`, `Or`, `Lsh`, `Rsh`, the package-level constants `wordIndexMask` and `bigOne`, the named `[]string`
type `Mnemonic`; `none` as a result = Go run-time panic).  `sha256.Sum256` is a PARAMETER `sum` (`hH`: it is `H` on model
bytes) and so are the three methods of the package-level interface variable `wordList`; `Externs W contains word index` says
that they are the methods of a list `W` of 2048 words (met by every such list with its own methods, `externs_of`).
Proofs: `Iota/Tie/Bip39BigCode.lean`; end-to-end corollaries on the generated functions alone: `Iota/Tie/E2E/Bip39.lean`.
The source text of these four functions is not held as text. -/

open Iota.Tie.Bech32Code (bv)
open Iota.Tie.Bip39BigCode (Externs bvs encWords encBytes containsOf wordOf indexOf)
open Iota.Bip39 (Bytes Word)

/-- **The Go function `EntropyToMnemonic`, translated statement by statement, returns for EVERY entropy byte string (shorter
than 2^59) exactly what the model returns — the sentence, or `ErrInvalidEntropySize` — and never panics.** -/
theorem code_entropyToMnemonic {W : List Word} {contains : List (BitVec 8) → Bool} {word : BitVec 64 → Option (List (BitVec 8))}
    {index : List (BitVec 8) → Option (BitVec 64)} (E : Externs W contains word index)
    (sum : List (BitVec 8) → List (BitVec 8)) (H : Bytes → Bytes) (hH : ∀ x, sum (bv x) = bv (H x))
    (e : Bytes) (he : e.length < 2 ^ 59) :
    Gen.Bip39Code.big.EntropyToMnemonic sum word (bv e) = some (encWords (Bip39.entropyToMnemonic H W e)) :=
  Bip39BigCode.code_entropyToMnemonic E sum H hH e he

/-- **The Go function `MnemonicToEntropy`, translated statement by statement (the big.Int decoder loop, the checksum mask,
`Rsh(...).Bytes()`, `padBytes`, the comparison), returns for EVERY word sequence (fewer than 2^58 words) exactly what the
model returns — the entropy, `ErrInvalidMnemonic` or `ErrInvalidChecksum` — and never panics: `panic("invalid word index")`,
the panics of `wordList.Index`, `padBytes` and `computeChecksum` are unreachable.** -/
theorem code_mnemonicToEntropy {W : List Word} {contains : List (BitVec 8) → Bool} {word : BitVec 64 → Option (List (BitVec 8))}
    {index : List (BitVec 8) → Option (BitVec 64)} (E : Externs W contains word index)
    (sum : List (BitVec 8) → List (BitVec 8)) (H : Bytes → Bytes) (hH : ∀ x, sum (bv x) = bv (H x))
    (m : List Word) (hm : m.length < 2 ^ 58) :
    Gen.Bip39Code.big.MnemonicToEntropy sum contains index (bvs m) = some (encBytes (Bip39.mnemonicToEntropy H W m)) :=
  Bip39BigCode.code_mnemonicToEntropy E sum H hH m hm

/-- `computeChecksum` as code: the first `n` bits of the digest; panics exactly for `n > 256` -/
theorem code_computeChecksum (sum : List (BitVec 8) → List (BitVec 8)) (H : Bytes → Bytes) (hH : ∀ x, sum (bv x) = bv (H x))
    (b : Bytes) (n : Nat) (hn : n < 2 ^ 63) :
    Gen.Bip39Code.big.computeChecksum sum (bv b) (BitVec.ofNat 64 n) =
      if 256 < n then none else some (Bip39.computeChecksum H b n : Int) :=
  Bip39BigCode.code_computeChecksum sum H hH b n hn

/-- the assumption about the word-list methods is met by every list of 2048 words with its own methods — in particular by
the two official lists the repository's lists are tied to (`english_official`, `japanese_official` above) -/
theorem code_externs_satisfiable (W : List Word) (hW : W.length = 2048) :
    Externs W (containsOf W) (wordOf W) (indexOf W) := Bip39BigCode.externs_of W hW

end Iota.Tie.C03
