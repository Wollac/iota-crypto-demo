/-
Tie shared by C04, C05, C16, C19, for pkg/bech32 and its internal base32 package.  First: the constants and tables
regenerated from the Go source (`Iota/Gen/Bech32.lean`) agree with the model (Iota/Model/Bech32.lean) the theorems are about,
and the text of what is not translated equals the expected one (`rest`).  Then the re-exports `code_*` of the code ties: the
functions of checksum.go, base32.go, chars.go and bech32.go, translated as code, equal the model (proofs in
`Iota/Tie/Bech32Code.lean`, `Base32Code.lean`, `Bech32CharsCode.lean`, `Bech32ApiCode.lean`).
-/
import Iota.Tie.Bech32ApiCode
import Iota.Tie.Bech32CharsCode
import Iota.Gen.Bech32
import Iota.Tie.Expect
import Iota.Model.Bech32
import Iota.Tie.Bech32Code
import Iota.Tie.Base32Code

namespace Iota.Tie.Bech32
open Iota

theorem constants :
    Gen.Bech32.maxStringLength = (Bech32.maxStringLength : Int) ∧
    Gen.Bech32.checksumLength = (Bech32.checksumLength : Int) ∧
    Gen.Bech32.separator = (Bech32.separator.toNat : Int) := by decide

theorem charset_eq : Gen.Bech32.charset = Bech32.charset.map UInt8.toNat := by decide

theorem gen_eq : Gen.Bech32.gen = Bech32.gen.map Int.ofNat := by decide

/-- `isValidHRPChar` (translated code) on every byte value, and on rune values beyond a byte:
nothing above 126 is accepted -/
theorem isValidHRPChar_eq : ∀ n : Nat, n < 256 →
    Gen.Bech32.isValidHRPChar (n : Int) = Bech32.isValidHRPChar (UInt8.ofNat n) := by decide +kernel
theorem isValidHRPChar_large (r : Int) (h : 126 < r) : Gen.Bech32.isValidHRPChar r = false := by
  unfold Gen.Bech32.isValidHRPChar
  have : ¬ (r ≤ 126) := by omega
  simp [this]

theorem encodedLen_eq (n : Nat) : Gen.Bech32.EncodedLen n = (Bech32.encodedLen n : Int) := by
  unfold Gen.Bech32.EncodedLen Bech32.encodedLen
  have : ((n : Int) * 8 + 4) = ((n * 8 + 4 : Nat) : Int) := by omega
  rw [this, Int.tdiv_eq_ediv_of_nonneg (by omega)]
  omega
theorem decodedLen_eq (n : Nat) : Gen.Bech32.DecodedLen n = (Bech32.decodedLen n : Int) := by
  unfold Gen.Bech32.DecodedLen Bech32.decodedLen
  have : ((n : Int) * 5) = ((n * 5 : Nat) : Int) := by omega
  rw [this, Int.tdiv_eq_ediv_of_nonneg (by omega)]
  omega

/-! No function of pkg/bech32 or pkg/bech32/internal/base32 is held as source text: checksum.go, chars.go, base32.go
and bech32.go itself (`Encode`, `Decode`, `validateCase`, `firstUpper`, `firstLower`, `isValidHRPChar`) are translated as
code and tied to the model in `Iota/Tie/Bech32Code.lean`, `Base32Code.lean`, `Bech32CharsCode.lean` and
`Bech32ApiCode.lean` (re-exported below as `code_*`). -/

/-- the normalized text of everything else the package declares (imports, constants, types, variables, build constraints and
the functions not held one by one) equals the expected one (`Iota/Tie/Expect.lean`): no declaration of the modelled packages
can change without a tie theorem failing. -/
theorem rest :
    Gen.Bech32.rest_base32 = Expect.Bech32_rest_base32 ∧
    Gen.Bech32.rest_bech32 = Expect.Bech32_rest_bech32 :=
  ⟨rfl, rfl⟩

/-! ### checksum.go translated AS CODE (loops included) = the model, for all inputs
`Gen.Bech32.bech32Polymod` etc. are regenerated from the Go source on every run by the loop translator
(go/cmd/extract/loops*.go: Go `int` as 64-bit two's complement `BitVec 64`, slices as lists); the proofs are in
`Iota/Tie/Bech32Code.lean`.  `bv` is the bijection `List UInt8 ≃ List (BitVec 8)`. -/
open Iota.Tie.Bech32Code in
theorem code_hrpExpand (s : List UInt8) : Gen.Bech32.bech32HrpExpand (bv s) = bv (Bech32.hrpExpand s) := hrpExpand_eq s
open Iota.Tie.Bech32Code in
theorem code_polymod (values : List UInt8) :
    (Gen.Bech32.bech32Polymod (bv values)).toNat = Bech32.polymod values ∧
    (Gen.Bech32.bech32Polymod (bv values)).toNat < 2 ^ 30 := ⟨polymod_toNat values, polymod_lt values⟩
open Iota.Tie.Bech32Code in
theorem code_createChecksum (hrp blocks : List UInt8) :
    Gen.Bech32.bech32CreateChecksum (bv hrp) (bv blocks) = bv (Bech32.createChecksum hrp blocks) := createChecksum_eq hrp blocks
open Iota.Tie.Bech32Code in
theorem code_verifyChecksum (hrp data : List UInt8) :
    Gen.Bech32.bech32VerifyChecksum (bv hrp) (bv data) = Bech32.verifyChecksum hrp data := verifyChecksum_eq hrp data

/-! ### internal/base32 translated AS CODE (switch / fallthrough / break, output buffer, `&CorruptInputError{…}`)
= the model's `b32Encode` / `b32Decode`, for all inputs; `none` is a Go run-time panic. The destination and the source
have the same element type: the translation assumes they do not overlap, which the extractor checks at both call sites
(`dst := make(…)` in pkg/bech32/bech32.go). Proofs: `Iota/Tie/Base32Code.lean`. -/
open Iota.Tie.Bech32Code (bv) in
open Iota.Tie.Base32Code in
open Iota.Bech32 in
theorem code_base32_encode (dst : List (BitVec 8)) (src : List UInt8) (hlen : src.length < 2 ^ 63) :
    Gen.Bech32.base32.Encode dst (bv src) =
      if encodedLen src.length ≤ dst.length then
        some (Gen.Bech32.base32.EncodedLen (BitVec.ofNat 64 src.length),
          bv (b32Encode src) ++ dst.drop (encodedLen src.length))
      else none := encode_spec dst src hlen
open Iota.Tie.Bech32Code (bv) in
open Iota.Tie.Base32Code in
open Iota.Bech32 in
theorem code_base32_decode (dst : List (BitVec 8)) (src : List UInt8) (hlen : src.length < 2 ^ 63) :
    Gen.Bech32.base32.Decode dst (bv src) =
      if (decBytes src).length ≤ dst.length then
        some (BitVec.ofNat 64 (decBytes src).length, errOf (b32Decode src),
          bv (decBytes src) ++ dst.drop (decBytes src).length)
      else none := decode_spec dst src hlen
open Iota.Tie.Bech32Code (bv) in
open Iota.Tie.Base32Code in
open Iota.Bech32 in
/-- **no panic with the buffers `bech32.Encode` / `bech32.Decode` allocate** (EncodedLen + 6 resp. DecodedLen bytes) -/
theorem code_base32_no_panic_at_call_sites (dst : List (BitVec 8)) (src : List UInt8) :
    (src.length < 2 ^ 60 →
      dst.length = (Gen.Bech32.base32.EncodedLen (BitVec.ofNat 64 src.length) + 6#64).toNat →
      Gen.Bech32.base32.Encode dst (bv src) ≠ none) ∧
    (src.length * 5 < 2 ^ 63 →
      dst.length = (Gen.Bech32.base32.DecodedLen (BitVec.ofNat 64 src.length)).toNat →
      Gen.Bech32.base32.Decode dst (bv src) ≠ none) :=
  ⟨fun h1 h2 => (by rw [(encode_caller dst src h1 h2).1]; exact fun h => nomatch h),
   fun h1 h2 => decode_caller dst src h1 h2⟩

/-! ### chars.go translated AS CODE = the model (proofs: `Iota/Tie/Bech32CharsCode.lean`)
`newEncoding` is a constructor: its translation returns the two fields (`enc`, `decMap`) of the struct it builds. -/
open Iota.Tie.Bech32Code (bv) in
open Iota.Tie.Bech32CharsCode in
/-- the package variable `charset = newEncoding("qpzry9x8gf2tvdw0s3jn54khce6mua7l")` holds the model's tables; `newEncoding`
panics exactly for alphabets that are not 32 bytes long -/
theorem code_newEncoding :
    Gen.Bech32.chars.newEncoding srcCharset = some (encTable, decTable) ∧
    (∀ cs : List (BitVec 8), cs.length < 2 ^ 63 → (Gen.Bech32.chars.newEncoding cs = none ↔ cs.length ≠ 32)) :=
  ⟨newEncoding_charset, newEncoding_none_iff⟩
open Iota.Tie.Bech32Code (bv) in
open Iota.Tie.Bech32CharsCode in
/-- `charset.encode`: the model's `charsetEncode` on 5-bit symbols; an index-out-of-range panic for a symbol ≥ 32 -/
theorem code_charsetEncode (src : List UInt8) (hlen : src.length < 2 ^ 63) :
    Gen.Bech32.chars.encoding_encode encTable (bv src) =
      if src.all (fun s => decide (s.toNat < 32)) then some (bv (Bech32.charsetEncode src)) else none :=
  encode_eq src hlen
open Iota.Tie.Bech32Code (bv) in
open Iota.Tie.Bech32CharsCode in
/-- `charset.decode` on ALL byte strings (non-ASCII and invalid UTF-8 included; Go ranges over the rune starts): never
panics; the model's `charsetDecode`, the error case returning the symbols decoded before the bad character -/
theorem code_charsetDecode (s : List UInt8) (hlen : s.length < 2 ^ 63) :
    Gen.Bech32.chars.encoding_decode decTable (bv s) =
      match Bech32.charsetDecode s with
      | .ok ds => some (bv ds, none)
      | .error n => some (bv ((s.take n).map Bech32.decMap), some "ErrInvalidCharacter") :=
  decode_eq s hlen

/-! ### bech32.go itself translated AS CODE = the model, for all byte strings (proofs: `Iota/Tie/Bech32ApiCode.lean`)
`Gen.Bech32.api.Encode` / `Decode` take as PARAMETERS what the translation does not define: `strings.ToLower`, `ToUpper`,
`LastIndex` and the two tables of the package variable `charset`.  `Externs` states exactly what is assumed about the
library functions (ASCII case mapping on ASCII strings; last occurrence of a byte); the tables are instantiated by what
the generated `newEncoding` returns (`code_newEncoding`). -/
open Iota.Tie.Bech32Code (bv) in
open Iota.Tie.Bech32CharsCode (encTable decTable) in
open Iota.Tie.Bech32ApiCode in
theorem code_externs_satisfiable : Nonempty Externs := externs_satisfiable
open Iota.Tie.Bech32Code (bv) in
open Iota.Tie.Bech32CharsCode (encTable decTable) in
open Iota.Tie.Bech32ApiCode in
/-- **`Decode`, every byte string** (ASCII or not, valid UTF-8 or not): the regenerated code returns what the model returns
— human-readable part, data, or the error kind with its offset — and in particular NEVER PANICS -/
theorem code_decode (E : Externs) (s : List UInt8) (hlen : s.length < 2 ^ 63) :
    (Gen.Bech32.api.Decode decTable E.lastIndex E.toLower E.toUpper (bv s) =
      some (match Bech32.decode s with
        | .ok (hrp, d) => (bv hrp, bv d, none)
        | .error e => ([], [], encErr e))) ∧
    Gen.Bech32.api.Decode decTable E.lastIndex E.toLower E.toUpper (bv s) ≠ none :=
  ⟨Decode_eq E s hlen, decode_never_panics E s hlen⟩
open Iota.Tie.Bech32Code (bv) in
open Iota.Tie.Bech32CharsCode (encTable decTable) in
open Iota.Tie.Bech32ApiCode in
/-- **`Encode`**, every prefix shorter than 2^62 and every payload shorter than 2^60 bytes (at exactly 2^60 `EncodedLen` wraps
around and `make` panics — `encode_panics_at_2_60`): the model's result, and no panic -/
theorem code_encode (E : Externs) (hrp src : List UInt8) (hh : hrp.length < 2 ^ 62) (hs : src.length < 2 ^ 60) :
    (Gen.Bech32.api.Encode encTable E.toLower E.toUpper (bv hrp) (bv src) =
      some (match Bech32.encode hrp src with
        | .ok r => (bv r, none)
        | .error e => ([], encErr e))) ∧
    Gen.Bech32.api.Encode encTable E.toLower E.toUpper (bv hrp) (bv src) ≠ none :=
  ⟨Encode_eq' E hrp src hh hs, encode_never_panics E hrp src hh hs⟩

end Iota.Tie.Bech32
