/-
Code tie for pkg/migration (`Encode`, `Decode`) and the two iota.go packages it calls — `guards.IsTrytesOfExactLength` and
iota.go's copy of `encoding/b1t6` —, translated AS CODE by cmd/extract into `Iota/Gen/Migration.lean`
(`Gen.Migration.{guards, iotago_b1t6, migration}.*`; a string / `[]byte` / `[32]byte` is `List (BitVec 8)`, `error` is
`Option String`, `none` as a result = run-time panic), against the model of `Iota/Model/Address.lean` (`Iota.Migration`).

`blake2b.Sum256` is a PARAMETER `sum : List (BitVec 8) → List (BitVec 8)` of the generated `Encode` / `Decode`.  The model
has the hash as a parameter `H : List UInt8 → List UInt8` too; the two are related by `hH : ∀ x, sum (bv x) = bv (H x)`
(for a given `sum` such an `H` always exists: `Bech32Code.Hof sum`, `Hof_spec`).

* `copy_*`: the six functions of iota.go's `encoding/b1t6` are the SAME Lean terms as the translations of
  pkg/encoding/b1t6 in `Iota/Gen/B1T6.lean` (`rfl`), so the theorems of `Iota/Tie/B1T6Code.lean` apply to them
  (`EncodeToTrytes_eq`, `DecodeTrytes_eq`).
* `IsTrytesOfExactLength_eq`: the guard — a loop over the RUNES of the string — is the model's test on the BYTES, for every
  byte string (a byte ≥ 0x80 starts a rune ≥ 128 or yields U+FFFD; neither is in `A..Z`, `9`), and never panics.
* `Decode_enc`: for EVERY byte string `t` (of a length a Go string can have, `< 2^63`) the generated `Decode` returns what the
  model's `decode` returns: the address and a nil error, or the zero address and the error (`errName`).
  NO hypothesis about the length of `sum`'s results is needed: the translation checks the bounds of
  `hash[:len(checksumBytes)]` against the length 32 of the array TYPE (and `len(checksumBytes)` is 4 here); the VALUE is
  `List.take`, which is total.  (That `sum` returns 32 bytes is the ASSUMPTION under which the translation of a `[32]byte`
  as a list is faithful to Go; the equation itself holds for every `sum`.)
* `Decode_never_panics`: the generated `Decode` does not panic, for ANY function passed as
  `sum`: `IsTrytesOfExactLength` guarantees 81 characters of the tryte alphabet, so the table lookup in
  `trinary.MustTryteToTryteValue` (which panics on lower-case input: `B1T6Code.decodeTrytes_lowercase_panics`) is in range
  and all slice bounds are valid.
* `Encode_eq`: for every 32-byte address the generated `Encode` is the model's `encode`; it never panics.
-/
import Iota.Gen.Migration
import Iota.Model.Address
import Iota.Proofs.Address
import Iota.Tie.B1T6Code
import Iota.Tie.Bech32ApiCode

namespace Iota.Tie.MigrationCode
open Iota Iota.Go
open Iota.Tie.Bech32Code (bv bv_append bv_ofBitVec bv_cons bv_length bv_take bv_drop bv_beq hasPrefix_bv hasSuffix_bv
  trimPrefix_bv trimSuffix_bv Hof Hof_spec)
open Iota.Tie.Bech32CharsCode (runeWidth_ascii)
open Iota.Tie.Bech32ApiCode (runeValue_ascii runeValue_high)
open Iota.Gen.Migration
open Iota.Migration (Bytes pfx sfx)

/-! ### iota.go's copy of b1t6 is the code of pkg/encoding/b1t6 -/

theorem copy_EncodedLen : iotago_b1t6.EncodedLen = Gen.B1T6.b1t6.EncodedLen := rfl
theorem copy_DecodedLen : iotago_b1t6.DecodedLen = Gen.B1T6.b1t6.DecodedLen := rfl
theorem copy_encodeGroup : iotago_b1t6.encodeGroup = Gen.B1T6.b1t6.encodeGroup := rfl
theorem copy_decodeGroup : iotago_b1t6.decodeGroup = Gen.B1T6.b1t6.decodeGroup := rfl
theorem copy_EncodeToTrytes : iotago_b1t6.EncodeToTrytes = Gen.B1T6.b1t6.EncodeToTrytes := rfl
theorem copy_DecodeTrytes : iotago_b1t6.DecodeTrytes = Gen.B1T6.b1t6.DecodeTrytes := rfl

/-- **iota.go's `b1t6.EncodeToTrytes`** (`len(src) < 2^60`): never panics; the model's `encodeToTrytes` -/
theorem EncodeToTrytes_eq (src : List UInt8) (hlen : src.length < 2 ^ 60) :
    iotago_b1t6.EncodeToTrytes (bv src) = some (bv (B1T6.encodeToTrytes src)) := by
  rw [copy_EncodeToTrytes]; exact B1T6Code.encodeToTrytes_eq src hlen

/-- **iota.go's `b1t6.DecodeTrytes`, all characters within `'9'` … `'Z'`**: never panics; the model's `decodeTrytes` -/
theorem DecodeTrytes_eq (src : List UInt8) (hn : 3 * src.length < 2 ^ 63)
    (hc : ∀ c ∈ src, 57 ≤ c.toNat ∧ c.toNat ≤ 90) :
    iotago_b1t6.DecodeTrytes (bv src) =
      match B1T6.decodeTrytes src with
      | .ok bs => some (bv bs, none)
      | .error e => some ([], B1T6Code.errOf (some e)) := by
  rw [copy_DecodeTrytes]; exact B1T6Code.decodeTrytes_eq src hn hc

/-- … and it panics on lower-case input, e.g. on `"aa"` -/
theorem DecodeTrytes_lowercase_panics : iotago_b1t6.DecodeTrytes [97#8, 97#8] = none := by
  rw [copy_DecodeTrytes]; exact B1T6Code.decodeTrytes_lowercase_panics

/-! ### `guards.IsTrytesOfExactLength`: a loop over runes = the model's test on bytes -/

/-- the test of the loop body on a rune (an `int32`): `(r < 'A' || r > 'Z') && r != '9'` -/
def badRune (r : BitVec 32) : Bool := ((BitVec.slt r 65#32) || (BitVec.slt 90#32 r)) && (r != 57#32)

theorem badRune_small (r : BitVec 32) (h : r.toNat < 2 ^ 31) :
    badRune r = !(decide (r.toNat = 57) || (decide (65 ≤ r.toNat) && decide (r.toNat ≤ 90))) := by
  have h57 : (r != 57#32) = !decide (r.toNat = 57) := by
    by_cases e : r = 57#32
    · subst e; rfl
    · have : r.toNat ≠ 57 := fun h' => e (BitVec.eq_of_toNat_eq h')
      simp [e, this]
  unfold badRune
  rw [h57, BitVec.slt, BitVec.slt, BitVec.toInt_eq_toNat_of_lt (by omega)]
  have e65 : (65#32 : BitVec 32).toInt = 65 := by decide
  have e90 : (90#32 : BitVec 32).toInt = 90 := by decide
  rw [e65, e90]
  by_cases a : r.toNat = 57
  · simp [a]
  · by_cases b : 65 ≤ r.toNat <;> by_cases c : r.toNat ≤ 90 <;> simp [a, b, c] <;> omega

theorem isTryteChar_nat (c : UInt8) :
    B1T6.isTryteChar c = (decide (c.toNat = 57) || (decide (65 ≤ c.toNat) && decide (c.toNat ≤ 90))) := by
  unfold B1T6.isTryteChar
  congr 1
  by_cases e : c = 57
  · subst e; rfl
  · have : c.toNat ≠ 57 := fun h' => e (UInt8.toNat_inj.mp h')
    simp [e, this]

theorem isTryteChar_range {c : UInt8} (h : B1T6.isTryteChar c = true) : 57 ≤ c.toNat ∧ c.toNat ≤ 90 := by
  rw [isTryteChar_nat] at h
  simp only [Bool.or_eq_true, Bool.and_eq_true, decide_eq_true_eq] at h
  omega

/-- the rune at the start of `c :: rest` fails the test of the loop exactly when the byte `c` is not a tryte character: a
byte `≥ 0x80` starts a rune `≥ 128` or yields U+FFFD -/
theorem badRune_rune (c : UInt8) (rest : List (BitVec 8)) :
    badRune (runeValue (c.toBitVec :: rest)) = !B1T6.isTryteChar c := by
  have hlt := c.toNat_lt
  by_cases hc : c.toNat < 128
  · rw [runeValue_ascii _ _ (by rwa [UInt8.toNat_toBitVec]), UInt8.toNat_toBitVec,
      badRune_small _ (by rw [BitVec.toNat_ofNat]; omega), BitVec.toNat_ofNat, Nat.mod_eq_of_lt (by omega),
      isTryteChar_nat]
  · have hv := runeValue_high c.toBitVec rest (by rw [UInt8.toNat_toBitVec]; omega)
    rw [badRune_small _ (by omega), isTryteChar_nat]
    have h1 : ¬ ((runeValue (c.toBitVec :: rest)).toNat ≤ 90) := by omega
    have h2 : ¬ ((runeValue (c.toBitVec :: rest)).toNat = 57) := by omega
    have h3 : ¬ (c.toNat ≤ 90) := by omega
    have h4 : ¬ (c.toNat = 57) := by omega
    simp [h1, h2, h3, h4]

/-- **`for _, r := range trytes { if (r < 'A' || r > 'Z') && r != '9' { return false } }`**: some RUNE fails the test of the loop
exactly when some BYTE is not a tryte character -/
theorem any_badRune : ∀ (p : List UInt8) (fuel off : Nat), p.length ≤ fuel →
    (runesFrom fuel off (bv p)).any (fun rk => badRune rk.2) = !p.all B1T6.isTryteChar
  | [], fuel, _, _ => by cases fuel <;> rfl
  | c :: cs, fuel + 1, off, hf => by
    rw [bv_cons, show runesFrom (fuel + 1) off (c.toBitVec :: bv cs) =
      (BitVec.ofNat 64 off, runeValue (c.toBitVec :: bv cs)) ::
        runesFrom fuel (off + runeWidth (c.toBitVec :: bv cs)) ((c.toBitVec :: bv cs).drop (runeWidth (c.toBitVec :: bv cs)))
      from rfl, List.any_cons, badRune_rune, List.all_cons]
    cases hv : B1T6.isTryteChar c
    · rfl
    · rw [runeWidth_ascii c.toBitVec (bv cs) (by rw [UInt8.toNat_toBitVec]; have := isTryteChar_range hv; omega),
        List.drop_succ_cons, List.drop_zero, any_badRune cs fuel (off + 1) (Nat.le_of_succ_le_succ hf)]
      rfl

/-- **`guards.IsTrytesOfExactLength`** for every byte string (of a length a Go string can have) and every length `n`: it never
panics and is the model's `isTrytesOfExactLength`: exactly `n` bytes, not empty, every byte in `A..Z` or `9` -/
theorem IsTrytesOfExactLength_eq (t : List UInt8) (n : Nat) (ht : t.length < 2 ^ 63) (hn : n < 2 ^ 63) :
    guards.IsTrytesOfExactLength (bv t) (BitVec.ofNat 64 n) = some (Migration.isTrytesOfExactLength t n) := by
  unfold guards.IsTrytesOfExactLength Migration.isTrytesOfExactLength
  rw [forIn_any _ (fun rk => badRune rk.2) false _ (fun _ _ => rfl), runes, any_badRune t _ 0 (Nat.le_of_eq (bv_length t).symm),
    bv_length, bne, beq_ofNat _ _ (by omega) (by omega), beq_ofNat t.length 0 (by omega) (by decide)]
  by_cases h1 : t.length = n
  · subst h1
    by_cases h2 : t.length = 0
    · simp [h2]
    · cases t.all B1T6.isTryteChar <;> simp [h2]
  · simp [h1]

theorem isTrytesOfExactLength_true {t : List UInt8} {n : Nat} (h : Migration.isTrytesOfExactLength t n = true) :
    t.length = n ∧ ∀ c ∈ t, B1T6.isTryteChar c = true := by
  unfold Migration.isTrytesOfExactLength at h
  simp only [Bool.and_eq_true, beq_iff_eq, List.all_eq_true] at h
  exact ⟨h.1.1, h.2⟩

/-- the code tests `!(a == b)` where the model tests `a ≠ b` -/
theorem ite_bnot_decide {α : Type} (p : Prop) [Decidable p] (a b : α) :
    (if (!decide p) = true then a else b) = if ¬ p then a else b := by
  by_cases h : p
  · rw [decide_eq_true h, if_neg (by decide), if_neg (not_not_intro h)]
  · rw [decide_eq_false h, if_pos (by decide), if_pos h]

/-! ### the model's b1t6 decoder on a string of even length -/

open Iota.Proofs.B1T6 (decodeTrytesAux_nil decodeTrytesAux_cons2) in
theorem aux_even : ∀ cs : List UInt8, cs.length % 2 = 0 → ∀ e, (B1T6.decodeTrytesAux cs).2 = some e → e = .invalidTrits
  | [], _, _, he => by rw [decodeTrytesAux_nil] at he; cases he
  | [_], h, _, _ => by simp at h
  | c1 :: c2 :: rest, h, e, he => by
    rw [decodeTrytesAux_cons2] at he
    split at he
    · cases he; rfl
    · exact aux_even rest (by simp at h; omega) e he

/-- on a string of even length the only error is `invalidTrits` (`ErrInvalidTrits`) -/
theorem decodeTrytes_error_even (cs : List UInt8) (h : cs.length % 2 = 0) (e : B1T6.Err)
    (he : B1T6.decodeTrytes cs = .error e) : e = .invalidTrits := by
  unfold B1T6.decodeTrytes at he
  split at he
  · cases he
  · rename_i hx
    cases he
    exact aux_even cs h e (by rw [hx])

open Iota.Proofs.B1T6 (decodeTrytes_ok_iff) in
theorem decodeTrytes_ok_length (cs bs : List UInt8) (hv : ∀ c ∈ cs, B1T6.isTryteChar c = true)
    (h : B1T6.decodeTrytes cs = .ok bs) : cs.length = 2 * bs.length := by
  rw [(decodeTrytes_ok_iff cs hv bs).mp h, Proofs.Migration.encodeToTrytes_length]

/-! ### `Decode` -/

/-- the names the generated code gives to the errors of `Decode` (`errors.Is`; the message texts are not modelled).
`fmt.Errorf` without `%w` is an opaque name made from its format; the two `%w` errors both wrap `b1t6.ErrInvalidTrits` (for a
string of 64 resp. 8 characters `b1t6.ErrInvalidLength` cannot occur), so the generated code does not tell them apart. -/
def errName : Migration.Err → String
  | .invalidLength => "consts.ErrInvalidTrytesLength"
  | .noPrefix => "fmt.Errorf(\"expected prefix '%s'\")"
  | .noSuffix => "fmt.Errorf(\"expected suffix '%s'\")"
  | .addrEncoding => "b1t6.ErrInvalidTrits"
  | .checksumEncoding => "b1t6.ErrInvalidTrits"
  | .invalidChecksum => "consts.ErrInvalidChecksum"

abbrev DRes := List (BitVec 8) × Option String

/-- a result of the model's `decode` as the generated code returns it: the address and nil, or the zero address (the
named result `addr` is never assigned before an error return) and the error -/
def encDec : Except Migration.Err Bytes → DRes
  | .ok a => (bv a, none)
  | .error e => (List.replicate 32 0#8, some (errName e))

/-- `Decode` after the prefix and the suffix have been removed -/
def cTail (blake2b_Sum256 : List (BitVec 8) → List (BitVec 8)) (trytes : List (BitVec 8)) : Flow DRes DRes :=
  let addr : List (BitVec 8) := (List.replicate 32 0#8)
  let addrTrytesLen : BitVec 64 := (BitVec.sdiv (iotago_b1t6.EncodedLen 32#64) 3#64)
  if !(Go.sliceOK 0#64 addrTrytesLen trytes.length) then Go.Flow.panic else
  Go.Flow.bind (Go.call (iotago_b1t6.DecodeTrytes (trytes.take addrTrytesLen.toNat))) (fun (st_2 : List (BitVec 8) × Option String) =>
  let addrBytes : List (BitVec 8) := st_2.1
  let err : Option String := (Go.errQual "b1t6" st_2.2)
  if (err).isSome then
    Go.Flow.done (addr, (Go.errWrap err))
  else
  if !(Go.sliceFromS addrTrytesLen trytes.length) then Go.Flow.panic else
  Go.Flow.bind (Go.call (iotago_b1t6.DecodeTrytes (trytes.drop addrTrytesLen.toNat))) (fun (st_3 : List (BitVec 8) × Option String) =>
  let checksumBytes : List (BitVec 8) := st_3.1
  let err : Option String := (Go.errQual "b1t6" st_3.2)
  if (err).isSome then
    Go.Flow.done (addr, (Go.errWrap err))
  else
  let hash : List (BitVec 8) := (blake2b_Sum256 addrBytes)
  if !(Go.sliceOK 0#64 (BitVec.ofNat 64 checksumBytes.length) 32) then Go.Flow.panic else
  if (!(Go.bytesEqual checksumBytes (hash.take (BitVec.ofNat 64 checksumBytes.length).toNat))) then
    Go.Flow.done (addr, (some "consts.ErrInvalidChecksum"))
  else
  let addr : List (BitVec 8) := (Go.copy addr addrBytes)
  Go.Flow.done (addr, (none : Option String))))

theorem Decode_unfold (sum : List (BitVec 8) → List (BitVec 8)) (trytes : List (BitVec 8)) :
    migration.Decode sum trytes = Flow.result (
      Flow.bind (Go.call (guards.IsTrytesOfExactLength trytes 81#64)) (fun (st_1 : Bool) =>
      if (!st_1) then Flow.done (List.replicate 32 0#8, some "consts.ErrInvalidTrytesLength")
      else if (!(Go.hasPrefix trytes (bv pfx))) then
        Flow.done (List.replicate 32 0#8, some "fmt.Errorf(\"expected prefix '%s'\")")
      else if (!(Go.hasSuffix (Go.trimPrefix trytes (bv pfx)) (bv sfx))) then
        Flow.done (List.replicate 32 0#8, some "fmt.Errorf(\"expected suffix '%s'\")")
      else cTail sum (Go.trimSuffix (Go.trimPrefix trytes (bv pfx)) (bv sfx)))) := rfl

/-- the model's `decode` after the prefix and the suffix have been removed -/
def mTail (H : Bytes → Bytes) (t2 : Bytes) : Except Migration.Err Bytes :=
  match B1T6.decodeTrytes (t2.take 64) with
  | .error _ => .error .addrEncoding
  | .ok addrBytes =>
    match B1T6.decodeTrytes (t2.drop 64) with
    | .error _ => .error .checksumEncoding
    | .ok checksumBytes =>
      if checksumBytes ≠ (H addrBytes).take checksumBytes.length then .error .invalidChecksum
      else .ok addrBytes

theorem decode_stages (H : Bytes → Bytes) (t : Bytes) : Migration.decode H t =
    if !Migration.isTrytesOfExactLength t 81 then .error .invalidLength
    else if t.take pfx.length ≠ pfx then .error .noPrefix
    else if (t.drop pfx.length).drop ((t.drop pfx.length).length - sfx.length) ≠ sfx then .error .noSuffix
    else mTail H ((t.drop pfx.length).take ((t.drop pfx.length).length - sfx.length)) := by
  unfold Migration.decode mTail
  rfl

/-- **the tail of `Decode`** on 72 tryte characters: two `DecodeTrytes` calls within their domain, all slice bounds valid -/
theorem cTail_eq (sum : List (BitVec 8) → List (BitVec 8)) (H : Bytes → Bytes) (hH : ∀ x, sum (bv x) = bv (H x))
    (t2 : Bytes) (hl : t2.length = 72) (hc : ∀ c ∈ t2, B1T6.isTryteChar c = true) :
    cTail sum (bv t2) = .done (encDec (mTail H t2)) := by
  have hl1 : (t2.take 64).length = 64 := by rw [List.length_take, hl]; rfl
  have hl2 : (t2.drop 64).length = 8 := by rw [List.length_drop, hl]
  have hc1 : ∀ c ∈ t2.take 64, B1T6.isTryteChar c = true := fun c h => hc c (List.mem_of_mem_take h)
  have hc2 : ∀ c ∈ t2.drop 64, B1T6.isTryteChar c = true := fun c h => hc c (List.mem_of_mem_drop h)
  have d1 := DecodeTrytes_eq (t2.take 64) (by rw [hl1]; decide) (fun c h => isTryteChar_range (hc1 c h))
  have d2 := DecodeTrytes_eq (t2.drop 64) (by rw [hl2]; decide) (fun c h => isTryteChar_range (hc2 c h))
  unfold cTail mTail
  simp only [show BitVec.sdiv (iotago_b1t6.EncodedLen 32#64) 3#64 = 64#64 by decide, bv_length, hl]
  rw [show Go.sliceOK 0#64 64#64 72 = true by decide, show Go.sliceFromS 64#64 72 = true by decide,
    show (64#64 : BitVec 64).toNat = 64 by decide, bv_take, bv_drop, d1, d2]
  simp only [Bool.not_true, Bool.false_eq_true, if_false]
  cases h1 : B1T6.decodeTrytes (t2.take 64) with
  | error e =>
    have := decodeTrytes_error_even _ (by rw [hl1]) e h1
    subst this
    rfl
  | ok ab =>
    have la : ab.length = 32 := by have := decodeTrytes_ok_length _ _ hc1 h1; omega
    simp only [Go.call, Flow.bind_run, Go.errQual, Option.map_none, Option.isSome_none, Bool.false_eq_true, if_false]
    cases h2 : B1T6.decodeTrytes (t2.drop 64) with
    | error e =>
      have := decodeTrytes_error_even _ (by rw [hl2]) e h2
      subst this
      rfl
    | ok cb =>
      have lc : cb.length = 4 := by have := decodeTrytes_ok_length _ _ hc2 h2; omega
      simp only [Flow.bind_run, Option.map_none, Option.isSome_none, Bool.false_eq_true, if_false, bv_length, lc]
      rw [show Go.sliceOK 0#64 (BitVec.ofNat 64 4) 32 = true by decide,
        show (BitVec.ofNat 64 4).toNat = 4 by decide, hH, bv_take, Go.bytesEqual, bv_beq, ite_bnot_decide]
      by_cases hk : cb = (H ab).take 4
      · rw [if_neg (not_not_intro hk), if_neg (not_not_intro hk), copy_full (List.replicate 32 0#8) _ (List.length_replicate.trans ((bv_length ab).trans la).symm)]
        rfl
      · rw [if_pos hk, if_pos hk]
        rfl

/-- **MAIN: `migration.Decode` for EVERY byte string** (of a length a Go string can have): the generated code — guard over the
runes, prefix / suffix tests, two calls of iota.go's `b1t6.DecodeTrytes`, `blake2b.Sum256` as the parameter `sum`, the
checksum comparison, `copy` into the result array — never panics and returns what the model's `decode` returns, as `encDec`
renders it: the 32-byte address and a nil error, or the zero address and the error.  The only hypothesis about `sum` is that
`H` describes it. -/
theorem Decode_enc (sum : List (BitVec 8) → List (BitVec 8)) (H : Bytes → Bytes) (hH : ∀ x, sum (bv x) = bv (H x))
    (t : List UInt8) (ht : t.length < 2 ^ 63) :
    migration.Decode sum (bv t) = some (encDec (Migration.decode H t)) := by
  rw [Decode_unfold, IsTrytesOfExactLength_eq t 81 ht (by decide), decode_stages]
  simp only [Go.call, Flow.bind_run]
  cases hg : Migration.isTrytesOfExactLength t 81 with
  | false => rfl
  | true =>
    obtain ⟨hlen, hch⟩ := isTrytesOfExactLength_true hg
    simp only [Bool.not_true, Bool.false_eq_true, if_false]
    rw [hasPrefix_bv, ite_bnot_decide]
    by_cases hp : t.take pfx.length = pfx
    · rw [if_neg (not_not_intro hp), if_neg (not_not_intro hp), trimPrefix_bv, if_pos hp, hasSuffix_bv, ite_bnot_decide]
      by_cases hs : (t.drop pfx.length).drop ((t.drop pfx.length).length - sfx.length) = sfx
      · rw [if_neg (not_not_intro hs), if_neg (not_not_intro hs), trimSuffix_bv, if_pos hs,
          cTail_eq sum H hH _ (by rw [List.length_take, List.length_drop, hlen]; rfl)
            (fun c h => hch c (List.mem_of_mem_drop (List.mem_of_mem_take h)))]
        rfl
      · rw [if_pos hs, if_pos hs]
        rfl
    · rw [if_pos hp, if_pos hp]
      rfl

/-- **`Decode` never panics**, whatever function is passed for `blake2b.Sum256` and whatever bytes the string consists of
(lower case, non-ASCII, any length below 2^63; every string of the code is a `bv t`: `Bech32Code.exists_bv`) -/
theorem Decode_never_panics (sum : List (BitVec 8) → List (BitVec 8)) (t : List UInt8) (ht : t.length < 2 ^ 63) :
    migration.Decode sum (bv t) ≠ none := by
  rw [Decode_enc sum (Hof sum) (Hof_spec sum) t ht]
  exact Option.some_ne_none _

/-! ### `Encode` -/

/-- **`migration.Encode` for every 32-byte address**: never panics; the model's `encode` (prefix, the b1t6 trytes of the
address followed by the first four bytes of its hash, suffix).  Nothing is assumed about the length of `sum`'s results. -/
theorem Encode_eq (sum : List (BitVec 8) → List (BitVec 8)) (H : Bytes → Bytes) (hH : ∀ x, sum (bv x) = bv (H x))
    (a : List UInt8) (ha : a.length = 32) :
    migration.Encode sum (bv a) = some (bv (Migration.encode H a)) := by
  unfold migration.Encode Migration.encode
  simp only [show Go.sliceOK 0#64 4#64 32 = true by decide, hH, bv_take, ← bv_append]
  rw [EncodeToTrytes_eq _ (by
      rw [List.length_append, ha, List.length_take]
      have : min Migration.checksumSize (H a).length ≤ 4 := Nat.min_le_left _ _
      omega)]
  simp only [Bool.not_true, Bool.false_eq_true, if_false, Go.call, Flow.bind_run, Flow.result_done, bv_append]
  rfl

theorem Encode_never_panics (sum : List (BitVec 8) → List (BitVec 8)) (a : List (BitVec 8)) (ha : a.length = 32) :
    migration.Encode sum a ≠ none := by
  have h := Encode_eq sum (Hof sum) (Hof_spec sum) (a.map UInt8.ofBitVec) ((List.length_map _).trans ha)
  rw [bv_ofBitVec] at h
  rw [h]; exact Option.some_ne_none _

/-! ### examples (kernel evaluation of the generated code with a toy hash in the place of `blake2b.Sum256`) -/

/-- a toy "hash" with 32-byte results: byte `i` is `i` plus the sum of the input bytes -/
def toySum (x : List (BitVec 8)) : List (BitVec 8) := (List.range 32).map (fun i => x.foldl (· + ·) (BitVec.ofNat 8 i))

/-- the address `200, 209, 218, …` (`200 + 9·i mod 256`) -/
def exAddr : List (BitVec 8) :=
[200#8, 209#8, 218#8, 227#8, 236#8, 245#8, 254#8, 7#8, 16#8, 25#8, 34#8, 43#8, 52#8, 61#8, 70#8, 79#8, 88#8, 97#8,
   106#8, 115#8, 124#8, 133#8, 142#8, 151#8, 160#8, 169#8, 178#8, 187#8, 196#8, 205#8, 214#8, 223#8]

/-- `"TRANSFERYYGYPZYZGZP9Y9G9PAYAGAPBYBGBPCYCGCPDYDGDPELVUWCWLWUXCXLXUYCYLYUZDDEDFDGD9"` -/
def exTrytes : List (BitVec 8) :=
[84#8, 82#8, 65#8, 78#8, 83#8, 70#8, 69#8, 82#8, 89#8, 89#8, 71#8, 89#8, 80#8, 90#8, 89#8, 90#8, 71#8, 90#8, 80#8, 57#8,
   89#8, 57#8, 71#8, 57#8, 80#8, 65#8, 89#8, 65#8, 71#8, 65#8, 80#8, 66#8, 89#8, 66#8, 71#8, 66#8, 80#8, 67#8, 89#8,
   67#8, 71#8, 67#8, 80#8, 68#8, 89#8, 68#8, 71#8, 68#8, 80#8, 69#8, 76#8, 86#8, 85#8, 87#8, 67#8, 87#8, 76#8, 87#8,
   85#8, 88#8, 67#8, 88#8, 76#8, 88#8, 85#8, 89#8, 67#8, 89#8, 76#8, 89#8, 85#8, 90#8, 68#8, 68#8, 69#8, 68#8, 70#8,
   68#8, 71#8, 68#8, 57#8]

/-- `Encode` of the address … -/
example : migration.Encode toySum exAddr = some exTrytes := by decide +kernel
/-- … and `Decode` of the result -/
example : migration.Decode toySum exTrytes = some (exAddr, none) := by decide +kernel
/-- one tryte of the address part changed (`G` → `H`): the checksum does not match -/
example : migration.Decode toySum (exTrytes.set 10 72#8) = some (List.replicate 32 0#8, some "consts.ErrInvalidChecksum") := by
  decide +kernel
/-- a group of two trytes that is no byte (`MM` = 13 + 27·13), in the address part and in the checksum part -/
example : migration.Decode toySum ((exTrytes.set 8 77#8).set 9 77#8) = some (List.replicate 32 0#8, some "b1t6.ErrInvalidTrits") := by
  decide +kernel
example : migration.Decode toySum ((exTrytes.set 78 77#8).set 79 77#8) = some (List.replicate 32 0#8, some "b1t6.ErrInvalidTrits") := by
  decide +kernel
/-- wrong prefix (`URANSFER…`), wrong suffix (`…A`) -/
example : migration.Decode toySum (exTrytes.set 0 85#8) =
    some (List.replicate 32 0#8, some "fmt.Errorf(\"expected prefix '%s'\")") := by decide +kernel
example : migration.Decode toySum (exTrytes.set 80 65#8) =
    some (List.replicate 32 0#8, some "fmt.Errorf(\"expected suffix '%s'\")") := by decide +kernel
/-- a lower-case character (`g`), on which `b1t6.DecodeTrytes` alone would panic, is rejected by the guard; so are a two-byte
UTF-8 sequence (`é`), 80 characters and the empty string -/
example : migration.Decode toySum (exTrytes.set 10 103#8) = some (List.replicate 32 0#8, some "consts.ErrInvalidTrytesLength") := by
  decide +kernel
example : migration.Decode toySum ((exTrytes.set 10 0xC3#8).set 11 0xA9#8) =
    some (List.replicate 32 0#8, some "consts.ErrInvalidTrytesLength") := by decide +kernel
example : migration.Decode toySum (exTrytes.take 80) = some (List.replicate 32 0#8, some "consts.ErrInvalidTrytesLength") := by
  decide +kernel
example : migration.Decode toySum [] = some (List.replicate 32 0#8, some "consts.ErrInvalidTrytesLength") := by decide +kernel
example : iotago_b1t6.DecodeTrytes ((exTrytes.set 10 103#8).drop 8 |>.take 64) = none := by decide +kernel
example : guards.IsTrytesOfExactLength exTrytes 81#64 = some true ∧ guards.IsTrytesOfExactLength exTrytes 80#64 = some false ∧
    guards.IsTrytesOfExactLength (exTrytes.set 10 103#8) 81#64 = some false := by decide +kernel

end Iota.Tie.MigrationCode
