/-
Code tie for pkg/bech32/checksum.go: the four functions `bech32Polymod`, `bech32HrpExpand`,
`bech32CreateChecksum`, `bech32VerifyChecksum` and the package variable `gen`, translated AS CODE
(loops included, Go `int` = 64-bit two's complement) by cmd/extract into `Iota/Gen/Bech32.lean`, are
equal FOR ALL INPUTS to the hand-written model `Iota/Model/Bech32.lean` the theorems are about.

Coercion: the translated code works on `List (BitVec 8)` (bytes of a `[]byte` / `string`), the model on
`List UInt8`.  `bv : List UInt8 → List (BitVec 8) := List.map UInt8.toBitVec` is a bijection
(inverse `List.map UInt8.ofBitVec`, `ofBitVec_bv`/`bv_ofBitVec`; defined, with these lemmas, in `Iota/Tie/BV.lean`, same
namespace); every theorem is stated in both directions.

The key fact is the loop invariant `chk < 2^30` of `bech32Polymod`: the accumulator never comes near
bit 63, so the arithmetic shift is a logical one, `<< 5` does not wrap, and the `BitVec 64` operations
agree with the `Nat` operations of the model.  It holds for ARBITRARY bytes (not only symbols < 32).
-/
import Iota.Gen.Bech32
import Iota.Tie.BV
import Iota.Model.Bech32

namespace Iota.Tie.Bech32Code
open Iota

/-! ### `gen` -/

/-- the package variable as translated for the code is the generator table of the model (and the
`List Int` rendering of it used by `Iota.Tie.Bech32.gen_eq`) -/
theorem var_gen_eq : Gen.Bech32.var_gen.map BitVec.toNat = Bech32.gen := by decide
theorem var_gen_eq_gen : Gen.Bech32.var_gen = Gen.Bech32.gen.map (BitVec.ofInt 64) := by decide

/-! ### `bech32HrpExpand` -/

theorem foldl_append_singleton {α β : Type} (f : α → β) (l : List α) (init : List β) :
    List.foldl (fun res x => res ++ [f x]) init l = init ++ l.map f := by
  induction l generalizing init with
  | nil => simp
  | cons a l ih => simp [ih]

theorem toBitVec_shr5 (x : UInt8) : (x >>> 5).toBitVec = x.toBitVec >>> 5 := by
  rw [UInt8.toBitVec_shiftRight]; rfl
theorem toBitVec_and31 (x : UInt8) : (x &&& 31).toBitVec = x.toBitVec &&& 31#8 := by
  rw [UInt8.toBitVec_and]; rfl

theorem hrpExpand_eq (s : List UInt8) :
    Gen.Bech32.bech32HrpExpand (bv s) = bv (Bech32.hrpExpand s) := by
  unfold Gen.Bech32.bech32HrpExpand Bech32.hrpExpand
  simp only [foldl_append_singleton, bv, List.nil_append, List.map_append, List.map_map, List.map_cons,
    List.map_nil]
  have e1 : ((fun x : BitVec 8 => x >>> 5) ∘ UInt8.toBitVec) = (UInt8.toBitVec ∘ fun (x : UInt8) => x >>> 5) := by
    funext x; exact (toBitVec_shr5 x).symm
  have e2 : ((fun x : BitVec 8 => x &&& 31#8) ∘ UInt8.toBitVec) = (UInt8.toBitVec ∘ fun (x : UInt8) => x &&& 31) := by
    funext x; exact (toBitVec_and31 x).symm
  rw [e1, e2]
  rfl

/-! ### `bech32Polymod` -/

/-- the inner loop `for i := range gen { if (b>>i)&1 != 0 { chk ^= gen[i] } }`, as generated -/
def inner (b chk : BitVec 64) : BitVec 64 :=
  List.foldl (fun (chk : BitVec 64) (i : BitVec 64) =>
      (if (((BitVec.sshiftRight b i.toNat) &&& 1#64) != 0#64) then
        (chk ^^^ (Gen.Bech32.var_gen.getD i.toNat 0#64)) else chk)) chk
    ((List.range Gen.Bech32.var_gen.length).map (BitVec.ofNat 64))

/-- the body of the outer loop, as generated -/
def step (chk : BitVec 64) (v : BitVec 8) : BitVec 64 :=
  let b : BitVec 64 := (BitVec.sshiftRight chk 25)
  let chk : BitVec 64 := (((chk &&& 33554431#64) <<< 5) ^^^ (BitVec.setWidth 64 v))
  inner b chk

theorem polymod_unfold (values : List (BitVec 8)) :
    Gen.Bech32.bech32Polymod values = values.foldl step 1#64 := rfl

theorem foldl_xor_factor (c : BitVec 64 → Bool) (g : BitVec 64 → BitVec 64) (l : List (BitVec 64))
    (chk : BitVec 64) :
    List.foldl (fun chk i => if c i then chk ^^^ g i else chk) chk l =
      chk ^^^ List.foldl (fun chk i => if c i then chk ^^^ g i else chk) 0#64 l := by
  induction l generalizing chk with
  | nil => simp
  | cons a l ih =>
    simp only [List.foldl_cons]
    rw [ih, ih (if c a then 0#64 ^^^ g a else 0#64)]
    split <;> simp [BitVec.xor_assoc]

theorem inner_factor (b chk : BitVec 64) : inner b chk = chk ^^^ inner b 0#64 := by
  unfold inner
  exact foldl_xor_factor (fun i => ((BitVec.sshiftRight b i.toNat) &&& 1#64) != 0#64)
    (fun i => Gen.Bech32.var_gen.getD i.toNat 0#64) _ chk

/-- the inner loop computes the `genMix` of the model, for every possible `b = chk >> 25` (`< 32`) -/
theorem inner_zero : ∀ n : Nat, n < 32 →
    inner (BitVec.ofNat 64 n) 0#64 = BitVec.ofNat 64 (Bech32.genMix n) := by decide +kernel

theorem genMix_lt : ∀ n : Nat, n < 32 → Bech32.genMix n < 2 ^ 30 := by decide +kernel

theorem and_mask_lt (c : Nat) : c &&& 33554431 < 2 ^ 25 := by
  have h : c &&& (2 ^ 25 - 1) = c % 2 ^ 25 := Nat.and_two_pow_sub_one_eq_mod c 25
  have h2 : c &&& 33554431 = c % 2 ^ 25 := h
  rw [h2]; exact Nat.mod_lt _ (by omega)

/-- one iteration: below 2^30 the translated step is the model step, and stays below 2^30 -/
theorem step_eq (c : BitVec 64) (v : UInt8) (hc : c.toNat < 2 ^ 30) :
    (step c v.toBitVec).toNat = Bech32.polymodStep c.toNat v ∧
    (step c v.toBitVec).toNat < 2 ^ 30 := by
  have hmsb : c.msb = false := by
    rw [BitVec.msb_eq_false_iff_two_mul_lt]; omega
  have hb : (BitVec.sshiftRight c 25) = BitVec.ofNat 64 (c.toNat >>> 25) := by
    rw [BitVec.sshiftRight_eq_of_msb_false hmsb]
    apply BitVec.eq_of_toNat_eq
    rw [BitVec.toNat_ushiftRight, BitVec.toNat_ofNat]
    have : c.toNat >>> 25 ≤ c.toNat := Nat.shiftRight_le _ _
    omega
  have hn : c.toNat >>> 25 < 32 := by
    rw [Nat.shiftRight_eq_div_pow]; omega
  have hg := genMix_lt _ hn
  have hm := and_mask_lt c.toNat
  have hsh : (c.toNat &&& 33554431) <<< 5 < 2 ^ 30 := by
    rw [Nat.shiftLeft_eq]; omega
  have hv : v.toNat < 2 ^ 30 := by have := v.toNat_lt; omega
  have hval : (step c v.toBitVec).toNat = Bech32.polymodStep c.toNat v := by
    unfold step Bech32.polymodStep
    simp only []
    rw [inner_factor, hb, inner_zero _ hn]
    simp only [BitVec.toNat_xor, BitVec.toNat_shiftLeft, BitVec.toNat_and, BitVec.toNat_setWidth,
      BitVec.toNat_ofNat, UInt8.toNat_toBitVec]
    have e1 : (c.toNat &&& 33554431 % 2 ^ 64) <<< 5 % 2 ^ 64 = (c.toNat &&& 0x1ffffff) <<< 5 := by
      have : (33554431 : Nat) % 2 ^ 64 = 33554431 := by decide
      rw [this]
      exact Nat.mod_eq_of_lt (by omega)
    have e2 : v.toNat % 2 ^ 64 = v.toNat := Nat.mod_eq_of_lt (by omega)
    have e3 : Bech32.genMix (c.toNat >>> 25) % 2 ^ 64 = Bech32.genMix (c.toNat >>> 25) :=
      Nat.mod_eq_of_lt (by omega)
    rw [e1, e2, e3]
  refine ⟨hval, ?_⟩
  rw [hval]
  unfold Bech32.polymodStep
  exact Nat.xor_lt_two_pow (Nat.xor_lt_two_pow hsh hv) hg

theorem foldl_step_eq (vs : List UInt8) (c : BitVec 64) (hc : c.toNat < 2 ^ 30) :
    ((bv vs).foldl step c).toNat = vs.foldl Bech32.polymodStep c.toNat ∧
    ((bv vs).foldl step c).toNat < 2 ^ 30 := by
  induction vs generalizing c with
  | nil => exact ⟨rfl, hc⟩
  | cons v vs ih =>
    have h := step_eq c v hc
    have := ih (step c v.toBitVec) h.2
    simp only [bv, List.map_cons, List.foldl_cons] at this ⊢
    rw [← h.1]
    exact this

/-- `bech32Polymod`, for arbitrary bytes: the translated code computes the model's `polymod` -/
theorem polymod_toNat (values : List UInt8) :
    (Gen.Bech32.bech32Polymod (bv values)).toNat = Bech32.polymod values := by
  rw [polymod_unfold]
  exact (foldl_step_eq values 1#64 (by decide)).1

/-- the loop invariant, for arbitrary bytes: no 64-bit wrap-around can occur -/
theorem polymod_lt (values : List UInt8) : (Gen.Bech32.bech32Polymod (bv values)).toNat < 2 ^ 30 := by
  rw [polymod_unfold]
  exact (foldl_step_eq values 1#64 (by decide)).2

theorem model_polymod_lt (values : List UInt8) : Bech32.polymod values < 2 ^ 30 := by
  rw [← polymod_toNat]; exact polymod_lt values

theorem polymod_eq (values : List UInt8) :
    Gen.Bech32.bech32Polymod (bv values) = BitVec.ofNat 64 (Bech32.polymod values) := by
  apply BitVec.eq_of_toNat_eq
  rw [polymod_toNat, BitVec.toNat_ofNat]
  have := model_polymod_lt values
  omega

/-- as a Go `int` the result is non-negative: the signed reading is the same number -/
theorem polymod_toInt (values : List UInt8) :
    (Gen.Bech32.bech32Polymod (bv values)).toInt = (Bech32.polymod values : Int) := by
  have h := polymod_lt values
  rw [BitVec.toInt_eq_toNat_of_lt (by omega), polymod_toNat]

/-! ### `bech32VerifyChecksum` -/

theorem verifyChecksum_eq (hrp data : List UInt8) :
    Gen.Bech32.bech32VerifyChecksum (bv hrp) (bv data) = Bech32.verifyChecksum hrp data := by
  unfold Gen.Bech32.bech32VerifyChecksum Bech32.verifyChecksum
  rw [hrpExpand_eq, ← bv_append, polymod_eq]
  have h := model_polymod_lt (Bech32.hrpExpand hrp ++ data)
  generalize Bech32.polymod (Bech32.hrpExpand hrp ++ data) = n at h
  rw [Go.beq_ofNat n 1 (by omega) (by decide)]
  rfl

/-! ### `bech32CreateChecksum` -/

/-- one output symbol: `byte((polymod >> k) & 31)` on a non-negative `int` below 2^63 -/
theorem field_eq (n k : Nat) (hn : n < 2 ^ 63) :
    BitVec.setWidth 8 ((BitVec.sshiftRight (BitVec.ofNat 64 n) k) &&& 31#64) =
      (UInt8.ofNat ((n >>> k) &&& 31)).toBitVec := by
  rw [BitVec.sshiftRight_eq_of_msb_false (Go.msb_ofNat_small n hn)]
  apply BitVec.eq_of_toNat_eq
  rw [BitVec.toNat_setWidth, BitVec.toNat_and, BitVec.toNat_ushiftRight, BitVec.toNat_ofNat,
    Nat.mod_eq_of_lt (by omega : n < 2 ^ 64)]
  show _ = ((n >>> k) &&& 31) % 2 ^ 8
  rfl

/-- the shift counts `5 * (5 - i)` of the loop, evaluated in 64-bit arithmetic: all non-negative -/
theorem shift_counts :
    ((List.range 6).map (BitVec.ofNat 64)).map (fun i => (5#64 * (5#64 - i)).toNat) =
      (List.range 6).map (fun i => 5 * (5 - i)) := by decide

theorem createChecksum_eq (hrp blocks : List UInt8) :
    Gen.Bech32.bech32CreateChecksum (bv hrp) (bv blocks) = bv (Bech32.createChecksum hrp blocks) := by
  unfold Gen.Bech32.bech32CreateChecksum Bech32.createChecksum
  have hz : ([0#8, 0#8, 0#8, 0#8, 0#8, 0#8] : List (BitVec 8)) = bv [0, 0, 0, 0, 0, 0] := rfl
  simp only []
  rw [hrpExpand_eq, hz, ← bv_append, ← bv_append, polymod_eq]
  have h := model_polymod_lt (Bech32.hrpExpand hrp ++ blocks ++ [0, 0, 0, 0, 0, 0])
  generalize Bech32.polymod (Bech32.hrpExpand hrp ++ blocks ++ [0, 0, 0, 0, 0, 0]) = n at h
  rw [← BitVec.ofNat_xor]
  have hm : n ^^^ 1 < 2 ^ 63 := by
    have : n ^^^ 1 < 2 ^ 30 := Nat.xor_lt_two_pow h (by omega)
    omega
  generalize n ^^^ 1 = m at hm
  have hr : ((List.range (List.replicate 6 (0#8 : BitVec 8)).length).map (BitVec.ofNat 64)) =
      [0#64, 1#64, 2#64, 3#64, 4#64, 5#64] := by decide
  rw [hr]
  simp only [List.foldl_cons, List.foldl_nil, field_eq _ _ hm]
  rfl

/-! ### the same statements for arbitrary inputs of the translated code -/

theorem hrpExpand_eq' (s : List (BitVec 8)) :
    (Gen.Bech32.bech32HrpExpand s).map UInt8.ofBitVec = Bech32.hrpExpand (s.map UInt8.ofBitVec) := by
  have := hrpExpand_eq (s.map UInt8.ofBitVec)
  rw [bv_ofBitVec] at this
  rw [this, ofBitVec_bv]

theorem polymod_toNat' (values : List (BitVec 8)) :
    (Gen.Bech32.bech32Polymod values).toNat = Bech32.polymod (values.map UInt8.ofBitVec) := by
  have := polymod_toNat (values.map UInt8.ofBitVec)
  rwa [bv_ofBitVec] at this

theorem createChecksum_eq' (hrp blocks : List (BitVec 8)) :
    (Gen.Bech32.bech32CreateChecksum hrp blocks).map UInt8.ofBitVec =
      Bech32.createChecksum (hrp.map UInt8.ofBitVec) (blocks.map UInt8.ofBitVec) := by
  have := createChecksum_eq (hrp.map UInt8.ofBitVec) (blocks.map UInt8.ofBitVec)
  rw [bv_ofBitVec, bv_ofBitVec] at this
  rw [this, ofBitVec_bv]

theorem verifyChecksum_eq' (hrp data : List (BitVec 8)) :
    Gen.Bech32.bech32VerifyChecksum hrp data =
      Bech32.verifyChecksum (hrp.map UInt8.ofBitVec) (data.map UInt8.ofBitVec) := by
  have := verifyChecksum_eq (hrp.map UInt8.ofBitVec) (data.map UInt8.ofBitVec)
  rwa [bv_ofBitVec, bv_ofBitVec] at this

end Iota.Tie.Bech32Code
