/-
Code tie for pkg/slip10/elliptic/internal/btccurve/secp256k1.go (byte-identical to pkg/slip10/btccurve/secp256k1.go:
`Tie/C17.copies_identical`), translated AS CODE by cmd/extract (loops_big.go) into
`Iota/Gen/Secp256k1Code.lean` (`Gen.Secp256k1Code.btccurve.*`; a `*big.Int` is an `Int`, `[]byte` is `List (BitVec 8)`,
`none` as a result = run-time panic), against the model `Iota/Model/Secp256k1.lean`.

The fields of the receiver are parameters of the generated functions; they are instantiated with the model's constants
`P`, `B`, `Gx`, `Gy` (`Tie/C17.constants` proves the hex literals of `init()` equal to these).  `ModInverse` is a
parameter too; `Externs` states what is assumed of it, `externs_inhabited` that the assumption can be met.

* `code_isOnCurve`, `code_zForAffine`, `code_doubleJacobian`, `code_addJacobian`: equal to the model for ALL integers
  (negative and unreduced ones included); the three Option-valued ones never panic (`*_never_panics`): the only panic
  they contain is `Mod` by a zero modulus, and `P ≠ 0`.
* `code_affineFromJacobian`, `code_add`, `code_double`, `code_scalarMult` (every byte list as the scalar): equal to the
  model INCLUDING the panic outcome: `none` exactly when the model has `none`, which is when `ModInverse` returns nil for
  a `z ≠ 0` and the nil is dereferenced (`Tie/C17.code_affineFromJacobian_panics_iff`; `ScalarBaseMult`, a call of
  `ScalarMult`, is `Tie/C17.code_scalarBaseMult`).
-/
import Iota.Gen.Secp256k1Code
import Iota.Model.Secp256k1
import Iota.Tie.GoFlow

namespace Iota.Tie.SecpCode
open Iota Iota.Go
open Iota.Gen.Secp256k1Code.btccurve
open Iota.Secp256k1 (P B Gx Gy)

theorem P_ne : Secp256k1.P ≠ 0 := by decide

theorem bigSign_eq_neg (x : Int) : (Go.bigSign x == BitVec.ofInt 64 (-1)) = decide (x < 0) := by
  rw [bigSign_eq]
  split
  · next h => exact (decide_eq_true h).symm
  · next h => rw [decide_eq_false h]; split <;> rfl

theorem bigCmp_eq_zero (x y : Int) : (Go.bigCmp x y == 0#64) = (x == y) := by
  rw [bigCmp_eq]
  split
  · exact (beq_eq_false_iff_ne.mpr (by omega)).symm
  · split
    · next h => exact (beq_iff_eq.mpr h).symm
    · next h => exact (beq_eq_false_iff_ne.mpr h).symm

theorem bigLsh_one (x : Int) : Go.bigLsh x 1 = x * 2 := by simp [Go.bigLsh]

theorem code_isOnCurve (x y : Int) :
    koblitzCurve_IsOnCurve P B x y = some (Secp256k1.isOnCurve x y) := by
  unfold koblitzCurve_IsOnCurve Secp256k1.isOnCurve
  simp [P_ne, bigCmp_eq_zero]

theorem code_isOnCurve_never_panics (x y : Int) : koblitzCurve_IsOnCurve P B x y ≠ none := by
  rw [code_isOnCurve]; simp

theorem code_zForAffine (x y : Int) : zForAffine x y = Secp256k1.zForAffine x y := by
  unfold zForAffine Secp256k1.zForAffine
  simp [bne, bigSign_eq_zero]

theorem code_doubleJacobian (x y z : Int) :
    koblitzCurve_doubleJacobian P x y z = some (Secp256k1.doubleJacobian x y z) := by
  unfold koblitzCurve_doubleJacobian Secp256k1.doubleJacobian
  simp [P_ne]

theorem code_doubleJacobian_never_panics (x y z : Int) : koblitzCurve_doubleJacobian P x y z ≠ none := by
  rw [code_doubleJacobian]; simp

theorem code_addJacobian (x1 y1 z1 x2 y2 z2 : Int) :
    koblitzCurve_addJacobian P x1 y1 z1 x2 y2 z2 = some (Secp256k1.addJacobian x1 y1 z1 x2 y2 z2) := by
  unfold koblitzCurve_addJacobian Secp256k1.addJacobian
  simp only [code_doubleJacobian, bigSign_eq_zero, bigSign_eq_neg, bigLsh_one]
  simp [P_ne, apply_ite Flow.result, apply_ite (@some (Int × Int × Int)), Go.call]

theorem code_addJacobian_never_panics (x1 y1 z1 x2 y2 z2 : Int) :
    koblitzCurve_addJacobian P x1 y1 z1 x2 y2 z2 ≠ none := by
  rw [code_addJacobian]; simp

/-- What the tie assumes of the parameter `big_ModInverse`, which stands for `new(big.Int).ModInverse(g, n)`: on the
modulus `P` (the only one the code passes) it is the model's `modInverse` — `some` of the inverse in `[0, P)` when `g` and
`P` are coprime, `none` (Go: a nil result) otherwise (`Proofs/Secp/ModInv.lean` proves that of `modInverse`). -/
structure Externs (inv : Int → Int → Option Int) : Prop where
  modInverse_P : ∀ g : Int, inv g Secp256k1.P = Secp256k1.modInverse g Secp256k1.P

/-- the assumptions are satisfiable: the model's `modInverse` itself -/
theorem externs_inhabited : Externs Secp256k1.modInverse := ⟨fun _ => rfl⟩

theorem code_affineFromJacobian {inv : Int → Int → Option Int} (E : Externs inv) (x y z : Int) :
    koblitzCurve_affineFromJacobian inv P x y z = Secp256k1.affineFromJacobian x y z := by
  unfold koblitzCurve_affineFromJacobian Secp256k1.affineFromJacobian
  simp only [bigSign_eq_zero, E.modInverse_P]
  by_cases hz : z = 0
  · simp [hz]
  · cases h : Secp256k1.modInverse z P <;> simp [hz, P_ne, Go.call, Int.mul_assoc]

/-- `return c.affineFromJacobian(…)`: the two results of the callee, or its panic -/
theorem call_return (o : Option (Int × Int)) :
    Flow.result ((Go.call o : Flow (Int × Int) (Int × Int)).bind fun st => Flow.done (st.1, st.2)) = o := by
  cases o <;> rfl

theorem code_add {inv : Int → Int → Option Int} (E : Externs inv) (x1 y1 x2 y2 : Int) :
    koblitzCurve_Add inv P x1 y1 x2 y2 = Secp256k1.add x1 y1 x2 y2 := by
  unfold koblitzCurve_Add Secp256k1.add
  simp only [code_zForAffine, code_addJacobian, code_affineFromJacobian E, Go.call, Flow.bind_run]
  exact call_return _

theorem code_double {inv : Int → Int → Option Int} (E : Externs inv) (x1 y1 : Int) :
    koblitzCurve_Double inv P x1 y1 = Secp256k1.double x1 y1 := by
  unfold koblitzCurve_Double Secp256k1.double
  simp only [code_zForAffine, code_doubleJacobian, code_affineFromJacobian E, Go.call, Flow.bind_run]
  exact call_return _

/-! ### ScalarMult: the nested loop -/

theorem scalarLoop_append (bx by_ bz : Int) (l₁ l₂ : List Bool) (acc : Int × Int × Int) :
    Secp256k1.scalarLoop bx by_ bz (l₁ ++ l₂) acc = Secp256k1.scalarLoop bx by_ bz l₂ (Secp256k1.scalarLoop bx by_ bz l₁ acc) := by
  induction l₁ generalizing acc with
  | nil => rfl
  | cons b l ih => obtain ⟨x, y, z⟩ := acc; simp only [List.cons_append, Secp256k1.scalarLoop, ih]

/-- one step of the model's double-and-add loop -/
def stepAcc (bx by_ bz : Int) (bit : Bool) (acc : Int × Int × Int) : Int × Int × Int :=
  let d := Secp256k1.doubleJacobian acc.1 acc.2.1 acc.2.2
  if bit then Secp256k1.addJacobian bx by_ bz d.1 d.2.1 d.2.2 else d

theorem scalarLoop_cons (bx by_ bz : Int) (bit : Bool) (bits : List Bool) (acc : Int × Int × Int) :
    Secp256k1.scalarLoop bx by_ bz (bit :: bits) acc = Secp256k1.scalarLoop bx by_ bz bits (stepAcc bx by_ bz bit acc) := by
  obtain ⟨x, y, z⟩ := acc; rfl

/-- one iteration of the inner loop on the state `(x, y, z, byte)` -/
def stepBit (bx by_ bz : Int) (s : Int × Int × Int × BitVec 8) : Int × Int × Int × BitVec 8 :=
  let a := stepAcc bx by_ bz ((s.2.2.2 &&& 128#8) == 128#8) (s.1, s.2.1, s.2.2.1)
  (a.1, a.2.1, a.2.2, s.2.2.2 <<< 1)

/-- the test `byte&0x80 == 0x80` of the inner loop reads the most significant bit of `byte` -/
theorem top_bit (b : BitVec 8) : ((b &&& 128#8) == 128#8) = b.getMsbD 0 := by
  rw [show 128#8 = BitVec.twoPow 8 7 from rfl, BitVec.and_twoPow, ← BitVec.msb, BitVec.msb_eq_getLsbD_last]
  cases b.getLsbD (8 - 1) <;> rfl

/-- testing the top bit and shifting left, once per element of `l`, reads the bits of `b` from the most significant on -/
theorem foldl_stepBit {α : Type} (bx by_ bz : Int) (l : List α) (x y z : Int) (b : BitVec 8) :
    l.foldl (fun s _ => stepBit bx by_ bz s) (x, y, z, b) =
      (let r := Secp256k1.scalarLoop bx by_ bz ((List.range l.length).map b.getMsbD) (x, y, z)
       (r.1, r.2.1, r.2.2, b <<< l.length)) := by
  induction l generalizing x y z b with
  | nil => simp [Secp256k1.scalarLoop]
  | cons a l ih =>
    have hs : (b <<< 1).getMsbD = fun m => b.getMsbD (m + 1) := funext fun _ => BitVec.getMsbD_shiftLeft b 1
    rw [List.foldl_cons]
    rw [show stepBit bx by_ bz (x, y, z, b) = (let a := stepAcc bx by_ bz ((b &&& 128#8) == 128#8) (x, y, z)
      (a.1, a.2.1, a.2.2, b <<< 1)) from rfl]
    rw [ih, hs, List.length_cons, map_range_succ, scalarLoop_cons, top_bit, ← BitVec.shiftLeft_add, Nat.add_comm]

/-- the model lists the bits of a byte most significant first -/
theorem bitsOfBytes_singleton (b : UInt8) : Secp256k1.bitsOfBytes [b] = (List.range 8).map b.toBitVec.getMsbD := by
  rw [Secp256k1.bitsOfBytes, List.flatMap_singleton]
  apply List.map_congr_left
  intro i hi
  rw [BitVec.getMsbD_eq_getLsbD, decide_eq_true (List.mem_range.mp hi), Bool.true_and, BitVec.getLsbD,
    Nat.testBit_eq_decide_div_mod_eq, ← Nat.shiftRight_eq_div_pow]
  rfl

/-- the inner loop, for any body that is `stepBit`: eight iterations consume the eight bits of the byte, most significant first -/
theorem inner_loop_of {ρ : Type} (bx by_ bz : Int)
    (F : Int × Int × Int × BitVec 8 → BitVec 64 → Flow ρ (Int × Int × Int × BitVec 8))
    (hF : ∀ s a, F s a = Flow.run (stepBit bx by_ bz s)) (x y z : Int) (b : UInt8) :
    Go.forIn (Go.forUp true false 0#64 8#64 1) (x, y, z, b.toBitVec) F =
      Flow.run (let r := Secp256k1.scalarLoop bx by_ bz (Secp256k1.bitsOfBytes [b]) (x, y, z)
        (r.1, r.2.1, r.2.2, b.toBitVec <<< 8)) := by
  rw [forIn_eq_foldl _ _ _ (fun s _ => stepBit bx by_ bz s) (fun s a _ => hF s a), foldl_stepBit, bitsOfBytes_singleton,
    forUp_range 8 (by decide), List.length_map, List.length_range]

theorem inner_loop (bx by_ bz : Int) (x y z : Int) (b : UInt8) :
    Go.forIn (Go.forUp true false 0#64 8#64 1) (x, y, z, b.toBitVec)
      (fun (st_5 : Int × Int × Int × BitVec 8) (_ : BitVec 64) =>
        (Flow.run (stepBit bx by_ bz st_5) : Flow (Int × Int) (Int × Int × Int × BitVec 8))) =
    Flow.run ((Secp256k1.scalarLoop bx by_ bz (Secp256k1.bitsOfBytes [b]) (x, y, z)).1,
       (Secp256k1.scalarLoop bx by_ bz (Secp256k1.bitsOfBytes [b]) (x, y, z)).2.1,
       (Secp256k1.scalarLoop bx by_ bz (Secp256k1.bitsOfBytes [b]) (x, y, z)).2.2, b.toBitVec <<< 8) :=
  inner_loop_of bx by_ bz _ (fun _ _ => rfl) x y z b

theorem bitsOfBytes_cons (b : UInt8) (k : List UInt8) :
    Secp256k1.bitsOfBytes (b :: k) = Secp256k1.bitsOfBytes [b] ++ Secp256k1.bitsOfBytes k := by
  simp [Secp256k1.bitsOfBytes]

/-- the outer loop: a body that consumes the bits of one byte, iterated over the bytes -/
theorem outer_loop {ρ : Type} (bx by_ bz : Int) (F : Int × Int × Int → BitVec 8 → Flow ρ (Int × Int × Int))
    (hF : ∀ (x y z : Int) (b : UInt8), F (x, y, z) b.toBitVec =
      Flow.run (Secp256k1.scalarLoop bx by_ bz (Secp256k1.bitsOfBytes [b]) (x, y, z)))
    (k : List UInt8) (acc : Int × Int × Int) :
    Go.forIn (k.map UInt8.toBitVec) acc F = Flow.run (Secp256k1.scalarLoop bx by_ bz (Secp256k1.bitsOfBytes k) acc) := by
  induction k generalizing acc with
  | nil => simp [Secp256k1.bitsOfBytes, Secp256k1.scalarLoop]
  | cons b k ih =>
    obtain ⟨x, y, z⟩ := acc
    rw [List.map_cons, forIn_cons, hF, Flow.bind_run, ih, bitsOfBytes_cons b k, scalarLoop_append]

theorem bind_ite_run {ρ σ τ : Type} (c : Prop) [Decidable c] (a b : σ) (f : σ → Flow ρ τ) :
    (if c then (Flow.run a : Flow ρ σ) else Flow.run b).bind f = f (if c then a else b) := by
  split <;> rfl

theorem code_scalarMult {inv : Int → Int → Option Int} (E : Externs inv) (bx by_ : Int) (k : List UInt8) :
    koblitzCurve_ScalarMult inv P bx by_ (k.map UInt8.toBitVec) = Secp256k1.scalarMult bx by_ k := by
  unfold koblitzCurve_ScalarMult Secp256k1.scalarMult
  simp only [code_zForAffine]
  rw [outer_loop bx by_ (Secp256k1.zForAffine bx by_) _ ?hF]
  case hF =>
    intro x y z b
    dsimp only
    rw [inner_loop_of bx by_ (Secp256k1.zForAffine bx by_) _ ?h]
    case h =>
      intro s a
      simp only [code_doubleJacobian, code_addJacobian, Go.call, Flow.bind_run, bind_ite_run]
      unfold stepBit stepAcc
      split <;> rfl
    rw [Flow.bind_run]
  simp only [Flow.bind_run, code_affineFromJacobian E]
  exact call_return _

/-! ### panics: exactly where the model has `none` (a nil `ModInverse` result that is dereferenced) -/

theorem code_add_panics_iff {inv : Int → Int → Option Int} (E : Externs inv) (x1 y1 x2 y2 : Int) :
    koblitzCurve_Add inv P x1 y1 x2 y2 = none ↔ Secp256k1.add x1 y1 x2 y2 = none := by rw [code_add E]

theorem code_double_panics_iff {inv : Int → Int → Option Int} (E : Externs inv) (x1 y1 : Int) :
    koblitzCurve_Double inv P x1 y1 = none ↔ Secp256k1.double x1 y1 = none := by rw [code_double E]

theorem code_scalarMult_panics_iff {inv : Int → Int → Option Int} (E : Externs inv) (bx by_ : Int) (k : List UInt8) :
    koblitzCurve_ScalarMult inv P bx by_ (k.map UInt8.toBitVec) = none ↔ Secp256k1.scalarMult bx by_ k = none := by
  rw [code_scalarMult E]

end Iota.Tie.SecpCode
