/-
Code tie for pkg/bip32path: `parseUint31`, `ParsePath` and `Path.String`, translated AS CODE by cmd/extract into
`Iota/Gen/Bip32Path.lean` (`Gen.Bip32Path.code.*`; a string is `List (BitVec 8)`, `uint32` is `BitVec 32`, `error` is
`Option String`, `none` as a result = run-time panic), against the model of `Iota/Model/Bip32Path.lean`, for ALL inputs.

Two library functions are PARAMETERS of the generated code; what is ASSUMED about them is the structure `Externs`:
* `find_spec`: `keyReg.FindStringSubmatch` is the leftmost-first submatch function of `(\d+)([H']?)`, written out as the Lean
  function `findModel` (no ASCII digit: no match; otherwise the maximal run of digits that starts at the first digit, and
  the byte behind it when that is `H` or an apostrophe);
* `parseUint_digits`: `strconv.ParseUint(ds, 10, 31)` on a NON-EMPTY string of ASCII digits returns `(value, nil)` when the
  decimal value is below 2^31 and otherwise SOME error (any value, any name).  Nothing is assumed for other arguments:
  the generated code never passes any (`ParsePath_enc` is proved from these two facts alone).
`Externs.model` shows that the assumptions are satisfiable.

* `ParsePath_enc`: for every `E : Externs` and EVERY byte string `s` the generated `ParsePath` returns
  what the model's `parsePath` returns: `(path, nil)` with the same indices, or `(nil, err)`; `err` is
  `ErrInvalidPathFormat` when the first bad component fails the shape test `digit+ [H']?` and otherwise whatever error
  `strconv.ParseUint` reported for its digits (`pathErr`).  No bound on the length of `s` is needed: the loop index `i` is
  only used in the message of the error, which is not modelled.
* `ParsePath_never_panics_any`: the generated `ParsePath` does not panic for ANY two functions passed as parameters
  (the three index expressions `matches[0]`, `matches[1]`, `matches[2]` are each guarded by a test of `len(matches)`).
* `Path_String_eq`: `Path.String` is the model's `printPath`, for every list of 32-bit indices.
-/
import Iota.Gen.Bip32Path
import Iota.Props.C10
import Iota.Tie.BV

namespace Iota.Tie.Bip32PathCode
open Iota Iota.Go
open Iota.Bip32Path (Str chSlash chM chH chApos isDigit split splitAux trimPrefixM decValue parseKey mapKeys parsePath
  decDigits decDigitsAux printKey printPath)
open Iota.Tie.Bech32Code (bv bv_ofBitVec ofBitVec_bv bv_append bv_cons bv_length bv_drop bv_beq toBitVec_beq trimPrefix_bv)
open Iota.Gen.Bip32Path

/-! ### bytes -/

/-- bytes of the translated code as bytes of the model (the inverse of `bv`) -/
def un (l : List (BitVec 8)) : Str := l.map UInt8.ofBitVec

theorem bv_un (l : List (BitVec 8)) : bv (un l) = l := bv_ofBitVec l
theorem un_bv (l : Str) : un (bv l) = l := ofBitVec_bv l

@[simp] theorem bv_nil : bv [] = [] := rfl

/-! ### `strings.Split(s, "/")` and `strings.TrimPrefix(s, "m/")` -/

/-- **`strings.Split(s, "/")` as translated is the model's `split`.** -/
theorem splitByte_eq (s : Str) : Go.splitByte (bv s) 47#8 = (split s).map bv := by
  induction s with
  | nil => rfl
  | cons c cs ih =>
    rw [bv_cons, Go.splitByte, ih]
    unfold split
    simp only [splitAux]
    rw [show (47#8 : BitVec 8) = chSlash.toBitVec from rfl, toBitVec_beq, Bool.beq_eq_decide_eq]
    by_cases hc : c = chSlash
    · simp [hc]
    · simp [hc, bv_cons]

/-- **`strings.TrimPrefix(s, "m/")` as translated is the model's `trimPrefixM`.** -/
theorem trimPrefix_eq (s : Str) : Go.trimPrefix (bv s) [109#8, 47#8] = bv (trimPrefixM s) :=
  trimPrefix_bv s [chM, chSlash]

/-! ### `%d` -/

/-- `Go.decimalFuel` and the model's `decDigitsAux` produce the same digits, each with any fuel that suffices -/
theorem decimalFuel_eq : ∀ (f g n : Nat) (acc : List (BitVec 8)), 0 < f → 0 < g → n < 10 ^ f → n < 10 ^ g →
    Go.decimalFuel f n acc = bv (decDigitsAux g n) ++ acc
  | f + 1, g + 1, n, acc, _, _, hf, hg => by
    rw [Go.decimalFuel, decDigitsAux]
    by_cases h10 : n < 10
    · have hd : n / 10 = 0 := by omega
      have hm : n % 10 = n := by omega
      simp only [hd, hm, if_true, if_pos h10]
      rfl
    · have hd : ¬ n / 10 = 0 := by omega
      simp only [if_neg hd, if_neg h10]
      -- `10 ≤ n`, so `1 ≤ n / 10 < 10 ^ f`: there is fuel left
      rw [Nat.pow_succ] at hf hg
      rw [decimalFuel_eq f g (n / 10) _ (Nat.pos_of_ne_zero fun h => by subst h; omega)
        (Nat.pos_of_ne_zero fun h => by subst h; omega) (by omega) (by omega), bv_append, List.append_assoc]
      rfl

/-- **`%d` as translated (`Go.decimal`) prints the model's `decDigits`**, for every value below 10^10 (so for every
`uint32`); the model's printer has fuel for 10 digits. -/
theorem decimal_eq (n : Nat) (h : n < 10 ^ 10) : Go.decimal n = bv (decDigits n) := by
  have hn : n < 10 ^ (n + 1) := Nat.lt_trans (Nat.lt_pow_self (by omega : 1 < 10)) (Nat.pow_lt_pow_right (by omega) (by omega))
  unfold Go.decimal decDigits
  rw [decimalFuel_eq (n + 1) 10 n [] (by omega) (by omega) hn h, List.append_nil]

/-- the hypothesis cannot be dropped: the model's printer runs out of fuel at 10^10 -/
example : Go.decimal (10 ^ 10) ≠ bv (decDigits (10 ^ 10)) := by decide +kernel

/-! ### `Path.String` -/

theorem clear_hardened (i : Nat) (h : i < 2 ^ 32) :
    (BitVec.ofNat 32 i &&& ~~~2147483648#32).toNat = i % Bip32Path.hardened := by
  rw [show (~~~2147483648#32 : BitVec 32) = BitVec.ofNat 32 (2 ^ 31 - 1) from by decide, BitVec.toNat_and,
    BitVec.toNat_ofNat, BitVec.toNat_ofNat, Nat.mod_eq_of_lt h,
    Nat.mod_eq_of_lt (by omega : 2 ^ 31 - 1 < 2 ^ 32), Nat.and_two_pow_sub_one_eq_mod]
  rfl

theorem ule_hardened (i : Nat) (h : i < 2 ^ 32) :
    BitVec.ule 2147483648#32 (BitVec.ofNat 32 i) = decide (i ≥ Bip32Path.hardened) := by
  rw [BitVec.ule, BitVec.toNat_ofNat, BitVec.toNat_ofNat, Nat.mod_eq_of_lt h]
  rfl

theorem Path_String_loop (p : List Nat) (hp : ∀ i ∈ p, i < 2 ^ 32) (acc : Str) :
    List.foldl (fun (builder : List (BitVec 8)) (idx : BitVec 32) =>
      let builder : List (BitVec 8) := (builder ++ (([47#8] : List (BitVec 8)) ++ Go.decimal (idx &&& ~~~2147483648#32).toNat))
      (if (BitVec.ule 2147483648#32 idx) then (builder ++ [39#8]) else builder)) (bv acc) (p.map (BitVec.ofNat 32)) =
    bv (acc ++ p.flatMap printKey) := by
  induction p generalizing acc with
  | nil => simp
  | cons i p ih =>
    have hi : i < 2 ^ 32 := hp i (by simp)
    have hm : i % Bip32Path.hardened < 10 ^ 10 := by unfold Bip32Path.hardened; omega
    rw [List.map_cons, List.foldl_cons, List.flatMap_cons, ← List.append_assoc acc, ← ih (fun j hj => hp j (by simp [hj]))]
    congr 1
    simp only [clear_hardened i hi, ule_hardened i hi, decimal_eq _ hm]
    unfold printKey
    by_cases hh : i ≥ Bip32Path.hardened
    · simp [hh, bv_append, bv_cons]; exact ⟨rfl, rfl⟩
    · simp [hh, bv_append, bv_cons]; rfl

/-- **`Path.String` as translated prints the model's `printPath`**, for every list of 32-bit indices. -/
theorem Path_String_eq (p : List Nat) (hp : ∀ i ∈ p, i < 2 ^ 32) :
    code.Path_String (p.map (BitVec.ofNat 32)) = bv (printPath p) := by
  unfold code.Path_String printPath
  exact Path_String_loop p hp [chM]

/-! ### the two library functions that are parameters of the generated code -/

/-- the group `([H']?)` matched at the start of `r`: the first byte when it is `H` or an apostrophe, otherwise empty -/
def marker : Str → Str
  | [] => []
  | c :: _ => if c = chH ∨ c = chApos then [c] else []

/-- the match of `(\d+)([H']?)` at the start of a string `rest` that begins with a digit: the whole match, the group of
digits (the MAXIMAL run: `+` is greedy), the marker group (`?` is greedy: non-empty when possible) -/
def findAt (rest : Str) : List Str :=
  [rest.takeWhile isDigit ++ marker (rest.dropWhile isDigit), rest.takeWhile isDigit, marker (rest.dropWhile isDigit)]

/-- **what `regexp.MustCompile("(\d+)([H']?)").FindStringSubmatch(key)` returns**: the leftmost match, which starts at the
first ASCII digit of `key` (no digit: no match, the empty list) -/
def findModel : Str → List Str
  | [] => []
  | c :: cs => if isDigit c then findAt (c :: cs) else findModel cs

/-- `findModel` in the words of the regular expression: no digit, no match -/
theorem findModel_no_digit (key : Str) (h : ∀ c ∈ key, isDigit c = false) : findModel key = [] := by
  induction key with
  | nil => rfl
  | cons c cs ih =>
    rw [findModel, if_neg (by simp [h c (by simp)])]
    exact ih (fun d hd => h d (by simp [hd]))

/-- … and otherwise, with `pre` the bytes before the first digit, `ds` the maximal run of digits that starts there and
`rest` what follows: `[ds ++ mk, ds, mk]`, where `mk` is the first byte of `rest` when it is `H` / `'`, else empty -/
theorem findModel_digit (pre ds rest : Str) (hpre : ∀ c ∈ pre, isDigit c = false) (hne : ds ≠ [])
    (hds : ∀ d ∈ ds, isDigit d = true) (hrest : ∀ c, rest.head? = some c → isDigit c = false) :
    findModel (pre ++ (ds ++ rest)) = [ds ++ marker rest, ds, marker rest] := by
  induction pre with
  | nil =>
    obtain ⟨tw, dw⟩ := Proofs.Bip32Path.takeWhile_digits_append ds rest hds hrest
    cases ds with
    | nil => exact absurd rfl hne
    | cons d ds' =>
      rw [List.nil_append, List.cons_append, findModel, if_pos (hds d (by simp)), ← List.cons_append, findAt, tw, dw]
  | cons c cs ih =>
    rw [List.cons_append, findModel, if_neg (by simp [hpre c (by simp)])]
    exact ih (fun d hd => hpre d (by simp [hd]))

/-- **what is assumed about the two library functions** (both are facts about Go's `regexp` and `strconv`) -/
structure Externs where
  /-- `keyReg.FindStringSubmatch` -/
  findStringSubmatch : List (BitVec 8) → List (List (BitVec 8))
  /-- `strconv.ParseUint` (string, base, bitSize) -/
  parseUint : List (BitVec 8) → BitVec 64 → BitVec 64 → BitVec 64 × Option String
  /-- `FindStringSubmatch` is the leftmost-first submatch function of `(\d+)([H']?)` -/
  find_spec : ∀ key : Str, findStringSubmatch (bv key) = (findModel key).map bv
  /-- `ParseUint(ds, 10, 31)` on a non-empty string of ASCII digits: the decimal value and no error when it is below
  2^31, otherwise some value and some error -/
  parseUint_digits : ∀ ds : Str, ds ≠ [] → (∀ d ∈ ds, isDigit d = true) →
    if decValue ds < 2 ^ 31 then parseUint (bv ds) 10#64 31#64 = (BitVec.ofNat 64 (decValue ds), none)
    else ∃ x e, parseUint (bv ds) 10#64 31#64 = (x, some e)

/-- the model's functions satisfy the assumptions (base and bit size are ignored; a string that is empty or contains
a byte that is no digit is a syntax error, a value that does not fit 31 bits a range error with the largest value) -/
def Externs.model : Externs where
  findStringSubmatch l := (findModel (un l)).map bv
  parseUint l _ _ :=
    if (un l).isEmpty || !(un l).all isDigit then (0#64, some "ErrSyntax")
    else if decValue (un l) < 2 ^ 31 then (BitVec.ofNat 64 (decValue (un l)), none)
    else (2147483647#64, some "ErrRange")
  find_spec key := by rw [un_bv]
  parseUint_digits ds hne hd := by
    have h1 : ds.isEmpty = false := List.isEmpty_eq_false_iff.mpr hne
    have h2 : ds.all isDigit = true := List.all_eq_true.mpr hd
    simp only [un_bv, h1, h2, Bool.not_true, Bool.or_self, Bool.false_eq_true, if_false]
    split
    · rfl
    · exact ⟨_, _, rfl⟩

/-! ### `parseUint31` -/

/-- **`parseUint31` on a non-empty string of ASCII digits is the model's `parseUint31`**: the value (as a `uint32`, nothing
lost by the conversion) and no error, or 0 and the error `strconv.ParseUint` reported. -/
theorem parseUint31_eq (E : Externs) (ds : Str) (hne : ds ≠ []) (hd : ∀ d ∈ ds, isDigit d = true) :
    code.parseUint31 E.parseUint (bv ds) =
      match Bip32Path.parseUint31 ds with
      | some v => (BitVec.ofNat 32 v, none)
      | none => (0#32, some ((E.parseUint (bv ds) 10#64 31#64).2.getD "")) := by
  have h := E.parseUint_digits ds hne hd
  unfold code.parseUint31 Bip32Path.parseUint31
  by_cases hv : decValue ds < 2 ^ 31
  · rw [if_pos hv] at h ⊢
    simp only [h, Option.isSome_none, Bool.false_eq_true, if_false]
    rw [BitVec.setWidth_ofNat_of_le (by omega)]
  · rw [if_neg hv] at h ⊢
    obtain ⟨x, e, h⟩ := h
    simp only [h, Option.isSome_some, if_true, Option.getD_some]

/-! ### one component: the body of the loop of `ParsePath` -/

/-- the body of the loop of the generated `ParsePath` (its text; `ParsePath_unfold` holds by `rfl`) -/
def body (keyReg_FindStringSubmatch : List (BitVec 8) → List (List (BitVec 8)))
    (strconv_ParseUint : List (BitVec 8) → BitVec 64 → BitVec 64 → (BitVec 64 × Option String))
    (path : List (BitVec 32)) (rk_1 : BitVec 64 × List (BitVec 8)) :
    Flow (List (BitVec 32) × Option String) (List (BitVec 32)) :=
  let key : List (BitVec 8) := rk_1.2
  let matches_2 : List (List (BitVec 8)) := (keyReg_FindStringSubmatch key)
  if !((BitVec.slt (BitVec.ofNat 64 matches_2.length) 2#64) || (decide (0 < matches_2.length))) then Go.Flow.panic else
  if ((BitVec.slt (BitVec.ofNat 64 matches_2.length) 2#64) || ((matches_2.getD 0 ([] : List (BitVec 8))) != key)) then
    Go.Flow.done (([] : List (BitVec 32)), (some "ErrInvalidPathFormat"))
  else
  if !(decide (1 < matches_2.length)) then Go.Flow.panic else
  let st_2 : BitVec 32 × Option String := (code.parseUint31 strconv_ParseUint (matches_2.getD 1 ([] : List (BitVec 8))))
  let v : BitVec 32 := st_2.1
  let err : Option String := st_2.2
  if (err).isSome then
    Go.Flow.done (([] : List (BitVec 32)), (Go.errWrap err))
  else
  if !(!(BitVec.slt 2#64 (BitVec.ofNat 64 matches_2.length)) || (decide (2 < matches_2.length))) then Go.Flow.panic else
  let v : BitVec 32 := (if ((BitVec.slt 2#64 (BitVec.ofNat 64 matches_2.length)) && (BitVec.slt 0#64 (BitVec.ofNat 64 (matches_2.getD 2 ([] : List (BitVec 8))).length))) then (v ||| 2147483648#32) else v)
  let path : List (BitVec 32) := (path ++ [v])
  Go.Flow.run path

theorem ParsePath_unfold (find : List (BitVec 8) → List (List (BitVec 8)))
    (pu : List (BitVec 8) → BitVec 64 → BitVec 64 → (BitVec 64 × Option String)) (s : List (BitVec 8)) :
    code.ParsePath find pu s = Flow.result (
      if ((s == ([] : List (BitVec 8))) || (s == ([109#8] : List (BitVec 8)))) then
        Flow.done (([] : List (BitVec 32)), (none : Option String))
      else
        Flow.bind (Go.forIn (Go.indexed (Go.splitByte (Go.trimPrefix s [109#8, 47#8]) 47#8)) [] (body find pu))
          (fun path => Flow.done (path, (none : Option String)))) := rfl

/-- the shape test of a component: at least one digit, then nothing, `H` or an apostrophe -/
def shapeOK (key : Str) : Bool :=
  !(key.takeWhile isDigit).isEmpty && decide (marker (key.dropWhile isDigit) = key.dropWhile isDigit)

theorem marker_eq_self (r : Str) : marker r = r ↔ (r = [] ∨ r = [chH] ∨ r = [chApos]) := by
  cases r with
  | nil => simp [marker]
  | cons c t =>
    simp only [marker]
    by_cases hc : c = chH ∨ c = chApos
    · rw [if_pos hc]
      rcases hc with hc | hc <;> simp [hc]
    · rw [if_neg hc]
      simp only [not_or] at hc
      simp [hc.1, hc.2]

theorem shapeOK_iff (key : Str) : shapeOK key = true ↔ (key.takeWhile isDigit).isEmpty = false ∧
    (key.dropWhile isDigit = [] ∨ key.dropWhile isDigit = [chH] ∨ key.dropWhile isDigit = [chApos]) := by
  unfold shapeOK
  rw [Bool.and_eq_true, Bool.not_eq_true', decide_eq_true_eq, marker_eq_self]

theorem parseKey_of_not_shape (key : Str) (h : shapeOK key = false) : parseKey key = none := by
  unfold parseKey
  simp only []
  by_cases he : (key.takeWhile isDigit).isEmpty = true
  · rw [if_pos he]
  · rw [if_neg he]
    have hr := mt (fun hr => (shapeOK_iff key).mpr ⟨eq_false_of_ne_true he, hr⟩) (Bool.eq_false_iff.mp h)
    simp only [not_or] at hr
    rw [if_neg hr.1, if_neg (not_or.mpr hr.2)]

theorem parseKey_of_shape (key : Str) (h : shapeOK key = true) :
    parseKey key = (Bip32Path.parseUint31 (key.takeWhile isDigit)).map
      (· + if key.dropWhile isDigit = [] then 0 else Bip32Path.hardened) := by
  unfold parseKey
  obtain ⟨he, hr⟩ := (shapeOK_iff key).mp h
  simp only [he, Bool.false_eq_true, if_false]
  by_cases h0 : key.dropWhile isDigit = []
  · simp only [h0, if_true]
    cases Bip32Path.parseUint31 (key.takeWhile isDigit) <;> simp
  · rw [if_neg h0, if_pos (hr.resolve_left h0), if_neg h0]

/-- a match starts with a digit -/
theorem findModel_head (key : Str) :
    findModel key = [] ∨ ∃ d m0 m1 m2, findModel key = [d :: m0, m1, m2] ∧ isDigit d = true := by
  induction key with
  | nil => exact Or.inl rfl
  | cons c cs ih =>
    rw [findModel]
    split
    · rename_i hc
      exact Or.inr ⟨c, _, _, _, by rw [findAt, List.takeWhile_cons_of_pos hc, List.cons_append], hc⟩
    · exact ih

theorem findModel_of_shape (key : Str) (h : shapeOK key = true) :
    findModel key = [key, key.takeWhile isDigit, key.dropWhile isDigit] := by
  obtain ⟨he, hr⟩ := (shapeOK_iff key).mp h
  cases key with
  | nil => simp at he
  | cons c cs =>
    by_cases hc : isDigit c = true
    · rw [findModel, if_pos hc, findAt, (marker_eq_self _).mpr hr, List.takeWhile_append_dropWhile]
    · simp [hc] at he

theorem findModel_of_not_shape (key : Str) (h : shapeOK key = false) :
    findModel key = [] ∨ ∃ m0 m1 m2, findModel key = [m0, m1, m2] ∧ m0 ≠ key := by
  cases key with
  | nil => exact Or.inl rfl
  | cons c cs =>
    rw [findModel]
    by_cases hc : isDigit c = true
    · rw [if_pos hc]
      refine Or.inr ⟨_, _, _, rfl, ?_⟩
      have he : ((c :: cs).takeWhile isDigit).isEmpty = false := by simp [hc]
      intro heq
      have h2 := @List.takeWhile_append_dropWhile _ isDigit (c :: cs)
      exact Bool.eq_false_iff.mp h ((shapeOK_iff _).mpr
        ⟨he, (marker_eq_self _).mp (List.append_cancel_left (heq.trans h2.symm))⟩)
    · rw [if_neg hc]
      rcases findModel_head cs with h0 | ⟨d, m0, m1, m2, h0, hd⟩
      · exact Or.inl h0
      · exact Or.inr ⟨_, m1, m2, h0, fun heq => hc ((List.cons.inj heq).1 ▸ hd)⟩

theorem takeWhile_digits (key : Str) : ∀ d ∈ key.takeWhile isDigit, isDigit d = true := fun d hd =>
  List.all_eq_true.mp (@List.all_takeWhile _ isDigit key) d hd

theorem or_hardened (v : Nat) (h : v < 2 ^ 31) :
    BitVec.ofNat 32 v ||| 2147483648#32 = BitVec.ofNat 32 (v + Bip32Path.hardened) := by
  apply BitVec.eq_of_toNat_eq
  have := Nat.two_pow_add_eq_or_of_lt h 1
  rw [BitVec.toNat_or, BitVec.toNat_ofNat, BitVec.toNat_ofNat, BitVec.toNat_ofNat, Nat.mod_eq_of_lt (by omega : v < 2 ^ 32),
    Nat.or_comm]
  unfold Bip32Path.hardened
  simp only [Nat.mul_one] at this
  rw [Nat.mod_eq_of_lt (by omega : 2147483648 < 2 ^ 32), show (2147483648 : Nat) = 2 ^ 31 from rfl, ← this,
    Nat.mod_eq_of_lt (by omega), Nat.add_comm]

/-- the name of the error the generated `ParsePath` returns for a component the model rejects: `ErrInvalidPathFormat` when
the shape test fails, otherwise what `strconv.ParseUint` reported for its digits -/
def keyErr (E : Externs) (key : Str) : String :=
  if shapeOK key then (E.parseUint (bv (key.takeWhile isDigit)) 10#64 31#64).2.getD "" else "ErrInvalidPathFormat"

/-- **one iteration of the loop is the model's `parseKey`**: the index of the component is appended, or the function returns
an error; it does not panic. -/
theorem body_eq (E : Externs) (path : List (BitVec 32)) (i : BitVec 64) (key : Str) :
    body E.findStringSubmatch E.parseUint path (i, bv key) =
      match parseKey key with
      | some v => .run (path ++ [BitVec.ofNat 32 v])
      | none => .done ([], some (keyErr E key)) := by
  unfold body keyErr
  simp only [E.find_spec key]
  cases hs : shapeOK key with
  | false =>
    rw [parseKey_of_not_shape key hs]
    rcases findModel_of_not_shape key hs with h | ⟨m0, m1, m2, h, hne⟩
    · rw [h]; rfl
    · rw [h]
      simp [bne, bv_beq, hne]
  | true =>
    obtain ⟨he, hr⟩ := (shapeOK_iff key).mp hs
    rw [parseKey_of_shape key hs, findModel_of_shape key hs]
    have hpu := parseUint31_eq E _ (List.isEmpty_eq_false_iff.mp he) (takeWhile_digits key)
    have e3 : BitVec.slt (BitVec.ofNat 64 3) 2#64 = false := by decide
    have e4 : BitVec.slt 2#64 (BitVec.ofNat 64 3) = true := by decide
    have d0 : decide (0 < 3) = true := rfl
    have d1 : decide (1 < 3) = true := rfl
    have d2 : decide (2 < 3) = true := rfl
    simp only [List.map_cons, List.map_nil, List.length_cons, List.length_nil, Nat.zero_add, Nat.reduceAdd, e3, e4,
      Bool.false_or, d0, d1, d2, Bool.not_true, Bool.false_eq_true, if_false, List.getD_cons_zero,
      List.getD_cons_succ, bne_self_eq_false, Bool.true_and, hpu, bv_length]
    unfold Bip32Path.parseUint31
    by_cases hv : decValue (key.takeWhile isDigit) < 2 ^ 31
    · simp only [if_pos hv, Option.isSome_none, Bool.false_eq_true, if_false, Option.map_some]
      rcases hr with hr | hr | hr
      · simp [hr]
      · simp [hr, chH, or_hardened _ hv]
      · simp [hr, chApos, or_hardened _ hv]
    · simp only [if_neg hv, Option.isSome_some, if_true, Go.errWrap, Option.getD_some, Option.map_none]

/-! ### the loop over the components, and `ParsePath` -/

/-- the name of the error for a list of components the model rejects: that of the first rejected component -/
def pathErr (E : Externs) : List Str → String
  | [] => ""
  | k :: ks =>
    match parseKey k with
    | none => keyErr E k
    | some _ => pathErr E ks

theorem loop_eq (E : Externs) (ks : List Str) (k : Nat) (acc : List (BitVec 32)) :
    Go.forIn (Go.indexedFrom k (ks.map bv)) acc (body E.findStringSubmatch E.parseUint) =
      match mapKeys ks with
      | some vs => .run (acc ++ vs.map (BitVec.ofNat 32))
      | none => .done ([], some (pathErr E ks)) := by
  induction ks generalizing k acc with
  | nil => simp [Go.indexedFrom, mapKeys]
  | cons x xs ih =>
    rw [List.map_cons, Go.indexedFrom, forIn_cons, body_eq]
    simp only [mapKeys, pathErr]
    cases hx : parseKey x with
    | none => simp
    | some v =>
      simp only [Flow.bind_run, ih]
      cases mapKeys xs with
      | none => rfl
      | some vs => simp

theorem guard_eq (s : Str) :
    ((bv s == ([] : List (BitVec 8))) || (bv s == ([109#8] : List (BitVec 8)))) = decide (s = [] ∨ s = [chM]) := by
  rw [Bool.decide_or, ← bv_beq s [], ← bv_beq s [chM]]
  rfl

/-- **MAIN (as one equation): the generated `ParsePath` returns the model's outcome**, for every pair of library functions
with the assumed behaviour and EVERY byte string: it does not panic; where the model accepts it returns the same indices
and no error; where the model rejects it returns no indices and the error `pathErr`. -/
theorem ParsePath_enc (E : Externs) (s : Str) :
    code.ParsePath E.findStringSubmatch E.parseUint (bv s) =
      some (match parsePath s with
        | some p => (p.map (BitVec.ofNat 32), none)
        | none => ([], some (pathErr E (split (trimPrefixM s))))) := by
  rw [ParsePath_unfold, guard_eq]
  unfold parsePath
  by_cases h : s = [] ∨ s = [chM]
  · rw [if_pos h, if_pos (decide_eq_true h)]; rfl
  · rw [if_neg h, if_neg (by simpa using h), trimPrefix_eq, splitByte_eq]
    unfold Go.indexed
    rw [loop_eq]
    cases mapKeys (split (trimPrefixM s)) <;> simp

theorem ParsePath_of_some (E : Externs) {s : Str} {p : List Nat} (h : parsePath s = some p) :
    code.ParsePath E.findStringSubmatch E.parseUint (bv s) = some (p.map (BitVec.ofNat 32), none) := by
  rw [ParsePath_enc, h]

theorem ParsePath_of_none (E : Externs) {s : Str} (h : parsePath s = none) :
    code.ParsePath E.findStringSubmatch E.parseUint (bv s) = some ([], some (pathErr E (split (trimPrefixM s)))) := by
  rw [ParsePath_enc, h]

/-- `pathErr` is `keyErr` of the first component the model rejects … -/
theorem pathErr_eq (E : Externs) (ks : List Str) :
    pathErr E ks = match ks.find? (fun k => (parseKey k).isNone) with
      | some k => keyErr E k
      | none => "" := by
  induction ks with
  | nil => rfl
  | cons k ks ih =>
    rw [pathErr, List.find?_cons]
    cases parseKey k with
    | none => rfl
    | some v => simpa using ih

/-- … which is `ErrInvalidPathFormat` exactly when that component fails the shape test `digit+ [H']?` … -/
theorem keyErr_format (E : Externs) (key : Str) (h : shapeOK key = false) : keyErr E key = "ErrInvalidPathFormat" := by
  simp [keyErr, h]

/-- … and otherwise (digits whose value is 2^31 or more) the error `strconv.ParseUint` returned for the digits, which is
not nil. -/
theorem keyErr_range (E : Externs) (key : Str) (h : shapeOK key = true) (hk : parseKey key = none) :
    some (keyErr E key) = (E.parseUint (bv (key.takeWhile isDigit)) 10#64 31#64).2 := by
  rw [parseKey_of_shape key h, Option.map_eq_none_iff, Bip32Path.parseUint31] at hk
  have hpu := E.parseUint_digits _ (List.isEmpty_eq_false_iff.mp ((shapeOK_iff key).mp h).1) (takeWhile_digits key)
  by_cases hv : decValue (key.takeWhile isDigit) < 2 ^ 31
  · rw [if_pos hv] at hk; cases hk
  · rw [if_neg hv] at hpu
    obtain ⟨x, e, hpu⟩ := hpu
    rw [keyErr, if_pos h, hpu]
    rfl

/-! ### `ParsePath` never panics — whatever the two library functions do -/

/-- the tests of `len(matches)` in front of the three index expressions, for a list of ANY length `n`: from 3 on the
`decide`s hold, whatever `BitVec.ofNat 64 n` is -/
theorem len_guards (n : Nat) :
    ((BitVec.slt (BitVec.ofNat 64 n) 2#64) || decide (0 < n)) = true ∧
    (BitVec.slt (BitVec.ofNat 64 n) 2#64 = false → decide (1 < n) = true) ∧
    (!(BitVec.slt 2#64 (BitVec.ofNat 64 n)) || decide (2 < n)) = true := by
  match n with
  | 0 => decide
  | 1 => decide
  | 2 => decide
  | n + 3 => simp

/-- the three index expressions `matches[0]`, `matches[1]`, `matches[2]` are guarded by the tests of `len(matches)` that
precede them (short-circuit `||` / `&&`): no list `matches`, of whatever length, makes the body panic -/
theorem body_ne_panic (find : List (BitVec 8) → List (List (BitVec 8)))
    (pu : List (BitVec 8) → BitVec 64 → BitVec 64 → (BitVec 64 × Option String))
    (path : List (BitVec 32)) (rk : BitVec 64 × List (BitVec 8)) : body find pu path rk ≠ .panic := by
  unfold body
  simp only []
  generalize find rk.2 = ms
  obtain ⟨g1, g2, g3⟩ := len_guards ms.length
  rw [g1, g3]
  cases h2 : BitVec.slt (BitVec.ofNat 64 ms.length) 2#64 with
  | true => simp
  | false =>
    rw [g2 h2]
    simp only [Bool.not_true, Bool.false_or, Bool.false_eq_true, if_false]
    split
    · intro h; cases h
    · split <;> (intro h; cases h)

/-- **the generated `ParsePath` never panics, for ANY two functions in the place of `keyReg.FindStringSubmatch` and
`strconv.ParseUint` and any string** (nothing is assumed: the Go code tests `len(matches)` before every index expression). -/
theorem ParsePath_never_panics_any (find : List (BitVec 8) → List (List (BitVec 8)))
    (pu : List (BitVec 8) → BitVec 64 → BitVec 64 → (BitVec 64 × Option String)) (s : List (BitVec 8)) :
    code.ParsePath find pu s ≠ none := by
  rw [ParsePath_unfold]
  split
  · simp
  · cases hl : Go.forIn (Go.indexed (Go.splitByte (Go.trimPrefix s [109#8, 47#8]) 47#8)) [] (body find pu) with
    | run p => simp
    | done r => simp
    | panic => exact absurd hl (forIn_ne_panic _ _ _ (body_ne_panic find pu))

/-! ### the statements are not vacuous: the generated functions evaluated with `Externs.model` -/

-- "m/44'/0H/010" ↦ [44 + 2^31, 2^31, 10]
example : code.ParsePath Externs.model.findStringSubmatch Externs.model.parseUint
    (bv [109,47,52,52,39,47,48,72,47,48,49,48]) = some ([2147483692#32, 2147483648#32, 10#32], none) := by decide +kernel
-- "m/2147483648" (2^31): the range error of ParseUint; "2147483647" is accepted without the prefix
example : code.ParsePath Externs.model.findStringSubmatch Externs.model.parseUint
    (bv [109,47,50,49,52,55,52,56,51,54,52,56]) = some ([], some "ErrRange") := by decide +kernel
example : code.ParsePath Externs.model.findStringSubmatch Externs.model.parseUint
    (bv [50,49,52,55,52,56,51,54,52,55]) = some ([2147483647#32], none) := by decide +kernel
-- "m/", "m//0", "m/0x1", "m/1HH", "m/a1": ErrInvalidPathFormat
example : code.ParsePath Externs.model.findStringSubmatch Externs.model.parseUint (bv [109,47]) =
    some ([], some "ErrInvalidPathFormat") := by decide +kernel
example : code.ParsePath Externs.model.findStringSubmatch Externs.model.parseUint (bv [109,47,47,48]) =
    some ([], some "ErrInvalidPathFormat") := by decide +kernel
example : code.ParsePath Externs.model.findStringSubmatch Externs.model.parseUint (bv [109,47,48,120,49]) =
    some ([], some "ErrInvalidPathFormat") := by decide +kernel
example : code.ParsePath Externs.model.findStringSubmatch Externs.model.parseUint (bv [109,47,49,72,72]) =
    some ([], some "ErrInvalidPathFormat") := by decide +kernel
example : code.ParsePath Externs.model.findStringSubmatch Externs.model.parseUint (bv [109,47,97,49]) =
    some ([], some "ErrInvalidPathFormat") := by decide +kernel
-- "" and "m": the empty path
example : code.ParsePath Externs.model.findStringSubmatch Externs.model.parseUint (bv []) = some ([], none) := by
  decide +kernel
example : code.ParsePath Externs.model.findStringSubmatch Externs.model.parseUint (bv [109]) = some ([], none) := by
  decide +kernel
-- the submatches of "a12H'" are ["12H", "12", "H"]
example : Externs.model.findStringSubmatch (bv [97,49,50,72,39]) = [bv [49,50,72], bv [49,50], bv [72]] := by
  decide +kernel
-- printing [44 + 2^31, 0, 2^32 - 1] gives "m/44'/0/2147483647'"
example : code.Path_String [2147483692#32, 0#32, 4294967295#32] =
    bv [109,47,52,52,39,47,48,47,50,49,52,55,52,56,51,54,52,55,39] := by decide +kernel

/-! With functions that do NOT behave like the library the generated `ParsePath` still does not panic
(`ParsePath_never_panics_any`), it just returns something else: `find_spec` is needed for the result, not for safety.
"m/7" with a `FindStringSubmatch` that returns one string, two strings, four strings: -/
example : code.ParsePath (fun _ => [[]]) (fun _ _ _ => (7#64, none)) (bv [109,47,55]) =
    some ([], some "ErrInvalidPathFormat") := by decide +kernel
example : code.ParsePath (fun k => [k, k]) (fun _ _ _ => (7#64, none)) (bv [109,47,55]) = some ([7#32], none) := by
  decide +kernel
example : code.ParsePath (fun k => [k, k, k, k]) (fun _ _ _ => (7#64, none)) (bv [109,47,55]) =
    some ([2147483655#32], none) := by decide +kernel
/-- a `ParseUint` that returns a nil error for everything: "m/99999999999" is then accepted, truncated to 32 bits — the
second assumption is needed as well -/
example : code.ParsePath Externs.model.findStringSubmatch (fun _ _ _ => (99999999999#64, none))
    (bv [109,47,57,57,57,57,57,57,57,57,57,57,57]) = some ([1215752191#32], none) := by decide +kernel

end Iota.Tie.Bip32PathCode
