/-
Code tie for the lane functions of pkg/curl (curl.go): `bool2int`, `sBox`, `Curl.in`, `Curl.out`, `Curl.Reset`,
`Curl.CopyState`, translated AS CODE by cmd/extract into `Iota/Gen/Curl.lean` (namespace `Gen.Curl.code`;
`none` = run-time panic), against the model of `Iota/Model/Curl.lean`.  `Reset` and `CopyState` are concluded in
`Iota/Tie/Curl.lean` (`code_reset`, `code_copyState`).  The trit of a lane (`laneInt8`) is also what pkg/pow/v2
`stateToInt` extracts (`Iota/Tie/Pow.lean`).
-/
import Iota.Gen.Curl
import Iota.Model.Curl
import Iota.Tie.GoFlow

namespace Iota.Tie.CurlCodeLanes
open Iota Iota.Go

/-! ### loops that write `a[i]` for `i = 0 … n-1` -/

theorem foldl_pair {α β γ : Type} (f : α → γ → α) (g : β → γ → β) (l : List γ) (a : α) (b : β) :
    l.foldl (fun (st : α × β) i => (f st.1 i, g st.2 i)) (a, b) = (l.foldl f a, l.foldl g b) := by
  induction l generalizing a b with
  | nil => rfl
  | cons x l ih => simp only [List.foldl_cons, ih]

/-- the assignment `a[k] = g(k, a[k])` -/
def upd {α : Type} (d : α) (g : Nat → α → α) (acc : List α) (k : Nat) : List α := acc.set k (g k (acc.getD k d))

/-- `for i := 0; i < n; i++ { a[i] = g(i, a[i]) }` (n ≤ len a): the entries below `n` are updated, the others unchanged -/
theorem foldl_set_getD {α : Type} (d : α) (g : Nat → α → α) (xs : List α) :
    ∀ n, n ≤ xs.length →
      (List.range n).foldl (upd d g) xs =
        (List.range xs.length).map (fun i => if i < n then g i (xs.getD i d) else xs.getD i d) := by
  intro n
  induction n with
  | zero =>
    intro _
    simp only [Nat.not_lt_zero, if_false]
    exact ((range_map_getD xs d id).trans (List.map_id xs)).symm
  | succ n ih =>
    intro hn
    rw [List.range_succ, List.foldl_append, ih (by omega)]
    simp only [List.foldl_cons, List.foldl_nil, upd]
    apply List.ext_getElem
    · rw [List.length_set, List.length_map, List.length_map]
    · intro i h1 h2
      have hi : i < xs.length := by simpa only [List.length_map, List.length_range] using h2
      simp only [List.getElem_set, List.getElem_map, List.getElem_range]
      by_cases hin : n = i
      · subst hin
        simp [List.getD_eq_getElem?_getD, hi]
      · rw [if_neg hin]
        have : (i < n + 1) = (i < n) := by
          apply propext; omega
        simp only [this]

/-! ### `bool2int` -/

theorem bool2int_eq (b : Bool) : Gen.Curl.code.bool2int b = Curl.bool2int b := by
  cases b <;> rfl

theorem lane_toNat (idx : BitVec 64) : (idx &&& 63#64).toNat = idx.toNat % 64 := by
  rw [BitVec.toNat_and]
  exact Nat.and_two_pow_sub_one_eq_mod idx.toNat 6

/-! ### `Curl.in` -/

abbrev P2 := List (BitVec 64) × List (BitVec 64)

/-- one plane after the loop of `in` -/
theorem in_plane (p : Curl.Plane) (src : List (BitVec 8)) (m : BitVec 64)
    (cmp : BitVec 8 → Bool) (cmpI : Int → Bool) (hc : ∀ s, cmp s = cmpI s.toInt) :
    (List.range 243).foldl (upd 0#64 (fun k x => x &&&
        (Curl.bool2int (cmp ((src.take 243).getD k 0#8)) ||| m))) p.toList =
      (Vector.ofFn fun (i : Fin 729) =>
        if i.val < 243 then p[i.val]'i.isLt &&& (Curl.bool2int (cmpI ((src.map (·.toInt)).getD i.val 0)) ||| m)
        else p[i.val]'i.isLt).toList := by
  rw [foldl_set_getD 0#64 _ p.toList 243 (by rw [Vector.length_toList]; decide), Vector.length_toList]
  apply List.ext_getElem
  · rw [List.length_map, List.length_range, Vector.length_toList]
  · intro i h1 h2
    have hi : i < 729 := by simpa only [List.length_map, List.length_range] using h1
    simp only [List.getElem_map, List.getElem_range, Vector.getElem_toList, Vector.getElem_ofFn, getD_toList p i hi]
    by_cases h : i < 243
    · rw [if_pos h, if_pos h, hc, List.getD_eq_getElem?_getD, List.getElem?_take_of_lt h, ← List.getD_eq_getElem?_getD,
        ← getD_map BitVec.toInt src i 0#8]
      rfl
    · rw [if_neg h, if_neg h]

/-- `c.in(src, idx)`: panics exactly when src has fewer than 243 trits; otherwise the two planes are the model's `inLane`
(lane number idx mod 64; trits read as signed bytes) -/
theorem in_eq (l h : Curl.Plane) (src : List (BitVec 8)) (idx : BitVec 64) :
    Gen.Curl.code.Curl_in l.toList h.toList src idx =
      if 243 ≤ src.length then
        some ((Curl.inLane l h (src.map (·.toInt)) (idx.toNat % 64)).1.toList,
              (Curl.inLane l h (src.map (·.toInt)) (idx.toNat % 64)).2.toList)
      else none := by
  unfold Gen.Curl.code.Curl_in
  by_cases hs : 243 ≤ src.length
  · have hlen : (src.take 243).length = 243 := by rw [List.length_take]; omega
    simp only [hs, decide_true, Bool.not_true, Bool.false_eq_true, if_false, if_true]
    rw [forUp_range 243 (by decide), Go.forIn_map,
      forIn_eq_foldl _ _ _ (fun st k =>
        (upd 0#64 (fun k x => x &&& (Curl.bool2int (BitVec.sle ((src.take 243).getD k 0#8) 0#8) |||
            ~~~(1#64 <<< (idx &&& 63#64).toNat))) st.1 k,
         upd 0#64 (fun k x => x &&& (Curl.bool2int (BitVec.sle 0#8 ((src.take 243).getD k 0#8)) |||
            ~~~(1#64 <<< (idx &&& 63#64).toNat))) st.2 k)) ?_,
      Flow.bind_run, Flow.result_done, foldl_pair,
      in_plane l src _ (fun s => BitVec.sle s 0#8) (fun x => decide (x ≤ 0)) (fun s => by simp [BitVec.sle]),
      in_plane h src _ (fun s => BitVec.sle 0#8 s) (fun x => decide (x ≥ 0)) (fun s => by simp [BitVec.sle]),
      lane_toNat]
    · simp only [Curl.inLane]
      rfl
    · intro st k hk
      have hk' := List.mem_range.mp hk
      simp only [upd, hlen, Go.inRangeS_ofNat k _ (by omega), toNat_ofNat_lt k (by omega), decide_eq_true hk',
        decide_eq_true (show k < 729 by omega), Bool.not_true, Bool.false_eq_true, if_false, bool2int_eq]
  · rw [if_neg hs]
    simp [hs]

/-! ### the trit of a lane -/

/-- bit `n` of a word as an `int8`: `int8((w >> n) & 1)` -/
theorem bit_int8 (w : BitVec 64) (n : Nat) :
    BitVec.setWidth 8 ((w >>> n) &&& 1#64) = if w.getLsbD n then 1#8 else 0#8 := by
  apply BitVec.eq_of_getLsbD_eq
  intro i hi
  rw [BitVec.getLsbD_setWidth, BitVec.getLsbD_and, BitVec.getLsbD_ushiftRight, BitVec.getLsbD_one]
  by_cases h0 : i = 0
  · subst h0
    cases hw : w.getLsbD n <;> simp
  · cases hw : w.getLsbD n <;> simp [h0, BitVec.getLsbD_one]

/-- trit `k` of lane `n` of the planes `l`, `h`, as the code computes it: `int8((h[k] >> n) & 1) - int8((l[k] >> n) & 1)` -/
def laneInt8 (l h : List (BitVec 64)) (n k : Nat) : BitVec 8 :=
  BitVec.setWidth 8 (((h.getD k 0#64) >>> n) &&& 1#64) - BitVec.setWidth 8 (((l.getD k 0#64) >>> n) &&& 1#64)

/-- it is a balanced trit, the difference of the two bits -/
theorem laneInt8_spec (l h : List (BitVec 64)) (n k : Nat) :
    (laneInt8 l h n k = BitVec.ofInt 8 (-1) ∨ laneInt8 l h n k = 0#8 ∨ laneInt8 l h n k = 1#8) ∧
    (laneInt8 l h n k).toInt =
      (if (h.getD k 0#64).getLsbD n then 1 else 0) - (if (l.getD k 0#64).getLsbD n then 1 else 0) := by
  rw [laneInt8, bit_int8, bit_int8]
  cases (h.getD k 0#64).getLsbD n <;> cases (l.getD k 0#64).getLsbD n <;> decide

theorem getD_toList_toArray {n : Nat} (v : Vector (BitVec 64) n) (i : Nat) : v.toList.getD i 0#64 = v.toArray.getD i 0 := by
  rw [List.getD_eq_getElem?_getD, Array.getD_eq_getD_getElem?]
  simp [Vector.toList]

/-! ### `Curl.out` -/

/-- the values are trits, so nothing is lost in the 8-bit representation -/
theorem outLane_trits (c : Curl.Curl) (k : Nat) :
    ∀ x ∈ Curl.outLane c k, (x = -1 ∨ x = 0 ∨ x = 1) ∧ (BitVec.ofInt 8 x).toInt = x := by
  intro x hx
  rw [Curl.outLane, List.mem_map] at hx
  obtain ⟨i, _, rfl⟩ := hx
  cases (c.h.toArray.getD i 0).getLsbD k <;> cases (c.l.toArray.getD i 0).getLsbD k <;> decide

/-- `c.out(dst, idx)`: panics exactly when dst has fewer than 243 entries; otherwise the first 243 entries become the
model's `outLane` of lane idx mod 64 and the rest of dst is untouched -/
theorem out_eq (c : Curl.Curl) (dst : List (BitVec 8)) (idx : BitVec 64) :
    Gen.Curl.code.Curl_out c.l.toList c.h.toList dst idx =
      if 243 ≤ dst.length then some ((Curl.outLane c (idx.toNat % 64)).map (BitVec.ofInt 8) ++ dst.drop 243) else none := by
  unfold Gen.Curl.code.Curl_out
  by_cases hs : 243 ≤ dst.length
  · have hlen : (dst.take 243).length = 243 := by rw [List.length_take]; omega
    simp only [hs, decide_true, Bool.not_true, Bool.false_eq_true, if_false, if_true]
    rw [forUp_range 243 (by decide), Go.forIn_map,
      (forIn_inv (fun s => s.length = 243) _ _ (upd 0#8 (fun k _ => laneInt8 c.l.toList c.h.toList (idx &&& 63#64).toNat k))
        ?_ _ hlen).1,
      Flow.bind_run, Flow.result_done, foldl_set_getD _ _ _ 243 (by omega), hlen, lane_toNat]
    · congr 2
      rw [Curl.outLane, List.map_map]
      apply List.map_congr_left
      intro k hk
      rw [if_pos (List.mem_range.mp hk), Function.comp, ← getD_toList_toArray, ← getD_toList_toArray,
        ← (laneInt8_spec ..).2, BitVec.ofInt_toInt]
    · intro s hs k hk
      have hk' := List.mem_range.mp hk
      simp only [laneInt8, upd, Go.inRangeS_ofNat k _ (by omega), toNat_ofNat_lt k (by omega), hs, List.length_set,
        decide_eq_true hk', decide_eq_true (show k < 729 by omega), Bool.not_true, Bool.false_eq_true, if_false, and_self]
  · rw [if_neg hs]
    simp [hs]

/-! ### `Reset`, and the reset of the rate in `Absorb` -/

/-- body of `for i := 0; i < n; i++ { c.l[i], c.h[i] = ^uint(0), ^uint(0) }`, as generated (`Reset`: `n = 729`, the block
loop of `Absorb`: `n = 243`) -/
def onesStep {ρ : Type} (st_1 : P2) (i : BitVec 64) : Flow ρ P2 :=
      let c_l : List (BitVec 64) := st_1.1
      let c_h : List (BitVec 64) := st_1.2
      let st_2 : BitVec 64 := 18446744073709551615#64
      let st_3 : BitVec 64 := 18446744073709551615#64
      if !(Go.inRangeS i 729) then Go.Flow.panic else
      let c_l : List (BitVec 64) := (c_l.set i.toNat st_2)
      if !(Go.inRangeS i 729) then Go.Flow.panic else
      let c_h : List (BitVec 64) := (c_h.set i.toNat st_3)
      Go.Flow.run (c_l, c_h)

theorem Curl_Reset_unfold (c_l c_h : List (BitVec 64)) (d : BitVec 64) :
    Gen.Curl.code.Curl_Reset c_l c_h d =
      Flow.result (Flow.bind (Go.forIn (Go.forUp true false 0#64 729#64 1) (c_l, c_h) onesStep)
        (fun st_1 => Flow.done (st_1.1, st_1.2, 0#64))) := rfl

theorem onesStep_run {ρ : Type} (st : P2) (k : Nat) (hk : k < 729) :
    onesStep (ρ := ρ) st (BitVec.ofNat 64 k) = .run (st.1.set k Curl.allOnes, st.2.set k Curl.allOnes) := by
  simp only [onesStep, Go.inRangeS_ofNat k _ (by omega), toNat_ofNat_lt k (by omega), decide_eq_true hk, Bool.not_true,
    Bool.false_eq_true, if_false]
  rfl

/-- the loop sets the first `n` words of both planes to all ones -/
theorem ones_loop {ρ : Type} (n : Nat) (hn : n ≤ 729) (l h : List (BitVec 64)) (hl : n ≤ l.length) (hh : n ≤ h.length) :
    forIn (forUp true false 0#64 (BitVec.ofNat 64 n) 1) (l, h) (onesStep (ρ := ρ)) =
      .run (List.replicate n Curl.allOnes ++ l.drop n, List.replicate n Curl.allOnes ++ h.drop n) := by
  rw [forUp_range n (by omega), Go.forIn_map,
    forIn_eq_foldl _ _ _ _ (fun st k hk => onesStep_run st k (Nat.lt_of_lt_of_le (List.mem_range.mp hk) hn)),
    foldl_pair (fun (m : List (BitVec 64)) i => m.set i Curl.allOnes) (fun (m : List (BitVec 64)) i => m.set i Curl.allOnes),
    foldl_set_range _ n l hl, foldl_set_range _ n h hh]

end Iota.Tie.CurlCodeLanes
