/-
Tie shared by C02 and C08: what `Iota/Gen/Slip10.lean` regenerates from pkg/slip10, pkg/slip10/elliptic, pkg/slip10/eddsa
(constants, the text of the derivation functions, the text of the remaining declarations) equals the expected values, by
`rfl` / `decide`.  `secp256k1_code`: the curve methods the derivation calls, generated from secp256k1.go
(`Iota/Gen/Secp256k1Code.lean`), equal the C17 model.  The code ties `code_newPrivateKey`, `code_privateShift`,
`code_publicShift`: the key functions of pkg/slip10/elliptic translated as code (`Iota/Gen/EllipticKeyCode.lean`) = the model.
-/
import Iota.Gen.Slip10
import Iota.Tie.Expect
import Iota.Model.Slip10
import Iota.Proofs.Vectors.Slip10
import Iota.Tie.C17
import Iota.Tie.EllipticKeyCode

namespace Iota.Tie.Slip10
open Iota

theorem constants :
    Gen.Slip10.hardened = (Slip10.hardened : Int) ∧ Gen.Slip10.fingerprintSize = 4 ∧
    Gen.Slip10.chainCodeSize = 32 ∧ Gen.Slip10.privateKeySize = 32 ∧ Gen.Slip10.publicKeySize = 33 := by decide

/-- the models follow exactly this code (incl. the HMAC keys "Bitcoin seed", "Nist256p1 seed",
"ed25519 seed", the retry predicates `errors.Is(err, ErrInvalidKey)` of both loops and the HardenedOnly check) -/
theorem src :
    Gen.Slip10.src_slip10_NewMasterKey = Expect.Slip10_src_slip10_NewMasterKey ∧
    Gen.Slip10.src_slip10_DeriveKeyFromPath = Expect.Slip10_src_slip10_DeriveKeyFromPath ∧
    Gen.Slip10.src_slip10_ExtendedKey_DeriveChild = Expect.Slip10_src_slip10_ExtendedKey_DeriveChild ∧
    Gen.Slip10.src_slip10_ExtendedKey_IsPrivate = Expect.Slip10_src_slip10_ExtendedKey_IsPrivate ∧
    Gen.Slip10.src_slip10_ExtendedKey_Public = Expect.Slip10_src_slip10_ExtendedKey_Public ∧
    Gen.Slip10.src_slip10_ExtendedKey_Fingerprint = Expect.Slip10_src_slip10_ExtendedKey_Fingerprint ∧
    Gen.Slip10.src_slip10_uint32Bytes = Expect.Slip10_src_slip10_uint32Bytes ∧
    Gen.Slip10.src_slip10_hmacSHA512 = Expect.Slip10_src_slip10_hmacSHA512 ∧
    Gen.Slip10.src_slip10_hash160 = Expect.Slip10_src_slip10_hash160 ∧
    Gen.Slip10.src_elliptic_secp256k1Curve_HmacKey = Expect.Slip10_src_elliptic_secp256k1Curve_HmacKey ∧
    Gen.Slip10.src_elliptic_nist256p1Curve_HmacKey = Expect.Slip10_src_elliptic_nist256p1Curve_HmacKey ∧
    Gen.Slip10.src_elliptic_PrivateKey_Bytes = Expect.Slip10_src_elliptic_PrivateKey_Bytes ∧
    Gen.Slip10.src_elliptic_PrivateKey_IsPrivate = Expect.Slip10_src_elliptic_PrivateKey_IsPrivate ∧
    Gen.Slip10.src_elliptic_PrivateKey_Public = Expect.Slip10_src_elliptic_PrivateKey_Public ∧
    Gen.Slip10.src_elliptic_PublicKey_Bytes = Expect.Slip10_src_elliptic_PublicKey_Bytes ∧
    Gen.Slip10.src_elliptic_PublicKey_IsPrivate = Expect.Slip10_src_elliptic_PublicKey_IsPrivate ∧
    Gen.Slip10.src_elliptic_PublicKey_Public = Expect.Slip10_src_elliptic_PublicKey_Public ∧
    Gen.Slip10.src_eddsa_ed25519Curve_NewPrivateKey = Expect.Slip10_src_eddsa_ed25519Curve_NewPrivateKey ∧
    Gen.Slip10.src_eddsa_ed25519Curve_HmacKey = Expect.Slip10_src_eddsa_ed25519Curve_HmacKey ∧
    Gen.Slip10.src_eddsa_Seed_Bytes = Expect.Slip10_src_eddsa_Seed_Bytes ∧
    Gen.Slip10.src_eddsa_Seed_IsPrivate = Expect.Slip10_src_eddsa_Seed_IsPrivate ∧
    Gen.Slip10.src_eddsa_Seed_Public = Expect.Slip10_src_eddsa_Seed_Public ∧
    Gen.Slip10.src_eddsa_Seed_HardenedOnly = Expect.Slip10_src_eddsa_Seed_HardenedOnly ∧
    Gen.Slip10.src_eddsa_Seed_Shift = Expect.Slip10_src_eddsa_Seed_Shift ∧
    Gen.Slip10.src_eddsa_PublicKey_Bytes = Expect.Slip10_src_eddsa_PublicKey_Bytes ∧
    Gen.Slip10.src_eddsa_PublicKey_IsPrivate = Expect.Slip10_src_eddsa_PublicKey_IsPrivate ∧
    Gen.Slip10.src_eddsa_PublicKey_Public = Expect.Slip10_src_eddsa_PublicKey_Public ∧
    Gen.Slip10.src_eddsa_PublicKey_HardenedOnly = Expect.Slip10_src_eddsa_PublicKey_HardenedOnly ∧
    Gen.Slip10.src_eddsa_PublicKey_Shift = Expect.Slip10_src_eddsa_PublicKey_Shift :=
  ⟨rfl, rfl, rfl, rfl, rfl, rfl, rfl, rfl, rfl, rfl, rfl, rfl, rfl, rfl, rfl, rfl, rfl, rfl, rfl, rfl, rfl, rfl, rfl, rfl, rfl, rfl, rfl, rfl, rfl⟩

/-- the normalized text of everything else the package declares (imports, constants, types, variables, build constraints and
the functions not held one by one) equals the expected one (`Iota/Tie/Expect.lean`): no declaration of the modelled packages
can change without a tie theorem failing. -/
theorem rest :
    Gen.Slip10.rest_slip10 = Expect.Slip10_rest_slip10 ∧
    Gen.Slip10.rest_elliptic = Expect.Slip10_rest_elliptic ∧
    Gen.Slip10.rest_eddsa = Expect.Slip10_rest_eddsa :=
  ⟨rfl, rfl, rfl⟩

/-- the secp256k1 curve the SLIP-10 derivations run on (`PublicKey.Shift` calls `ScalarBaseMult` and `Add`; C08's
unconditional statement for secp256k1 is about the C17 model): its constants are the regenerated ones, the exported copy
of the file is byte-identical, and the two entry points the derivation uses — regenerated as code from secp256k1.go on
every run — equal the C17 model for all inputs (`Tie/C17`, `Tie/SecpCode`). -/
theorem secp256k1_code {inv : Int → Int → Option Int} (E : Tie.SecpCode.Externs inv) :
    Gen.Secp256k1.copiesIdentical = true ∧
    (∀ x1 y1 x2 y2 : Int, Gen.Secp256k1Code.btccurve.koblitzCurve_Add inv Secp256k1.P x1 y1 x2 y2 = Secp256k1.add x1 y1 x2 y2) ∧
    (∀ k : List UInt8, Gen.Secp256k1Code.btccurve.koblitzCurve_ScalarBaseMult inv Secp256k1.P Secp256k1.Gx Secp256k1.Gy
        (k.map UInt8.toBitVec) = Secp256k1.scalarBaseMult k) :=
  ⟨Tie.C17.copies_identical, Tie.C17.code_add E, Tie.C17.code_scalarBaseMult E⟩

/-! ### pkg/slip10/elliptic — `Curve.NewPrivateKey`, `PrivateKey.Shift`, `PublicKey.Shift` — translated AS CODE = the model
(`Gen.EllipticKeyCode.key.*` in `Iota/Gen/EllipticKeyCode.lean`: receivers with `*big.Int` fields
and an `elliptic.Curve` field; `Params().N`, `ScalarBaseMult` and `Add` of that FOREIGN interface are parameters; the result
`slip10.Key` is `none` for nil, `some (0, [K])` for a new `*PrivateKey`, `some (1, [X, Y])` for a new `*PublicKey`).
`Externs w coords sbm add` says that the two curve methods compute the model curve's `baseMul` / `add` in the affine
coordinates `coords` and that the point at infinity is (0, 0).  The two `Shift` ties are proved in `Iota/Tie/EllipticKeyCode.lean`; for secp256k1 the
assumption is DISCHARGED with the generated curve code: `Iota/Tie/E2E/Slip10Secp.lean`.  The text of the three functions is not held. -/

open Iota.Tie.Bech32Code (bv)
open Iota.Tie.EllipticKeyCode (Externs encKey)
open Iota.Slip10 (Bytes WCurve WKey wCurve)

/-- **`NewPrivateKey` as code = the model: `ErrInvalidKey` exactly for the values 0 and ≥ N; cannot panic.** -/
theorem code_newPrivateKey {Pt : Type} (w : WCurve Pt) (hk : Bytes) (coords : Pt → Int × Int) (buf : Bytes) :
    Gen.EllipticKeyCode.key.Curve_NewPrivateKey (w.n : Int) (bv buf) = encKey coords ((wCurve w hk).newPrivateKey buf) := by
  unfold Gen.EllipticKeyCode.key.Curve_NewPrivateKey wCurve
  simp only [EllipticKeyCode.setBytes_bv, Go.bigSign_eq_zero, EllipticKeyCode.bigCmp_ge, Int.natCast_eq_zero,
    Int.ofNat_le, ← Bool.decide_or, decide_eq_true_eq, apply_ite (encKey coords)]
  rfl

/-- **`PrivateKey.Shift` as code = the model, for every scalar and every byte string; never panics (N > 0).** -/
theorem code_privateShift {Pt : Type} (w : WCurve Pt) (hk : Bytes) (coords : Pt → Int × Int) (hn : 0 < w.n) (k : Nat) (buf : Bytes) :
    Gen.EllipticKeyCode.key.PrivateKey_Shift (w.n : Int) (k : Int) (bv buf) =
      some (encKey coords ((wCurve w hk).shift (.priv k) buf)) :=
  EllipticKeyCode.code_privateShift w hk coords hn k buf

/-- **`PublicKey.Shift` as code = the model, for every point and every byte string; never panics.** -/
theorem code_publicShift {Pt : Type} (w : WCurve Pt) (hk : Bytes) (coords : Pt → Int × Int)
    {sbm : List (BitVec 8) → Option (Int × Int)} {add : Int → Int → Int → Int → Option (Int × Int)}
    (E : Externs w coords sbm add) (p : Pt) (buf : Bytes) :
    Gen.EllipticKeyCode.key.PublicKey_Shift add (w.n : Int) sbm (coords p).1 (coords p).2 (bv buf) =
      some (encKey coords ((wCurve w hk).shift (.pub p) buf)) :=
  EllipticKeyCode.code_publicShift w hk coords E p buf

end Iota.Tie.Slip10
