/-
Code tie for pkg/merkle: `largestPowerOfTwo`, `Hasher.hashNode`, `Hasher.hashLeaf`, `Hasher.EmptyRoot` and the recursive
`Hasher.Hash`, translated AS CODE by cmd/extract into `Iota/Gen/Merkle.lean` (`Gen.Merkle.code.*`; Go `int`/`uint` is
`BitVec 64`, `[]byte` is `List (BitVec 8)`, a leaf is the result `(bytes, error)` of its `MarshalBinary`, the hash function
is the parameter `hash_sum`, `none` = run-time panic or — for the recursive function — fuel exhausted), against the model of
`Iota/Model/Merkle.lean`, for all inputs.  Their text is not held as a snapshot: a rewrite that keeps the meaning re-proves, a changed
prefix, split point, order of the subtrees or error path breaks a theorem.
-/
import Iota.Gen.Merkle
import Iota.Proofs.Merkle
import Iota.Tie.BV

namespace Iota.Tie.MerkleCode
open Iota Iota.Go
open Iota.Tie.Bech32Code (bv bv_ofBitVec ofBitVec_bv Hof Hof_spec)
open Iota.Gen.Merkle

/-! ### `bits.Len` -/

/-- the search `Go.bitsLen64` performs: one more than the highest position below `n` at which `p` holds, 0 if there is none -/
def hiBit (p : Nat → Bool) (n : Nat) : Nat := (((List.range n).reverse.find? p).map (· + 1)).getD 0

theorem hiBit_succ (p : Nat → Bool) (n : Nat) : hiBit p (n + 1) = if p n then n + 1 else hiBit p n := by
  unfold hiBit
  rw [List.range_succ, List.reverse_append, List.reverse_singleton, List.singleton_append, List.find?_cons]
  cases p n <;> simp

theorem hiBit_testBit (n m : Nat) (h : m < 2 ^ n) : hiBit m.testBit n = Merkle.bitsLen m := by
  induction n with
  | zero =>
    have : m = 0 := by simpa using h
    subst this; rfl
  | succ n ih =>
    rw [hiBit_succ]
    by_cases hb : 2 ^ n ≤ m
    · have hdiv : m / 2 ^ n = 1 := Nat.div_eq_of_lt_le (by omega) (by rw [Nat.pow_succ] at h; omega)
      have ht : m.testBit n = true := by rw [Nat.testBit_eq_decide_div_mod_eq, hdiv]; rfl
      have hm : m ≠ 0 := by have := Nat.two_pow_pos n; omega
      rw [ht, if_pos rfl]
      unfold Merkle.bitsLen
      rw [if_neg hm, (Nat.log2_eq_iff hm).mpr ⟨hb, h⟩]
    · have ht : m.testBit n = false := Nat.testBit_lt_two_pow (by omega)
      rw [ht]
      exact ih (by omega)

/-- **`bits.Len` as translated (a search for the highest set bit) is `Merkle.bitsLen` (`log2 + 1`, 0 for 0), for every
64-bit value.** -/
theorem bitsLen64_eq' (x : BitVec 64) : Go.bitsLen64 x = BitVec.ofNat 64 (Merkle.bitsLen x.toNat) := by
  show BitVec.ofNat 64 (hiBit (fun i => x.toNat.testBit i) 64) = _
  rw [show (fun i => x.toNat.testBit i) = x.toNat.testBit from rfl, hiBit_testBit 64 x.toNat x.isLt]

theorem bitsLen_le (n m : Nat) (h : m < 2 ^ n) : Merkle.bitsLen m ≤ n := by
  unfold Merkle.bitsLen
  by_cases hm : m = 0
  · simp [hm]
  · rw [if_neg hm]
    exact (Nat.log2_lt hm).mpr h

theorem bitsLen64_eq (m : Nat) (h : m < 2 ^ 64) : (Go.bitsLen64 (BitVec.ofNat 64 m)).toNat = Merkle.bitsLen m := by
  rw [bitsLen64_eq', toNat_ofNat_lt m h, toNat_ofNat_lt]
  have := bitsLen_le 64 m h
  omega

/-! ### `largestPowerOfTwo` -/

/-- **`largestPowerOfTwo(n)` for an `int` `n ≥ 2` does not panic and returns the model's value
`1 << ((bits.Len(n-1) - 1) & 63)`** (which `Props.C15.split_point` shows is the power of two `k` with `k < n ≤ 2k`). -/
theorem largestPowerOfTwo_eq (n : Nat) (h2 : 2 ≤ n) (h63 : n < 2 ^ 63) :
    code.largestPowerOfTwo (BitVec.ofNat 64 n) = some (BitVec.ofNat 64 (Merkle.largestPowerOfTwo n)) := by
  unfold code.largestPowerOfTwo Merkle.largestPowerOfTwo
  have hsle : BitVec.sle (BitVec.ofNat 64 n) 1#64 = false := by
    rw [sle_ofNat n 1 h63 (by omega)]
    exact decide_eq_false (by omega)
  have hb1 : 1 ≤ Merkle.bitsLen (n - 1) := by
    unfold Merkle.bitsLen; rw [if_neg (by omega)]; omega
  have hb64 := bitsLen_le 64 (n - 1) (by omega)
  have hand : (Merkle.bitsLen (n - 1) - 1) &&& 63 ≤ 63 := Nat.and_le_right
  have hlog : (Go.bitsLen64 (BitVec.ofNat 64 n - 1#64) - 1#64) &&& 63#64
      = BitVec.ofNat 64 ((Merkle.bitsLen (n - 1) - 1) &&& 63) := by
    rw [BitVec.ofNat_sub_ofNat_of_le n 1 (by omega) (by omega), bitsLen64_eq', toNat_ofNat_lt (n - 1) (by omega),
      BitVec.ofNat_sub_ofNat_of_le _ 1 (by omega) hb1, BitVec.ofNat_and]
  have hnn := Go.nonneg_ofNat ((Merkle.bitsLen (n - 1) - 1) &&& 63) (by omega)
  simp only [hsle, hlog, hnn, toNat_ofNat_lt _ (show (Merkle.bitsLen (n - 1) - 1) &&& 63 < 2 ^ 64 by omega),
    Bool.false_eq_true, if_false, Bool.not_true, Flow.result]
  rfl

/-- **`largestPowerOfTwo(x)` panics exactly for the `int`s `x ≤ 1`** (the explicit `panic` of the Go function). -/
theorem largestPowerOfTwo_none_iff (x : BitVec 64) : code.largestPowerOfTwo x = none ↔ x.toInt ≤ 1 := by
  constructor
  · intro hn
    refine Decidable.by_contra fun hx => ?_
    have h63 : x.toNat < 2 ^ 63 := (toInt_nonneg_iff x).mp (by omega)
    have hnat : x.toInt = x.toNat := BitVec.toInt_eq_toNat_of_lt (by omega)
    have := largestPowerOfTwo_eq x.toNat (by omega) h63
    rw [BitVec.ofNat_toNat, BitVec.setWidth_eq, hn] at this
    cases this
  · intro h
    unfold code.largestPowerOfTwo
    have : BitVec.sle x 1#64 = true := by
      rw [BitVec.sle_eq_decide]; exact decide_eq_true h
    rw [this]; rfl

/-! ### the hash function, leaves and nodes

The model is parametrised by `H : Bytes → Bytes`, the translated code by `hash_sum : List (BitVec 8) → List (BitVec 8)`; they
are the same function when `hash_sum (bv x) = bv (H x)` for all `x` (hypothesis `hH` below).  That is no restriction on
`hash_sum`: `Bech32Code.Hof_spec`. -/

/-- bytes of the translated code as bytes of the model (the inverse of `bv`) -/
def un (l : List (BitVec 8)) : List UInt8 := l.map UInt8.ofBitVec

theorem bv_un (l : List (BitVec 8)) : bv (un l) = l := bv_ofBitVec l
theorem un_bv (l : List UInt8) : un (bv l) = l := ofBitVec_bv l

section
variable (hash_sum : List (BitVec 8) → List (BitVec 8)) (H : Merkle.Bytes → Merkle.Bytes)
  (hH : ∀ x, hash_sum (bv x) = bv (H x))
include hH

theorem EmptyRoot_eq : code.Hasher_EmptyRoot hash_sum = bv (H []) := hH []

/-- **`hashNode(l, r)` is `H(0x01 ‖ l ‖ r)`.** -/
theorem hashNode_eq (l r : Merkle.Bytes) :
    code.Hasher_hashNode hash_sum (bv l) (bv r) = bv (Merkle.hashNode H l r) := by
  unfold code.Hasher_hashNode Merkle.hashNode
  rw [← hH]
  simp [bv]

/-- **`hashLeaf` of a leaf that marshals to `b` is `H(0x00 ‖ b)` and no error; of a leaf whose `MarshalBinary` fails it
is that error (and an empty slice).** -/
theorem hashLeaf_eq (b : List (BitVec 8)) (err : Option String) :
    code.Hasher_hashLeaf hash_sum (b, err) =
      match err with
      | none => (bv (Merkle.hashLeaf H (un b)), none)
      | some e => ([], some e) := by
  unfold code.Hasher_hashLeaf Merkle.hashLeaf
  cases err with
  | some e => rfl
  | none =>
    simp only [Option.isSome_none, Bool.false_eq_true, if_false]
    rw [← hH, show bv (0 :: un b) = 0#8 :: bv (un b) from rfl, bv_un]
    rfl
end

/-! ### `Hasher.Hash`

A leaf of the translated code is the pair `(bytes, error)` its `MarshalBinary` returns; the model's leaf is
`Except String Bytes`.  The code never looks at the bytes when the error is not nil, so the theorem is stated for an ARBITRARY
list of pairs, decoded by `decLeaf`. -/

/-- what the model sees of a leaf `(bytes, error)` of the translated code -/
def decLeaf : List (BitVec 8) × Option String → Except String Merkle.Bytes
  | (b, none) => .ok (un b)
  | (_, some e) => .error e

/-- a result (or a leaf) of the model as the pair `(bytes, error)` of the translated code: `(digest, nil)` or `(nil, err)` -/
def enc : Except String Merkle.Bytes → List (BitVec 8) × Option String
  | .ok r => (bv r, none)
  | .error e => ([], some e)

theorem decLeaf_enc (x : Except String Merkle.Bytes) : decLeaf (enc x) = x := by
  cases x with
  | ok b => show Except.ok (un (bv b)) = _; rw [un_bv]
  | error e => rfl

section
variable (hash_sum : List (BitVec 8) → List (BitVec 8)) (H : Merkle.Bytes → Merkle.Bytes)
  (hH : ∀ x, hash_sum (bv x) = bv (H x))
include hH

/-- **MAIN: the translated `Hasher.Hash` computes exactly the model's `Merkle.hash`** — for every hash function, every
list of fewer than 2^63 leaves `(bytes, error)` and every fuel that is at least 1 and at least the number of leaves: it
does not panic (not in `largestPowerOfTwo`, not at a slice bound), and returns `(root, nil)` where the model returns the
root, `(nil, err)` where the model returns the first marshaling error. -/
theorem Hash_eq (fuel : Nat) (data : List (List (BitVec 8) × Option String)) (h63 : data.length < 2 ^ 63)
    (hf : data.length ≤ fuel) (hf0 : 0 < fuel) :
    code.Hasher_Hash hash_sum fuel data = some (enc (Merkle.hash H (data.map decLeaf))) := by
  induction hn : data.length using Nat.strongRecOn generalizing fuel data with
  | _ n ih =>
    obtain ⟨fuel, rfl⟩ : ∃ f, fuel = f + 1 := ⟨fuel - 1, by omega⟩
    rw [code.Hasher_Hash]
    by_cases h0 : n = 0
    · have : data = [] := List.length_eq_zero_iff.mp (by omega)
      subst this
      rw [List.map_nil, Proofs.Merkle.hash_nil]
      simp only [List.length_nil, beq_self_eq_true, if_true, Flow.result_done,
        EmptyRoot_eq hash_sum H hH]
      rfl
    by_cases h1 : n = 1
    · obtain ⟨⟨b, err⟩, rfl⟩ := List.length_eq_one_iff.mp (by omega : data.length = 1)
      rw [List.map_singleton, Proofs.Merkle.hash_single]
      have e0 : (BitVec.ofNat 64 1 == 0#64) = false := by decide
      have e1 : (BitVec.ofNat 64 1 == 1#64) = true := by decide
      simp only [List.length_singleton, e0, e1, Bool.false_eq_true, if_false, if_true, Nat.lt_one_iff,
        decide_true, Bool.not_true, List.getD_cons_zero, Flow.result_done, hashLeaf_eq hash_sum H hH]
      cases err <;> rfl
    have h2 : 2 ≤ n := by omega
    have e0 : (BitVec.ofNat 64 n == 0#64) = false :=
      (beq_ofNat n 0 (by omega) (by omega)).trans (decide_eq_false h0)
    have e1 : (BitVec.ofNat 64 n == 1#64) = false :=
      (beq_ofNat n 1 (by omega) (by omega)).trans (decide_eq_false h1)
    obtain ⟨hkpos, hklt⟩ := Merkle.lpo2_pos_lt n h2
    have hkn : (BitVec.ofNat 64 (Merkle.largestPowerOfTwo n)).toNat = Merkle.largestPowerOfTwo n :=
      toNat_ofNat_lt _ (by omega)
    have hsl : Go.sliceFromU (BitVec.ofNat 64 (Merkle.largestPowerOfTwo n)) n = true :=
      (Go.sliceFromU_ofNat _ _ (by omega)).trans (decide_eq_true (by omega))
    have hlt : (data.take (Merkle.largestPowerOfTwo n)).length = Merkle.largestPowerOfTwo n := by
      rw [List.length_take]; omega
    have hld : (data.drop (Merkle.largestPowerOfTwo n)).length = n - Merkle.largestPowerOfTwo n := by
      rw [List.length_drop, hn]
    have hl := ih _ hklt fuel (data.take (Merkle.largestPowerOfTwo n)) (by omega) (by omega) (by omega) hlt
    have hr := ih _ (by omega) fuel (data.drop (Merkle.largestPowerOfTwo n)) (by omega) (by omega) (by omega) hld
    rw [Proofs.Merkle.hash_split H _ (by rw [List.length_map]; omega), List.length_map, ← List.map_take,
      ← List.map_drop, hn, largestPowerOfTwo_eq n h2 (by omega)]
    simp only [e0, e1, Go.call, Flow.bind_run, hsl, hkn, Bool.not_true, Bool.false_eq_true, if_false, hl]
    cases hhl : Merkle.hash H (List.map decLeaf (List.take (Merkle.largestPowerOfTwo n) data)) with
    | error e => rfl
    | ok l =>
      simp only [enc, Option.isSome_none, Bool.false_eq_true, if_false, hr, Flow.bind_run]
      cases hhr : Merkle.hash H (List.map decLeaf (List.drop (Merkle.largestPowerOfTwo n) data)) with
      | error e => rfl
      | ok r =>
        simp only [Option.isSome_none, Bool.false_eq_true, if_false, Flow.result_done, hashNode_eq hash_sum H hH]

/-- the same for leaves given at the model level -/
theorem Hash_enc (fuel : Nat) (leaves : List (Except String Merkle.Bytes)) (h63 : leaves.length < 2 ^ 63)
    (hf : leaves.length ≤ fuel) (hf0 : 0 < fuel) :
    code.Hasher_Hash hash_sum fuel (leaves.map enc) = some (enc (Merkle.hash H leaves)) := by
  rw [Hash_eq hash_sum H hH fuel _ (by rwa [List.length_map]) (by rwa [List.length_map]) hf0, List.map_map]
  congr 3
  rw [show decLeaf ∘ enc = id from funext decLeaf_enc, List.map_id]
end

/-- without fuel the translated function reports `none`: `0 < fuel` is needed even for the empty list -/
theorem Hash_fuel_zero (hash_sum : List (BitVec 8) → List (BitVec 8)) (data : List (List (BitVec 8) × Option String)) :
    code.Hasher_Hash hash_sum 0 data = none := rfl

/-- **the fuel is irrelevant**: any two sufficient amounts give the same result -/
theorem Hash_fuel_irrelevant (hash_sum : List (BitVec 8) → List (BitVec 8)) (fuel fuel' : Nat)
    (data : List (List (BitVec 8) × Option String)) (h63 : data.length < 2 ^ 63)
    (hf : data.length ≤ fuel) (hf0 : 0 < fuel) (hf' : data.length ≤ fuel') (hf0' : 0 < fuel') :
    code.Hasher_Hash hash_sum fuel data = code.Hasher_Hash hash_sum fuel' data := by
  rw [Hash_eq hash_sum _ (Hof_spec hash_sum) fuel data h63 hf hf0, Hash_eq hash_sum _ (Hof_spec hash_sum) fuel' data h63 hf' hf0']

/-- `data.length < fuel` is a convenient sufficient amount -/
theorem Hash_eq_of_lt (hash_sum : List (BitVec 8) → List (BitVec 8)) (H : Merkle.Bytes → Merkle.Bytes)
    (hH : ∀ x, hash_sum (bv x) = bv (H x)) (fuel : Nat) (data : List (List (BitVec 8) × Option String))
    (h63 : data.length < 2 ^ 63) (hf : data.length < fuel) :
    code.Hasher_Hash hash_sum fuel data = some (enc (Merkle.hash H (data.map decLeaf))) :=
  Hash_eq hash_sum H hH fuel data h63 (by omega) (by omega)

/-! ### the statements are not vacuous: the translated function evaluated on small inputs

`toy` "hashes" a string to itself behind its length, so the result shows the tree: 3 leaves are split 2 | 1. -/

/-- a toy hash function: the input behind its length -/
def toy (l : List (BitVec 8)) : List (BitVec 8) := BitVec.ofNat 8 l.length :: l

example : code.Hasher_Hash toy 1 [] = some ([0x00#8], none) := by decide
example : code.Hasher_Hash toy 1 [([0xaa#8], none)] = some ([0x02#8, 0x00#8, 0xaa#8], none) := by decide
example : code.Hasher_Hash toy 3 [([0xaa#8], none), ([0xbb#8], none), ([0xcc#8], none)] =
    some ([0x0c#8, 0x01#8, 0x07#8, 0x01#8, 0x02#8, 0x00#8, 0xaa#8, 0x02#8, 0x00#8, 0xbb#8, 0x02#8, 0x00#8, 0xcc#8], none) := by
  decide
/-- the first error in index order, and no bytes -/
example : code.Hasher_Hash toy 3 [([0xaa#8], none), ([0xbb#8], some "E"), ([0xcc#8], some "F")] = some ([], some "E") := by
  decide
/-- the bytes of a leaf with an error are never looked at -/
example : code.Hasher_Hash toy 1 [([0xaa#8], some "E")] = code.Hasher_Hash toy 1 [([], some "E")] := by decide
/-- too little fuel is `none` (3 leaves need 3, 2 leaves need 2): the hypothesis on the fuel cannot be dropped -/
example : code.Hasher_Hash toy 2 [([0xaa#8], none), ([0xbb#8], none), ([0xcc#8], none)] = none := by decide
example : code.Hasher_Hash toy 1 [([0xaa#8], none), ([0xbb#8], none)] = none := by decide
example : code.Hasher_Hash toy 0 [] = none := by decide
example : code.largestPowerOfTwo 5#64 = some 4#64 := by decide
example : code.largestPowerOfTwo 8#64 = some 4#64 := by decide
example : code.largestPowerOfTwo 9#64 = some 8#64 := by decide
example : code.largestPowerOfTwo 1#64 = none := by decide
example : code.largestPowerOfTwo (BitVec.ofInt 64 (-3)) = none := by decide

end Iota.Tie.MerkleCode
