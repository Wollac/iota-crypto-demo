/-
Tie for C14: the facts regenerated from pkg/encoding/b1t6, b1t8 and iota.go/trinary (the group functions on all
arguments, the lookup tables, the b1t8 masks, the identity of iota.go's copy of b1t6) agree with the hand-written model
the theorems are about.  Then the re-exports `code_*` of the code ties: `Encode` / `Decode` of b1t8, the four `trinary`
functions, `Encode` / `EncodeToTrytes` / `Decode` / `DecodeTrytes` of b1t6 and the length functions, translated as code,
equal the model (proofs in `Iota/Tie/B1T8Code.lean` and `Iota/Tie/B1T6Code.lean`).
-/
import Iota.Gen.B1T6
import Iota.Tie.Expect
import Iota.Model.B1T6
import Iota.Tie.B1T8Code
import Iota.Tie.BV
import Iota.Tie.B1T6Code

namespace Iota.Tie.C14
open Iota

theorem encodeGroup_eq : ∀ n, n < 256 →
    ((Gen.B1T6.encodeGroup (BitVec.ofNat 8 n)).1.toInt, (Gen.B1T6.encodeGroup (BitVec.ofNat 8 n)).2.toInt)
      = B1T6.encodeGroup (UInt8.ofNat n) := by decide +kernel

/-- on all pairs of `int8` values: the model's `decodeGroup` on the integer values; `ok = false` comes with the byte 0 -/
theorem decodeGroup_all (t1 t2 : BitVec 8) :
    Gen.B1T6.decodeGroup t1 t2 =
      (B1T6.decodeGroup t1.toInt t2.toInt).elim (0#8, false) fun x => (x.toBitVec, true) := by
  have b1 := B1T6Code.toInt8_bounds t1
  have b2 := B1T6Code.toInt8_bounds t2
  unfold Gen.B1T6.decodeGroup B1T6.decodeGroup
  simp only []
  generalize t1.toInt + t2.toInt * 27 = V at *
  by_cases h : V < -128 ∨ V > 127
  · rw [if_pos h, if_pos (by simpa using h)]; rfl
  · rw [if_neg h, if_neg (by simpa using h)]
    refine Prod.ext (BitVec.eq_of_toNat_eq ?_) rfl
    show _ = (UInt8.ofNat (V % 256).toNat).toNat
    rw [BitVec.toNat_ofInt, UInt8.toNat_ofNat']
    omega

/-- on all pairs of tryte values (the only arguments the callers produce from valid input) -/
theorem decodeGroup_eq : ∀ a : Nat, a < 27 → ∀ b : Nat, b < 27 →
    Gen.B1T6.decodeGroup (BitVec.ofInt 8 ((a : Int) - 13)) (BitVec.ofInt 8 ((b : Int) - 13))
      = (match B1T6.decodeGroup ((a : Int) - 13) ((b : Int) - 13) with
         | some x => (x.toBitVec, true)
         | none => (0#8, false)) := by
  intro a ha b hb
  rw [decodeGroup_all, B1T8Code.toInt_ofInt8 _ (by omega) (by omega), B1T8Code.toInt_ofInt8 _ (by omega) (by omega)]
  cases B1T6.decodeGroup ((a : Int) - 13) ((b : Int) - 13) <;> rfl

theorem luts :
    Gen.B1T6.tryteValueToTritsLUT = B1T6.tryteValueToTritsLUT ∧
    Gen.B1T6.tryteValueToTryteLUT = B1T6.tryteValueToTryteLUT.map (fun c => (c.toNat : Int)) ∧
    Gen.B1T6.tryteToTryteValueLUT = B1T6.tryteToTryteValueLUT ∧
    Gen.B1T6.minTryteValue = -13 ∧ Gen.B1T6.tritsPerByte = 6 ∧ Gen.B1T6.trytesPerByte = 2 ∧
    Gen.B1T6.b1t8TritsPerByte = 8 := by decide +kernel

theorem b1t8_masks : Gen.B1T6.b1t8Masks = [1,2,4,8,16,32,64,128] ∧
    Gen.B1T6.b1t8Shifts = [0,1,2,3,4,5,6,7] := by decide

/-- pow and migration import iota.go's copy of b1t6; it is the same code. -/
theorem iotaGoCopy : Gen.B1T6.iotaGoCopyIdentical = true := by decide

/-! Neither b1t6.go nor b1t8.go is held as source text: all their functions — and the four functions of iota.go's
`trinary` package that b1t6 calls — are translated as code and tied to the model in `Iota/Tie/B1T6Code.lean` and
`Iota/Tie/B1T8Code.lean` (re-exported below as `code_*`): for all inputs of realistic length where the model is total
(encoders, b1t8, the `trinary` helpers), and on the documented domain (trits in {-1,0,1}, characters `'9'…'Z'`) for the
b1t6 decoders, whose behaviour outside it is characterised separately (`decode_decodeBV`, `decodeTrytes_gen`). -/

/-- the normalized text of everything else the package declares (imports, constants, types, variables, build constraints and
the functions not held one by one) equals the expected one (`Iota/Tie/Expect.lean`): no declaration of the modelled packages
can change without a tie theorem failing. -/
theorem rest :
    Gen.B1T6.rest_b1t6 = Expect.B1T6_rest_b1t6 ∧
    Gen.B1T6.rest_b1t8 = Expect.B1T6_rest_b1t8 :=
  ⟨rfl, rfl⟩

/-! ### b1t8 `Encode` / `Decode` translated AS CODE (output buffer, reslicing loop, nested loop with early return)
= the model, for all inputs; `none` = Go run-time panic (destination too short). `trits`/`ofTrits` convert between Go's
`int8` and the model's `Int` trits, `bv` between `UInt8` and `BitVec 8`. Proofs: `Iota/Tie/B1T8Code.lean`. -/
open Iota.Tie.Bech32Code (bv) in
open Iota.Tie.B1T8Code in
theorem code_b1t8_encode (dst : List (BitVec 8)) (src : List UInt8) :
    (8 * src.length ≤ dst.length → Gen.B1T6.b1t8.Encode dst (bv src) =
      some (BitVec.ofNat 64 (8 * src.length), ofTrits (B1T8.encode src) ++ dst.drop (8 * src.length))) ∧
    (dst.length < 8 * src.length → Gen.B1T6.b1t8.Encode dst (bv src) = none) := by
  rw [Encode_eq]
  exact ⟨fun h => if_pos h, fun h => if_neg (by omega)⟩
open Iota.Tie.Bech32Code (bv) in
open Iota.Tie.B1T8Code in
theorem code_b1t8_decode (dst src : List (BitVec 8)) (hlen : src.length < 2 ^ 63) :
    ((B1T8.decode (trits src)).1.length ≤ dst.length → Gen.B1T6.b1t8.Decode dst src =
      some (BitVec.ofNat 64 (B1T8.decode (trits src)).1.length, errOf (B1T8.decode (trits src)).2,
        bv (B1T8.decode (trits src)).1 ++ dst.drop (B1T8.decode (trits src)).1.length)) ∧
    (dst.length < (B1T8.decode (trits src)).1.length → Gen.B1T6.b1t8.Decode dst src = none) := by
  rw [Decode_eq dst src hlen]
  exact ⟨fun h => if_pos h, fun h => if_neg (by omega)⟩

/-! ### b1t6.go — and the four functions of iota.go's `trinary` package it calls — translated AS CODE = the model
(`Gen.B1T6.b1t6.*`, `Gen.B1T6.trinary.*`; `none` = Go run-time panic). Proofs: `Iota/Tie/B1T6Code.lean`, which also
characterises `Decode` / `DecodeTrytes` on input outside their documented domain (`decode_decodeBV`, `decodeTrytes_gen`). -/
open Iota.Tie.Bech32Code (bv) in
open Iota.Tie.B1T8Code (trits ofTrits) in
open Iota.Tie.B1T6Code in
/-- the `trinary` helpers, for ALL arguments: exactly when they panic, and the model's table lookups otherwise -/
theorem code_trinary :
    (∀ (ts : List (BitVec 8)) (v : BitVec 8), Gen.B1T6.trinary.MustPutTryteTrits ts v =
      if 3 ≤ ts.length ∧ -13 ≤ v.toInt ∧ v.toInt ≤ 13 then some (ofTrits (B1T6.tryteTrits v.toInt) ++ ts.drop 3) else none) ∧
    (∀ ts : List (BitVec 8), Gen.B1T6.trinary.MustTritsToTryteValue ts =
      if 3 ≤ ts.length then some (tv (ts.getD 0 0#8) (ts.getD 1 0#8) (ts.getD 2 0#8)) else none) ∧
    (∀ a b c : BitVec 8, tv a b c = BitVec.ofInt 8 (B1T6.tritsToTryteValue a.toInt b.toInt c.toInt)) ∧
    (∀ v : BitVec 8, Gen.B1T6.trinary.MustTryteValueToTryte v =
      if -13 ≤ v.toInt ∧ v.toInt ≤ 13 then some (B1T6.tryteChar v.toInt).toBitVec else none) ∧
    (∀ t : BitVec 8, Gen.B1T6.trinary.MustTryteToTryteValue t =
      if 57 ≤ t.toNat ∧ t.toNat ≤ 90 then some (BitVec.ofInt 8 (B1T6.tryteValue (UInt8.ofBitVec t))) else none) :=
  ⟨mustPutTryteTrits_eq, mustTritsToTryteValue_eq, tv_eq_ofInt, mustTryteValueToTryte_eq, mustTryteToTryteValue_eq⟩
open Iota.Tie.Bech32Code (bv) in
open Iota.Tie.B1T8Code (trits ofTrits) in
open Iota.Tie.B1T6Code in
theorem code_b1t6_encode (dst : List (BitVec 8)) (src : List UInt8) (hlen : src.length < 2 ^ 60) :
    (6 * src.length ≤ dst.length → Gen.B1T6.b1t6.Encode dst (bv src) =
      some (BitVec.ofNat 64 (6 * src.length), ofTrits (B1T6.encode src) ++ dst.drop (6 * src.length))) ∧
    (dst.length < 6 * src.length → Gen.B1T6.b1t6.Encode dst (bv src) = none) := by
  rw [Encode_eq dst src hlen]
  exact ⟨fun h => if_pos h, fun h => if_neg (by omega)⟩
open Iota.Tie.Bech32Code (bv) in
open Iota.Tie.B1T6Code in
theorem code_b1t6_encodeToTrytes (src : List UInt8) (hlen : src.length < 2 ^ 60) :
    Gen.B1T6.b1t6.EncodeToTrytes (bv src) = some (bv (B1T6.encodeToTrytes src)) := encodeToTrytes_eq src hlen
open Iota.Tie.Bech32Code (bv) in
open Iota.Tie.B1T8Code (trits) in
open Iota.Tie.B1T6Code in
/-- `Decode` on valid trits is the model (count, error kind, bytes, untouched rest of `dst`; panic exactly when `dst` is
too short), and on ARBITRARY int8 input it does not panic when `dst` has `DecodedLen(len(src))` entries -/
theorem code_b1t6_decode (dst src : List (BitVec 8)) (hn : src.length < 2 ^ 63) :
    (B1T6.ValidTrits (trits src) →
      ((B1T6.decode (trits src)).1.length ≤ dst.length → Gen.B1T6.b1t6.Decode dst src =
        some (BitVec.ofNat 64 (B1T6.decode (trits src)).1.length, errOf (B1T6.decode (trits src)).2,
          bv (B1T6.decode (trits src)).1 ++ dst.drop (B1T6.decode (trits src)).1.length)) ∧
      (dst.length < (B1T6.decode (trits src)).1.length → Gen.B1T6.b1t6.Decode dst src = none)) ∧
    (src.length / 6 ≤ dst.length → Gen.B1T6.b1t6.Decode dst src ≠ none) := by
  refine ⟨fun hv => ?_, fun h => ?_⟩
  · rw [Decode_eq dst src hn hv]
    exact ⟨fun h => if_pos h, fun h => if_neg (by omega)⟩
  · rw [decode_of_room dst src hn h]
    exact Option.some_ne_none _
open Iota.Tie.Bech32Code (bv) in
open Iota.Tie.B1T6Code in
/-- `DecodeTrytes` on characters `'9'`…`'Z'` is the model and never panics; on a lower-case character it panics
(index out of range in iota.go's `MustTryteToTryteValue`; documented as undefined input, and `migration.Decode` checks the
alphabet first) -/
theorem code_b1t6_decodeTrytes (src : List UInt8) (hn : 3 * src.length < 2 ^ 63)
    (hc : ∀ c ∈ src, 57 ≤ c.toNat ∧ c.toNat ≤ 90) :
    (Gen.B1T6.b1t6.DecodeTrytes (bv src) =
      match B1T6.decodeTrytes src with
      | .ok bs => some (bv bs, none)
      | .error e => some ([], errOf (some e))) ∧
    Gen.B1T6.b1t6.DecodeTrytes [97#8, 97#8] = none :=
  ⟨decodeTrytes_eq src hn hc, decodeTrytes_lowercase_panics⟩

/-- the two length helpers of b1t8.go, translated as code: `8·n` and `n / 8` (as long as `8·n` does not overflow) -/
theorem code_b1t8_lens (n : Nat) (h : n < 2 ^ 60) :
    Gen.B1T6.b1t8.EncodedLen (BitVec.ofNat 64 n) = BitVec.ofNat 64 (n * 8) ∧
    Gen.B1T6.b1t8.DecodedLen (BitVec.ofNat 64 n) = BitVec.ofNat 64 (n / 8) :=
  ⟨(BitVec.ofNat_mul n 8).symm, Go.sdiv_ofNat n 8 (by omega) (by decide)⟩

end Iota.Tie.C14
