/-
Code tie for pkg/encoding/b1t8/b1t8.go: `Encode` and `Decode`, translated AS CODE by cmd/extract into
`Iota/Gen/B1T6.lean` (namespace `Gen.B1T6.b1t8`; `none` = run-time panic), against the models
`B1T8.encode` / `B1T8.decode` of `Iota/Model/B1T6.lean`.

Coercions.  Bytes: `bv : List UInt8 → List (BitVec 8)` as in `Bech32Code`.  Trits: Go `int8` is `BitVec 8`
read as two's complement, the model uses `Int`; `trits : List (BitVec 8) → List Int := List.map BitVec.toInt`
(injective; `ofTrits := List.map (BitVec.ofInt 8)` is its inverse on values in −128 … 127).
Errors: `errOf : Option Err → Option String` (nil ↦ none, ErrInvalidTrit / ErrInvalidLength ↦ the names).

`dst` is an OUTPUT BUFFER: the translated functions take the content of the slice passed as `dst` and return, as
last component, its content on return.  Formulation chosen:
* `Encode dst src`: if `8 * len(src) ≤ len(dst)` the result is `(8 * len(src), w ++ dst.drop (8 * len(src)))`
  where `w` is the model's `encode src` (as int8 values): exactly the first `8 * len(src)` entries are
  overwritten.  If `dst` is shorter the Go function panics (`_ = dst[7]` in the iteration that does not fit).
* `Decode dst src` (for `len(src) < 2^63`, true of every Go slice): with `(bytes, err) = decode src` of the model,
  if `len(bytes) ≤ len(dst)` the result is `(len(bytes), err, bytes ++ dst.drop (len(bytes)))`; otherwise the Go
  function panics (`dst[i] = b` out of range).  In particular `len(dst) ≥ len(src) / 8` always suffices.

Shared with `Iota.Tie.B1T6Code`, whose encoders and decoders have the same shape: the coercions `trits` / `ofTrits`,
`forIn_window` (a loop that writes a fixed number of entries per element into what is left of `dst`, or panics) and
`emit` with `emit_nil` / `emit_cons` / `emit_zero` (a decoder writing its bytes into `dst` one by one, or panicking).
-/
import Iota.Proofs.B1T8
import Iota.Gen.B1T6
import Iota.Model.B1T6
import Iota.Tie.GoFlow
import Iota.Tie.BV

namespace Iota.Tie.B1T8Code
open Iota Iota.Go
open Iota.Tie.Bech32Code (bv bv_length bv_cons forall_bv8)

/-! ### coercions -/

/-- Go `int8` trits as the `Int` trits of the model -/
def trits (l : List (BitVec 8)) : List Int := l.map BitVec.toInt
/-- `Int` trits as `int8` values -/
def ofTrits (l : List Int) : List (BitVec 8) := l.map (BitVec.ofInt 8)

theorem trits_length (l : List (BitVec 8)) : (trits l).length = l.length := List.length_map _
theorem ofTrits_length (l : List Int) : (ofTrits l).length = l.length := List.length_map _

theorem ofTrits_trits (l : List (BitVec 8)) : ofTrits (trits l) = l := by
  rw [ofTrits, trits, List.map_map]
  exact (List.map_congr_left fun t _ => BitVec.ofInt_toInt).trans (List.map_id l)

/-- values within −128 … 127 are not truncated by `int8` -/
theorem toInt_ofInt8 (t : Int) (h1 : -128 ≤ t) (h2 : t ≤ 127) : (BitVec.ofInt 8 t).toInt = t := by
  rw [BitVec.toInt_ofInt]
  exact Int.bmod_eq_of_le (by omega) (by omega)

theorem trits_ofTrits (l : List Int) (h : ∀ t ∈ l, -128 ≤ t ∧ t ≤ 127) : trits (ofTrits l) = l := by
  rw [trits, ofTrits, List.map_map]
  exact (List.map_congr_left fun t ht => toInt_ofInt8 t (h t ht).1 (h t ht).2).trans (List.map_id l)

/-! ### `Encode` -/

def encByte (b : BitVec 8) : List (BitVec 8) :=
  [(b &&& 1#8) >>> 0, (b &&& 2#8) >>> 1, (b &&& 4#8) >>> 2, (b &&& 8#8) >>> 3,
   (b &&& 16#8) >>> 4, (b &&& 32#8) >>> 5, (b &&& 64#8) >>> 6, (b &&& 128#8) >>> 7]

/-- A loop that writes `enc a` (`n` entries) for each element `a` into what is left of a buffer, and panics at the
element whose entries do not fit.  `emb A W` is the loop state "`A` written, `W` left" (the encoders hold it in different
ways); `B` bounds the number of entries written, for bodies whose index arithmetic needs a bound. -/
theorem forIn_window {α σ ρ : Type} (emb : List (BitVec 8) → List (BitVec 8) → σ) (n B : Nat)
    (enc : α → List (BitVec 8)) (henc : ∀ a, (enc a).length = n) (f : σ → α → Flow ρ σ)
    (hf : ∀ A W a, A.length + n < B →
      f (emb A W) a = if n ≤ W.length then .run (emb (A ++ enc a) (W.drop n)) else .panic)
    (as : List α) : ∀ A W, A.length + n * as.length < B →
    Go.forIn as (emb A W) f =
      if n * as.length ≤ W.length then .run (emb (A ++ as.flatMap enc) (W.drop (n * as.length))) else .panic := by
  induction as with
  | nil => intro A W _; simp
  | cons a as ih =>
    intro A W hB
    rw [List.length_cons, Nat.mul_succ] at hB ⊢
    rw [forIn_cons, hf A W a (by omega)]
    by_cases h : n ≤ W.length
    · rw [if_pos h, Flow.bind_run, ih _ _ (by rw [List.length_append, henc]; omega), List.length_drop,
        List.flatMap_cons, List.append_assoc, List.drop_drop]
      by_cases h2 : n * as.length ≤ W.length - n
      · rw [if_pos h2, if_pos (by omega), Nat.add_comm n]
      · rw [if_neg h2, if_neg (by omega)]
    · rw [if_neg h, Flow.bind_panic, if_neg (by omega)]

/-- the eight `int8` values written for one byte are the model's trits -/
theorem encByte_eq (b : UInt8) : encByte b.toBitVec = ofTrits (B1T8.encodeByte b) := by
  have h : ∀ x : UInt8, BitVec.ofInt 8 (x.toNat : Int) = x.toBitVec := fun x => by
    rw [BitVec.ofInt_natCast, ← UInt8.toNat_toBitVec, BitVec.ofNat_toNat, BitVec.setWidth_eq]
  simp only [encByte, B1T8.encodeByte, ofTrits, List.map_cons, List.map_nil, h, UInt8.toBitVec_shiftRight,
    UInt8.toBitVec_and]
  rfl

theorem flatMap_encByte (src : List UInt8) : (bv src).flatMap encByte = ofTrits (B1T8.encode src) := by
  rw [bv, List.flatMap_map, ofTrits, B1T8.encode, List.map_flatMap]
  exact congrArg src.flatMap (funext encByte_eq)

theorem encodedLen (n : Nat) : Gen.B1T6.b1t8.EncodedLen (BitVec.ofNat 64 n) = BitVec.ofNat 64 (8 * n) := by
  rw [Nat.mul_comm]; exact (BitVec.ofNat_mul n 8).symm

/-- **`Encode`**: with enough room there is no panic, the function returns `8 * len(src)`, the first `8 * len(src)`
entries of `dst` are overwritten with the model's `encode src` and the others are untouched; if `dst` is shorter the Go
function panics. -/
theorem Encode_eq (dst : List (BitVec 8)) (src : List UInt8) :
    Gen.B1T6.b1t8.Encode dst (bv src) =
      if 8 * src.length ≤ dst.length then
        some (BitVec.ofNat 64 (8 * src.length), ofTrits (B1T8.encode src) ++ dst.drop (8 * src.length))
      else none := by
  unfold Gen.B1T6.b1t8.Encode
  simp only []
  rw [forIn_window Prod.mk 8 (8 * src.length + 1) encByte (fun _ => rfl) _ _ (bv src) [] dst
    (by rw [bv_length, List.length_nil]; omega), bv_length]
  · split
    · simp only [Flow.bind_run, Flow.result_done, List.nil_append, encodedLen, flatMap_encByte]
    · rfl
  · intro A W b _
    by_cases h : 8 ≤ W.length
    · match W, h with
      | w0 :: w1 :: w2 :: w3 :: w4 :: w5 :: w6 :: w7 :: rest, _ => simp [encByte]
    · simp [decide_eq_false (show ¬ 7 < W.length by omega), if_neg h]

theorem encode_bits (src : List UInt8) : ∀ t ∈ B1T8.encode src, t = 0 ∨ t = 1 := by
  intro t ht
  obtain ⟨b, _, hb⟩ := List.mem_flatMap.mp ht
  rw [(Proofs.B1T8.byte_facts b).2] at hb
  obtain ⟨i, _, rfl⟩ := List.mem_map.mp hb
  omega

/-- what is written are trits of the model, read back as `Int` -/
theorem trits_ofTrits_encode (src : List UInt8) : trits (ofTrits (B1T8.encode src)) = B1T8.encode src :=
  trits_ofTrits _ fun t ht => by have := encode_bits src t ht; omega

/-! ### `Decode` -/

/-- Go `uint(t) > 1` on an `int8` -/
def badT (t : BitVec 8) : Bool := BitVec.ult 1#64 (BitVec.signExtend 64 t)

/-- `uint(t) > 1`, as the group loop computes it in 64 bits and as the loop over the remainder computes it in 8 bits, is
the model's `badTrit`; the `int8` values that pass are 0 and 1 -/
theorem badT_spec (t : BitVec 8) :
    badT t = B1T8.badTrit t.toInt ∧ BitVec.ult 1#8 t = B1T8.badTrit t.toInt ∧ (badT t = false → t = 0#8 ∨ t = 1#8) := by
  revert t; exact forall_bv8 (by decide +kernel)

/-- a test on `int8` values that agrees with `badTrit` finds a bad entry in the same lists -/
theorem any_trits (p : BitVec 8 → Bool) (hp : ∀ t, p t = B1T8.badTrit t.toInt) (g : List (BitVec 8)) :
    (trits g).any B1T8.badTrit = g.any p := by
  rw [trits, List.any_map]
  exact congrArg (g.any ·) (funext fun t => (hp t).symm)

theorem term_eq (t : BitVec 8) (h : badT t = false) (j : Nat) (hj : j < 8) :
    BitVec.setWidth 8 (BitVec.signExtend 64 t <<< j) = BitVec.ofNat 8 (t.toInt.toNat <<< j) := by
  have h0 : ∀ j : Nat, j < 8 → BitVec.setWidth 8 (BitVec.signExtend 64 0#8 <<< j) = BitVec.ofNat 8 ((0#8 : BitVec 8).toInt.toNat <<< j) := by
    decide +kernel
  have h1 : ∀ j : Nat, j < 8 → BitVec.setWidth 8 (BitVec.signExtend 64 1#8 <<< j) = BitVec.ofNat 8 ((1#8 : BitVec 8).toInt.toNat <<< j) := by
    decide +kernel
  rcases (badT_spec t).2.2 h with rfl | rfl
  · exact h0 j hj
  · exact h1 j hj

abbrev DSt := List (BitVec 8) × List (BitVec 8) × BitVec 64
abbrev DR := BitVec 64 × Option String × List (BitVec 8)

def decCond (st : DSt) : Bool :=
      let src : List (BitVec 8) := st.2.1
      (BitVec.sle 8#64 (BitVec.ofNat 64 src.length))

def decInner (dst src : List (BitVec 8)) (i : BitVec 64) (b : BitVec 8) (j : BitVec 64) : Flow DR (BitVec 8) :=
          if !(Go.inRangeS j src.length) then Go.Flow.panic else
          let trit : BitVec 64 := (BitVec.signExtend 64 (src.getD j.toNat 0#8))
          if (BitVec.ult 1#64 trit) then
            if !(Go.inRangeS j src.length) then Go.Flow.panic else
            Go.Flow.done (i, (some "ErrInvalidTrit"), dst)
          else
          if !(Go.nonneg j) then Go.Flow.panic else
          let b : BitVec 8 := (b ||| (BitVec.setWidth 8 (trit <<< j.toNat)))
          Go.Flow.run b

def decBody (st_1 : DSt) : Flow DR DSt :=
      let dst : List (BitVec 8) := st_1.1
      let src : List (BitVec 8) := st_1.2.1
      let i : BitVec 64 := st_1.2.2
      let b : BitVec 8 := 0#8
      Go.Flow.bind (Go.forIn (Go.forUp true false 0#64 8#64 1) b (decInner dst src i)) (fun (b : BitVec 8) =>
      if !(Go.inRangeS i dst.length) then Go.Flow.panic else
      let dst : List (BitVec 8) := (dst.set i.toNat b)
      if !(decide (8 ≤ src.length)) then Go.Flow.panic else
      let src : List (BitVec 8) := (src.drop 8)
      let i : BitVec 64 := (i + 1#64)
      Go.Flow.run (dst, src, i))

def decTail (st_1 : DSt) : Flow DR DR :=
  let dst : List (BitVec 8) := st_1.1
  let src : List (BitVec 8) := st_1.2.1
  let i : BitVec 64 := st_1.2.2
  if (BitVec.slt 0#64 (BitVec.ofNat 64 src.length)) then
    Go.Flow.bind (Go.forIn src () (fun (_ : Unit) (t : BitVec 8) =>
        if (BitVec.ult 1#8 t) then
          Go.Flow.done (i, (some "ErrInvalidTrit"), dst)
        else
        Go.Flow.run ())) (fun (_ : Unit) =>
    Go.Flow.done (i, (some "ErrInvalidLength"), dst))
  else
  Go.Flow.done (i, (none : Option String), dst)

theorem Decode_unfold (dst src : List (BitVec 8)) :
    Gen.B1T6.b1t8.Decode dst src =
      Flow.result (Flow.bind (whileFuel decCond decBody src.length (dst, src, 0#64)) decTail) := rfl

/-- the loop header `for j := 0; j < 8; j++`, run step by step (`Go.loopIdx`), visits exactly these indices -/
theorem header_sound (fuel : Nat) (h : 8 < fuel) :
    loopIdx (cmpUp true false 8#64) (· + 1#64) fuel 0#64 = forUp true false 0#64 8#64 1 :=
  forUp_sound_one true 8#64 fuel 0#64 (by rw [forUp_range 8 (by decide)]; simpa using h)

/-- the byte the generated inner loop packs from a group of eight good trits -/
def packBV (g : List (BitVec 8)) : BitVec 8 :=
  (List.range 8).foldl (fun b k => b ||| BitVec.setWidth 8 (BitVec.signExtend 64 (g.getD k 0#8) <<< k)) 0#8

/-- one iteration of the inner loop; `j < 8 ≤ len(src)`, so `src[j]` is an entry of the group `src[:8]` -/
theorem decInner_eq (dst src : List (BitVec 8)) (i : BitVec 64) (b : BitVec 8) (k : Nat) (hk : k < 8)
    (h : 8 ≤ src.length) :
    decInner dst src i b (BitVec.ofNat 64 k) =
      if badT ((src.take 8).getD k 0#8) then .done (i, some "ErrInvalidTrit", dst)
      else .run (b ||| BitVec.setWidth 8 (BitVec.signExtend 64 ((src.take 8).getD k 0#8) <<< k)) := by
  rw [List.getD_eq_getElem?_getD, List.getElem?_take_of_lt hk, ← List.getD_eq_getElem?_getD]
  unfold decInner
  simp only [Go.inRangeS_ofNat k _ (by omega), decide_eq_true (show k < src.length by omega), Go.nonneg_ofNat k (by omega),
    toNat_ofNat_lt k (by omega), Bool.not_true, Bool.false_eq_true, if_false, badT]
  rfl

theorem any_range_getD {α : Type} (g : List α) (d : α) (p : α → Bool) (n : Nat) (hn : g.length = n) :
    (List.range n).any (fun k => p (g.getD k d)) = g.any p := by
  subst hn
  conv => rhs; rw [← List.map_id g, ← range_map_getD g d id, List.any_map]
  rfl

theorem inner_eq (dst src : List (BitVec 8)) (i : BitVec 64) (h : 8 ≤ src.length) :
    Go.forIn (Go.forUp true false 0#64 8#64 1) 0#8 (decInner dst src i) =
      if (src.take 8).any badT then .done (i, some "ErrInvalidTrit", dst) else .run (packBV (src.take 8)) := by
  rw [forUp_range 8 (by decide), Go.forIn_map,
    forIn_first (List.range 8) (fun k => badT ((src.take 8).getD k 0#8)) _ _ _ _
      (fun b k hk => decInner_eq dst src i b k (List.mem_range.mp hk) h),
    any_range_getD _ _ _ 8 (List.length_take_of_le h)]
  rfl

/-- the two folds over `0 … 7`, of `Nat` in the model and of `uint8` in the code, go in step -/
theorem packByte_eq (g : List (BitVec 8)) :
    B1T8.packByte (trits g) = if g.any badT then none else some (UInt8.ofBitVec (packBV g)) := by
  unfold B1T8.packByte
  rw [any_trits badT (fun t => (badT_spec t).1)]
  cases hg : g.any badT
  · rw [if_neg Bool.false_ne_true, if_neg Bool.false_ne_true]
    have hgood : ∀ k, badT (g.getD k 0#8) = false := fun k => by
      rw [List.getD_eq_getElem?_getD]
      cases hk : g[k]? with
      | none => rfl
      | some t =>
        have hall := List.any_eq_false.mp hg t (List.mem_of_getElem? hk)
        exact Bool.eq_false_iff.mpr hall
    have hfold : ∀ (l : List Nat) (a : Nat), (∀ j ∈ l, j < 8) →
        BitVec.ofNat 8 (l.foldl (fun acc j => acc ||| ((trits g).getD j 0).toNat <<< j) a) =
          l.foldl (fun b k => b ||| BitVec.setWidth 8 (BitVec.signExtend 64 (g.getD k 0#8) <<< k)) (BitVec.ofNat 8 a) := by
      intro l
      induction l with
      | nil => intro a _; rfl
      | cons j l ih =>
        intro a hl
        have hj : (trits g).getD j 0 = (g.getD j 0#8).toInt := getD_map BitVec.toInt g j 0#8
        rw [List.foldl_cons, List.foldl_cons, ih _ (fun k hk => hl k (List.mem_cons_of_mem _ hk)), BitVec.ofNat_or,
          term_eq _ (hgood j) j (hl j (List.mem_cons_self ..)), hj]
    exact congrArg (fun x => some (UInt8.ofBitVec x)) (hfold (List.range 8) 0 (fun j hj => List.mem_range.mp hj))
  · rfl

def errOf : Option B1T8.Err → Option String
  | none => none
  | some .invalidTrit => some "ErrInvalidTrit"
  | some .invalidLength => some "ErrInvalidLength"

/-- `dst` with `bytes` written from position `k` on -/
def writeAt (dst : List (BitVec 8)) (k : Nat) (bytes : List (BitVec 8)) : List (BitVec 8) :=
  dst.take k ++ bytes ++ dst.drop (k + bytes.length)

theorem writeAt_nil (dst : List (BitVec 8)) (k : Nat) : writeAt dst k [] = dst := by
  simp [writeAt]

theorem writeAt_set (dst : List (BitVec 8)) (k : Nat) (b : BitVec 8) (bytes : List (BitVec 8)) (hk : k < dst.length) :
    writeAt (dst.set k b) (k + 1) bytes = writeAt dst k (b :: bytes) := by
  unfold writeAt
  rw [List.take_set, List.drop_set_of_lt (by omega), List.take_succ_eq_append_getElem hk,
    List.set_append_right _ _ (by rw [List.length_take]; omega), List.length_take_of_le (by omega), Nat.sub_self,
    List.set_cons_zero, List.append_assoc (dst.take k), List.singleton_append, List.length_cons, Nat.add_assoc,
    Nat.add_comm 1]

/-- what a decoder returns that has written `k` bytes and goes on to write `bytes` one by one (`dst[i] = b; i++`): `ret`
of the final count and buffer if the bytes fit, a panic (index out of range) if they do not -/
def emit {ρ : Type} (ret : Nat → List (BitVec 8) → ρ) (dst : List (BitVec 8)) (k : Nat) (bytes : List (BitVec 8)) :
    Option ρ :=
  if k + bytes.length ≤ dst.length then some (ret (k + bytes.length) (writeAt dst k bytes)) else none

theorem emit_nil {ρ : Type} (ret : Nat → List (BitVec 8) → ρ) (dst : List (BitVec 8)) (k : Nat) (hk : k ≤ dst.length) :
    emit ret dst k [] = some (ret k dst) := by
  rw [emit, List.length_nil, Nat.add_zero, if_pos hk, writeAt_nil]

theorem emit_cons {ρ : Type} (ret : Nat → List (BitVec 8) → ρ) (dst : List (BitVec 8)) (k : Nat) (b : BitVec 8)
    (bytes : List (BitVec 8)) :
    emit ret dst k (b :: bytes) = if k < dst.length then emit ret (dst.set k b) (k + 1) bytes else none := by
  unfold emit
  rw [List.length_cons, List.length_set, show k + (bytes.length + 1) = k + 1 + bytes.length by omega]
  by_cases hk : k < dst.length
  · rw [if_pos hk, writeAt_set dst k b bytes hk]
  · rw [if_neg hk, if_neg (by omega)]

theorem emit_zero {ρ : Type} (ret : Nat → List (BitVec 8) → ρ) (dst bytes : List (BitVec 8)) :
    emit ret dst 0 bytes =
      if bytes.length ≤ dst.length then some (ret bytes.length (bytes ++ dst.drop bytes.length)) else none := by
  simp only [emit, writeAt, Nat.zero_add, List.take_zero, List.nil_append]

/-- at least 8 trits left: the model packs the group `src[:8]` and goes on with `src[8:]` -/
theorem decode_of_le (src : List (BitVec 8)) (h : 8 ≤ src.length) :
    B1T8.decode (trits src) =
      match B1T8.packByte (trits (src.take 8)) with
      | none => ([], some .invalidTrit)
      | some b => (b :: (B1T8.decode (trits (src.drop 8))).1, (B1T8.decode (trits (src.drop 8))).2) := by
  match src, h with
  | t0 :: t1 :: t2 :: t3 :: t4 :: t5 :: t6 :: t7 :: rest, _ =>
    simp only [trits, List.map_cons, List.map_nil, B1T8.decode, List.take_succ_cons, List.take_zero, List.drop_succ_cons,
      List.drop_zero]
    generalize B1T8.packByte _ = p
    cases p <;> rfl

/-- fewer than 8 trits left: the model reports the first bad trit, else the bad length (none for no trits) -/
theorem decode_short (ts : List Int) (h : ts.length < 8) :
    B1T8.decode ts =
      ([], if ts = [] then none else if ts.any B1T8.badTrit then some .invalidTrit else some .invalidLength) := by
  fun_cases B1T8.decode ts
  case case1 | case2 => simp only [List.length_cons] at h; omega
  case case3 => rfl
  case case4 _ hne hb => rw [if_neg hne, if_pos hb]
  case case5 _ hne hb => rw [if_neg hne, if_neg hb]

theorem tail_eq (dst src : List (BitVec 8)) (i : BitVec 64) (h : src.length < 8) :
    decTail (dst, src, i) = .done (i, errOf (B1T8.decode (trits src)).2, dst) := by
  rw [decode_short _ (by rw [trits_length]; exact h)]
  unfold decTail
  simp only []
  rw [slt_ofNat 0 _ (by decide) (by omega)]
  by_cases he : src = []
  · subst he; rfl
  · have hpos : 0 < src.length := List.length_pos_iff.mpr he
    rw [if_neg (show ¬ trits src = [] from fun h0 => he (List.map_eq_nil_iff.mp h0)), decide_eq_true hpos, if_pos rfl,
      forIn_any src (fun t => BitVec.ult 1#8 t) (i, some "ErrInvalidTrit", dst) _ (fun a _ => rfl),
      ← any_trits _ (fun t => (badT_spec t).2.1)]
    cases (trits src).any B1T8.badTrit <;> rfl

/-- one iteration of the outer loop on a source with at least 8 trits -/
theorem body_eq (dst src : List (BitVec 8)) (k : Nat) (hk : k < 2 ^ 63) (h : 8 ≤ src.length) :
    decBody (dst, src, BitVec.ofNat 64 k) =
      if (src.take 8).any badT then .done (BitVec.ofNat 64 k, some "ErrInvalidTrit", dst)
      else if k < dst.length then .run (dst.set k (packBV (src.take 8)), src.drop 8, BitVec.ofNat 64 (k + 1))
      else .panic := by
  unfold decBody
  simp only []
  rw [inner_eq dst src _ h]
  cases (src.take 8).any badT
  · simp only [Bool.false_eq_true, if_false, Flow.bind_run, Go.inRangeS_ofNat k dst.length hk,
      toNat_ofNat_lt k (by omega), ← BitVec.ofNat_add, decide_eq_true h, Bool.not_true]
    by_cases hkd : k < dst.length
    · simp only [decide_eq_true hkd, Bool.not_true, Bool.false_eq_true, if_false, if_pos hkd]
    · simp only [decide_eq_false hkd, Bool.not_false, if_true, if_neg hkd]
  · rfl

theorem loop_eq (fuel : Nat) : ∀ (dst src : List (BitVec 8)) (k : Nat),
    src.length ≤ fuel → k + src.length < 2 ^ 63 → k ≤ dst.length →
    Flow.result ((whileFuel decCond decBody fuel (dst, src, BitVec.ofNat 64 k)).bind decTail) =
      emit (fun n d => (BitVec.ofNat 64 n, errOf (B1T8.decode (trits src)).2, d)) dst k (bv (B1T8.decode (trits src)).1) := by
  have short : ∀ (dst src : List (BitVec 8)) (k : Nat), src.length < 8 → k ≤ dst.length →
      Flow.result (decTail (dst, src, BitVec.ofNat 64 k)) =
        emit (fun n d => (BitVec.ofNat 64 n, errOf (B1T8.decode (trits src)).2, d)) dst k (bv (B1T8.decode (trits src)).1) := by
    intro dst src k hs hk
    rw [tail_eq dst src _ hs, decode_short _ (by rw [trits_length]; exact hs)]
    exact (emit_nil (fun n d => (BitVec.ofNat 64 n, _, d)) dst k hk).symm
  induction fuel with
  | zero =>
    intro dst src k hf _ hk
    exact short dst src k (by omega) hk
  | succ fuel ih =>
    intro dst src k hf hlen hk
    rw [whileFuel_succ, show decCond (dst, src, BitVec.ofNat 64 k) = decide (8 ≤ src.length) from
      sle_ofNat 8 src.length (by decide) (by omega)]
    by_cases h8 : 8 ≤ src.length
    · rw [decide_eq_true h8, if_pos rfl, body_eq dst src k (by omega) h8, decode_of_le src h8, packByte_eq]
      cases (src.take 8).any badT
      · simp only [Bool.false_eq_true, if_false]
        rw [bv_cons, emit_cons]
        by_cases hkd : k < dst.length
        · rw [if_pos hkd, if_pos hkd, Flow.bind_run]
          exact ih _ _ (k + 1) (by rw [List.length_drop]; omega) (by rw [List.length_drop]; omega)
            (by rw [List.length_set]; omega)
        · rw [if_neg hkd, if_neg hkd]; rfl
      · exact (emit_nil (fun n d => (BitVec.ofNat 64 n, _, d)) dst k hk).symm
    · rw [decide_eq_false h8, if_neg Bool.false_ne_true, Flow.bind_run]
      exact short dst src k (by omega) hk

/-- **`Decode`** (`len(src) < 2^63` holds for every Go slice): with `(bytes, err)` the result of the model, if the bytes
fit into `dst` the Go function does not panic, returns `(len(bytes), err)`, and has overwritten exactly the first
`len(bytes)` entries of `dst` with `bytes`; if they do not fit it panics (`dst[i] = b` out of range). -/
theorem Decode_eq (dst src : List (BitVec 8)) (hlen : src.length < 2 ^ 63) :
    Gen.B1T6.b1t8.Decode dst src =
      if (B1T8.decode (trits src)).1.length ≤ dst.length then
        some (BitVec.ofNat 64 (B1T8.decode (trits src)).1.length, errOf (B1T8.decode (trits src)).2,
          bv (B1T8.decode (trits src)).1 ++ dst.drop (B1T8.decode (trits src)).1.length)
      else none := by
  rw [Decode_unfold, loop_eq src.length dst src 0 (Nat.le_refl _) (by omega) (Nat.zero_le _), emit_zero, bv_length]

/-- the model decodes at most `len / 8` bytes, so `len(dst) ≥ len(src) / 8` (= `DecodedLen(len(src))`) always suffices -/
theorem decode_length_le (ts : List Int) : (B1T8.decode ts).1.length * 8 ≤ ts.length := by
  fun_induction B1T8.decode ts
  case case2 =>
    rename_i rest b hp r ih
    have hr : r = B1T8.decode rest := rfl
    rw [hr]
    simp only [List.length_cons]
    omega
  all_goals simp

/-- **`Decode` with a destination of at least `DecodedLen(len(src))` bytes never panics.** -/
theorem decode_eq_of_room (dst src : List (BitVec 8)) (hlen : src.length < 2 ^ 63) (hroom : src.length / 8 ≤ dst.length) :
    Gen.B1T6.b1t8.Decode dst src =
      some (BitVec.ofNat 64 (B1T8.decode (trits src)).1.length, errOf (B1T8.decode (trits src)).2,
        bv (B1T8.decode (trits src)).1 ++ dst.drop (B1T8.decode (trits src)).1.length) := by
  have := decode_length_le (trits src)
  rw [trits_length] at this
  rw [Decode_eq dst src hlen, if_pos (by omega)]

end Iota.Tie.B1T8Code
