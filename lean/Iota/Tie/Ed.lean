/-
Tie shared by C01, C07, C18: what `Iota/Gen/Ed.lean` regenerates from pkg/ed25519 and pkg/vrf (sizes, the VRF suite
constants, the text of the functions, the text of the remaining declarations) equals the model's / the expected values,
by `rfl` / `decide`; and the code tie `code_isCanonicalY(_short)`: vrf `isCanonicalY` translated as code
(`Gen.Ed.vrf.isCanonicalY`) = the model (lemmas: `Iota/Tie/VrfCode.lean`).
-/
import Iota.Gen.Ed
import Iota.Tie.Expect
import Iota.Model.Vrf
import Iota.Tie.VrfCode
import Iota.Proofs.Vectors.Ed
import Iota.Proofs.Vectors.Hash

namespace Iota.Tie.Ed
open Iota

theorem sizes :
    Gen.Ed.publicKeySize = 32 ∧ Gen.Ed.privateKeySize = 64 ∧ Gen.Ed.signatureSize = 64 ∧ Gen.Ed.seedSize = 32 ∧
    Gen.Ed.vrfProofSize = (Vrf.proofSize : Int) ∧ Gen.Ed.vrfPtLen = (Vrf.ptLen : Int) ∧
    Gen.Ed.vrfCLen = (Vrf.cLen : Int) ∧ Gen.Ed.vrfQLen = (Vrf.qLen : Int) := by decide

/-- suite string 0x03 and the domain separators 0x01/0x00, 0x02/0x00, 0x03/0x00 -/
theorem vrf_constants :
    Gen.Ed.vrfSuiteString = Vrf.suiteString.map (fun b => (b.toNat : Int)) ∧
    Gen.Ed.vrfSeparators = [[1], [0], [2], [0], [3], [0]] ∧
    Gen.Ed.vrfNonCanonicalSignBytes = Vrf.nonCanonicalSignBytes.map (·.map fun b => (b.toNat : Int)) := by decide +kernel

-- The functions held as text.  `isCanonicalY` is translated as code and tied to the model for all inputs
-- (`code_isCanonicalY` below; lemmas in `Iota/Tie/VrfCode.lean`); its text is not held as a snapshot.
theorem src :
    Gen.Ed.src_ed25519_PrivateKey_Public = Expect.Ed_src_ed25519_PrivateKey_Public ∧
    Gen.Ed.src_ed25519_PrivateKey_Seed = Expect.Ed_src_ed25519_PrivateKey_Seed ∧
    Gen.Ed.src_ed25519_PrivateKey_Sign = Expect.Ed_src_ed25519_PrivateKey_Sign ∧
    Gen.Ed.src_ed25519_GenerateKey = Expect.Ed_src_ed25519_GenerateKey ∧
    Gen.Ed.src_ed25519_NewKeyFromSeed = Expect.Ed_src_ed25519_NewKeyFromSeed ∧
    Gen.Ed.src_ed25519_newKeyFromSeed = Expect.Ed_src_ed25519_newKeyFromSeed ∧
    Gen.Ed.src_ed25519_Sign = Expect.Ed_src_ed25519_Sign ∧
    Gen.Ed.src_ed25519_sign = Expect.Ed_src_ed25519_sign ∧
    Gen.Ed.src_ed25519_Verify = Expect.Ed_src_ed25519_Verify ∧
    Gen.Ed.src_vrf_Prove = Expect.Ed_src_vrf_Prove ∧
    Gen.Ed.src_vrf_ProofToHash = Expect.Ed_src_vrf_ProofToHash ∧
    Gen.Ed.src_vrf_Verify = Expect.Ed_src_vrf_Verify ∧
    Gen.Ed.src_vrf_encodeToCurveTryAndIncrement = Expect.Ed_src_vrf_encodeToCurveTryAndIncrement ∧
    Gen.Ed.src_vrf_challengeGeneration = Expect.Ed_src_vrf_challengeGeneration ∧
    Gen.Ed.src_vrf_validateKey = Expect.Ed_src_vrf_validateKey ∧
    Gen.Ed.src_vrf_Proof_Hash = Expect.Ed_src_vrf_Proof_Hash ∧
    Gen.Ed.src_vrf_Proof_Bytes = Expect.Ed_src_vrf_Proof_Bytes ∧
    Gen.Ed.src_vrf_Proof_SetBytes = Expect.Ed_src_vrf_Proof_SetBytes ∧
    Gen.Ed.src_vrf_Proof_UnmarshalBinary = Expect.Ed_src_vrf_Proof_UnmarshalBinary ∧
    Gen.Ed.src_vrf_newPointFromCanonicalBytes = Expect.Ed_src_vrf_newPointFromCanonicalBytes :=
  ⟨rfl, rfl, rfl, rfl, rfl, rfl, rfl, rfl, rfl, rfl, rfl, rfl, rfl, rfl, rfl, rfl, rfl, rfl, rfl, rfl⟩

/-- the normalized text of everything else the package declares (imports, constants, types, variables, build constraints and
the functions not held one by one) equals the expected one (`Iota/Tie/Expect.lean`): no declaration of the modelled packages
can change without a tie theorem failing. -/
theorem rest :
    Gen.Ed.rest_ed25519 = Expect.Ed_rest_ed25519 ∧
    Gen.Ed.rest_vrf = Expect.Ed_rest_vrf :=
  ⟨rfl, rfl⟩

/-! ### vrf `isCanonicalY` translated AS CODE (early returns inside the loop, checked indexing) = the model on every
input of at least 32 bytes; shorter inputs panic in Go (`none`) — the callers pass exactly 32 bytes. -/
open Iota.Tie.Bech32Code (bv) in
theorem code_isCanonicalY (x : List UInt8) (hx : 32 ≤ x.length) :
    Gen.Ed.vrf.isCanonicalY (bv x) = some (Vrf.isCanonicalY x) := Iota.Tie.VrfCode.isCanonicalY_eq x hx
open Iota.Tie.Bech32Code (bv) in
theorem code_isCanonicalY_short (x : List UInt8) (hx : x.length < 32) :
    Gen.Ed.vrf.isCanonicalY (bv x) = none := Iota.Tie.VrfCode.isCanonicalY_panics x hx

end Iota.Tie.Ed
