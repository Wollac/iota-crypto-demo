/-
Code tie for pkg/bech32/internal/base32/base32.go: `EncodedLen`, `DecodedLen`, `Encode`, `Decode`, translated AS CODE by
cmd/extract into `Iota/Gen/Bech32.lean` (namespace `Gen.Bech32.base32`; `none` = run-time panic), against the models
`encodedLen`, `decodedLen`, `b32Encode`, `b32Decode` of `Iota/Model/Bech32.lean`, FOR ALL INPUTS.

The Go code uses a `switch len(src)` with `default:` first and `fallthrough` through all clauses, `break` out of
the `for len(src) > 0` loop, a tagless `switch` for the padding test and `&CorruptInputError{Err…, offset}` errors; the
translator renders the clauses of a switch as consecutive conditionals on the tag (evaluated once), the loop as
`Go.whileFuelB` (body result `(true, state)` = `break`), and the errors as `some (name, offset)`.

Coercions: bytes `bv : List UInt8 → List (BitVec 8)` as in `Bech32Code`; `error` ↦ `errOf`.

`dst` is an OUTPUT BUFFER (translated under the assumption, checked by cmd/extract at the two call sites, that it does
not overlap `src`): the functions take the content of the slice passed as `dst` and return, as last component, its
content on return.  Results:
* `Encode dst src` (`encode_spec`, `len(src) < 2^63`): panics iff `len(dst) < EncodedLen(len(src))`; otherwise returns
  the 64-bit `EncodedLen(len(src))` (= the model's `encodedLen` iff `len(src) < 2^60`, `EncodedLen_eq`,
  `EncodedLen_overflow`) and `dst` = `b32Encode src` followed by the untouched entries.  So the true minimal
  destination is `EncodedLen(len(src))`: 8 per full group, 2 / 4 / 5 / 7 for a last group of 1 / 2 / 3 / 4 bytes.
* `Decode dst src` (`decode_spec`, `len(src) < 2^63`, symbols are arbitrary bytes): panics iff
  `len(dst) < minDst(len(src))`, where `minDst n = DecodedLen(n)` except for `n % 8 ∈ {3, 6}`, where it is `5 * (n / 8)`
  (1 resp. 3 less: the error is returned before the last group is written).  Otherwise it returns
  `(len(decBytes src), errOf (b32Decode src))` and `dst` = `decBytes src` followed by the untouched entries, where
  `decBytes src` are the bytes written when the function returns.  The model's `Except` keeps only one of the two: on
  `.ok bytes`, `decBytes src = bytes` (`decode_ok`); on `.error (e, off)` the error is `&CorruptInputError{e, off}` and
  `decBytes src` is what was decoded before it (`decode_error`, `written_invalidLength`, `written_nonZeroPadding`).
* with the destinations the callers in pkg/bech32/bech32.go allocate neither function panics (`encode_caller`,
  `decode_caller`, `encode_exact`, `decode_exact`, `encode_no_panic`, `decode_no_panic`).
-/
import Iota.Proofs.Base32
import Iota.Gen.Bech32
import Iota.Model.Bech32
import Iota.Tie.GoFlow
import Iota.Tie.Bech32Code

namespace Iota.Tie.Base32Code
open Iota Iota.Go Iota.Bech32
open Iota.Tie.Bech32Code (bv bv_length bv_getD)
open Iota.Proofs.Base32

/-! ### 64-bit arithmetic on lengths -/

/-- `EncodedLen` in 64-bit arithmetic is the model's `encodedLen` as long as `n*8 + 4` does not overflow: `n < 2^60` -/
theorem EncodedLen_eq (n : Nat) (h : n < 2 ^ 60) :
    Gen.Bech32.base32.EncodedLen (BitVec.ofNat 64 n) = BitVec.ofNat 64 (encodedLen n) := by
  unfold Gen.Bech32.base32.EncodedLen encodedLen
  rw [← BitVec.ofNat_mul, ← BitVec.ofNat_add]
  exact sdiv_ofNat (n * 8 + 4) 5 (by omega) (by decide)

/-- the bound is sharp: for `n = 2^60` the sum `n*8 + 4` is negative as an `int` -/
theorem EncodedLen_overflow :
    Gen.Bech32.base32.EncodedLen (BitVec.ofNat 64 (2 ^ 60)) ≠ BitVec.ofNat 64 (encodedLen (2 ^ 60)) := by decide

/-- `DecodedLen` likewise, as long as `n*5` does not overflow -/
theorem DecodedLen_eq (n : Nat) (h : n * 5 < 2 ^ 63) :
    Gen.Bech32.base32.DecodedLen (BitVec.ofNat 64 n) = BitVec.ofNat 64 (decodedLen n) := by
  unfold Gen.Bech32.base32.DecodedLen decodedLen
  rw [← BitVec.ofNat_mul]
  exact sdiv_ofNat (n * 5) 8 h (by decide)

/-! ### `Encode` -/

abbrev Buf := List (BitVec 8) × List (BitVec 8)
abbrev ER := BitVec 64 × List (BitVec 8)
abbrev ESt := Buf × List (BitVec 8)

def encCond (st_1 : ESt) : Bool :=
      let src : List (BitVec 8) := st_1.2
      (BitVec.slt 0#64 (BitVec.ofNat 64 src.length))

/-- `default:` — runs for `len(src) ∉ {4,3,2,1}` -/
def encC5 (sw_2 : BitVec 64) (src : List (BitVec 8)) (dst : Buf) (carry : BitVec 8) : Flow ER (Buf × BitVec 8) :=
      (if (!((sw_2 == 4#64) || (sw_2 == 3#64) || (sw_2 == 2#64) || (sw_2 == 1#64))) then
          if !(decide (7 < dst.2.length)) then Go.Flow.panic else
          if !(decide (4 < src.length)) then Go.Flow.panic else
          let dst : (List (BitVec 8) × List (BitVec 8)) := (dst.1, dst.2.set 7 ((src.getD 4 0#8) &&& 31#8))
          if !(decide (4 < src.length)) then Go.Flow.panic else
          let carry : BitVec 8 := ((src.getD 4 0#8) >>> 5)
          Go.Flow.run (dst, carry)
        else
          Go.Flow.run (dst, carry))

/-- `case 4:` — also reached by fallthrough from `default` -/
def encC4 (sw_2 : BitVec 64) (src : List (BitVec 8)) (dst : Buf) (carry : BitVec 8) : Flow ER (Buf × BitVec 8) :=
      (if ((!((sw_2 == 4#64) || (sw_2 == 3#64) || (sw_2 == 2#64) || (sw_2 == 1#64))) || (sw_2 == 4#64)) then
          if !(decide (6 < dst.2.length)) then Go.Flow.panic else
          if !(decide (3 < src.length)) then Go.Flow.panic else
          let dst : (List (BitVec 8) × List (BitVec 8)) := (dst.1, dst.2.set 6 (carry ||| (((src.getD 3 0#8) <<< 3) &&& 31#8)))
          if !(decide (5 < dst.2.length)) then Go.Flow.panic else
          if !(decide (3 < src.length)) then Go.Flow.panic else
          let dst : (List (BitVec 8) × List (BitVec 8)) := (dst.1, dst.2.set 5 (((src.getD 3 0#8) >>> 2) &&& 31#8))
          if !(decide (3 < src.length)) then Go.Flow.panic else
          let carry : BitVec 8 := ((src.getD 3 0#8) >>> 7)
          Go.Flow.run (dst, carry)
        else
          Go.Flow.run (dst, carry))

def encC3 (sw_2 : BitVec 64) (src : List (BitVec 8)) (dst : Buf) (carry : BitVec 8) : Flow ER (Buf × BitVec 8) :=
      (if ((!((sw_2 == 4#64) || (sw_2 == 3#64) || (sw_2 == 2#64) || (sw_2 == 1#64))) || (sw_2 == 4#64) || (sw_2 == 3#64)) then
          if !(decide (4 < dst.2.length)) then Go.Flow.panic else
          if !(decide (2 < src.length)) then Go.Flow.panic else
          let dst : (List (BitVec 8) × List (BitVec 8)) := (dst.1, dst.2.set 4 (carry ||| (((src.getD 2 0#8) <<< 1) &&& 31#8)))
          if !(decide (2 < src.length)) then Go.Flow.panic else
          let carry : BitVec 8 := (((src.getD 2 0#8) >>> 4) &&& 31#8)
          Go.Flow.run (dst, carry)
        else
          Go.Flow.run (dst, carry))

def encC2 (sw_2 : BitVec 64) (src : List (BitVec 8)) (dst : Buf) (carry : BitVec 8) : Flow ER (Buf × BitVec 8) :=
      (if ((!((sw_2 == 4#64) || (sw_2 == 3#64) || (sw_2 == 2#64) || (sw_2 == 1#64))) || (sw_2 == 4#64) || (sw_2 == 3#64) || (sw_2 == 2#64)) then
          if !(decide (3 < dst.2.length)) then Go.Flow.panic else
          if !(decide (1 < src.length)) then Go.Flow.panic else
          let dst : (List (BitVec 8) × List (BitVec 8)) := (dst.1, dst.2.set 3 (carry ||| (((src.getD 1 0#8) <<< 4) &&& 31#8)))
          if !(decide (2 < dst.2.length)) then Go.Flow.panic else
          if !(decide (1 < src.length)) then Go.Flow.panic else
          let dst : (List (BitVec 8) × List (BitVec 8)) := (dst.1, dst.2.set 2 (((src.getD 1 0#8) >>> 1) &&& 31#8))
          if !(decide (1 < src.length)) then Go.Flow.panic else
          let carry : BitVec 8 := (((src.getD 1 0#8) >>> 6) &&& 31#8)
          Go.Flow.run (dst, carry)
        else
          Go.Flow.run (dst, carry))

def encC1 (sw_2 : BitVec 64) (src : List (BitVec 8)) (dst : Buf) (carry : BitVec 8) : Flow ER Buf :=
      (if ((!((sw_2 == 4#64) || (sw_2 == 3#64) || (sw_2 == 2#64) || (sw_2 == 1#64))) || (sw_2 == 4#64) || (sw_2 == 3#64) || (sw_2 == 2#64) || (sw_2 == 1#64)) then
          if !(decide (1 < dst.2.length)) then Go.Flow.panic else
          if !(decide (0 < src.length)) then Go.Flow.panic else
          let dst : (List (BitVec 8) × List (BitVec 8)) := (dst.1, dst.2.set 1 (carry ||| (((src.getD 0 0#8) <<< 2) &&& 31#8)))
          if !(decide (0 < dst.2.length)) then Go.Flow.panic else
          if !(decide (0 < src.length)) then Go.Flow.panic else
          let dst : (List (BitVec 8) × List (BitVec 8)) := (dst.1, dst.2.set 0 ((src.getD 0 0#8) >>> 3))
          Go.Flow.run dst
        else
          Go.Flow.run dst)

/-- `if len(src) < 5 { break }; src = src[5:]; dst = dst[8:]` -/
def encNext (src : List (BitVec 8)) (dst : Buf) : Flow ER (Bool × ESt) :=
      if (BitVec.slt (BitVec.ofNat 64 src.length) 5#64) then
        Go.Flow.run (true, (dst, src))
      else
      if !(decide (5 ≤ src.length)) then Go.Flow.panic else
      let src : List (BitVec 8) := (src.drop 5)
      if !(decide (8 ≤ dst.2.length)) then Go.Flow.panic else
      let dst : (List (BitVec 8) × List (BitVec 8)) := (dst.1 ++ dst.2.take 8, dst.2.drop 8)
      Go.Flow.run (false, (dst, src))

/-- the loop body, as generated (cut into the clauses of the switch) -/
def encBody (st_1 : ESt) : Flow ER (Bool × ESt) :=
      let dst : (List (BitVec 8) × List (BitVec 8)) := st_1.1
      let src : List (BitVec 8) := st_1.2
      let carry : BitVec 8 := 0#8
      let sw_2 : BitVec 64 := (BitVec.ofNat 64 src.length)
      Go.Flow.bind (encC5 sw_2 src dst carry) (fun (st_3 : (List (BitVec 8) × List (BitVec 8)) × BitVec 8) =>
      Go.Flow.bind (encC4 sw_2 src st_3.1 st_3.2) (fun (st_4 : (List (BitVec 8) × List (BitVec 8)) × BitVec 8) =>
      Go.Flow.bind (encC3 sw_2 src st_4.1 st_4.2) (fun (st_5 : (List (BitVec 8) × List (BitVec 8)) × BitVec 8) =>
      Go.Flow.bind (encC2 sw_2 src st_5.1 st_5.2) (fun (st_6 : (List (BitVec 8) × List (BitVec 8)) × BitVec 8) =>
      Go.Flow.bind (encC1 sw_2 src st_6.1 st_6.2) (fun (dst : (List (BitVec 8) × List (BitVec 8))) =>
      encNext src dst)))))

theorem Encode_unfold (dst src : List (BitVec 8)) :
    Gen.Bech32.base32.Encode dst src =
      Flow.result (Flow.bind (whileFuelB encCond encBody src.length ((([] : List (BitVec 8)), dst), src))
        (fun st => Flow.done (Gen.Bech32.base32.EncodedLen (BitVec.ofNat 64 src.length), st.1.1 ++ st.1.2))) := rfl

theorem bv_cons (a : UInt8) (l : List UInt8) : bv (a :: l) = a.toBitVec :: bv l := rfl
theorem bv_nil : bv [] = [] := rfl

/-- a full group of 5 bytes: 8 symbols are written (this needs a window of 8 entries) and the loop goes on -/
theorem encBody_5 (d w : List (BitVec 8)) (u0 u1 u2 u3 u4 : UInt8) (rest : List UInt8) (hl : rest.length + 5 < 2 ^ 63) :
    encBody ((d, w), bv (u0 :: u1 :: u2 :: u3 :: u4 :: rest)) =
      if 8 ≤ w.length then .run (false, ((d ++ bv (encQuantum [u0, u1, u2, u3, u4]), w.drop 8), bv rest)) else .panic := by
  have hL : (bv (u0 :: u1 :: u2 :: u3 :: u4 :: rest)).length = rest.length + 5 := by simp [bv]
  have ne : ∀ c : Nat, c < 5 →
      (BitVec.ofNat 64 (bv (u0 :: u1 :: u2 :: u3 :: u4 :: rest)).length == BitVec.ofNat 64 c) = false := by
    intro c hc
    rw [hL, beq_ofNat _ c (by omega) (by omega)]; exact decide_eq_false (by omega)
  have hs : BitVec.slt (BitVec.ofNat 64 (bv (u0 :: u1 :: u2 :: u3 :: u4 :: rest)).length) 5#64 = false := by
    rw [hL, slt_ofNat _ 5 (by omega) (by decide)]; exact decide_eq_false (by omega)
  unfold encBody
  simp only [encC5, encC4, encC3, encC2, encC1, encNext, hs, ne 1 (by decide), ne 2 (by decide), ne 3 (by decide),
    ne 4 (by decide)]
  by_cases h8 : 8 ≤ w.length
  · rw [if_pos h8]
    match w, h8 with
    | w0 :: w1 :: w2 :: w3 :: w4 :: w5 :: w6 :: w7 :: wr, _ =>
      simp [bv, encQuantum_5, Proofs.Base32.e0, Proofs.Base32.e1, Proofs.Base32.e2, Proofs.Base32.e3, Proofs.Base32.e4,
        Proofs.Base32.e5, Proofs.Base32.e6, Proofs.Base32.e7]
  · rw [if_neg h8]
    have : decide (7 < w.length) = false := decide_eq_false (by omega)
    simp [this]

/-- a last group of 1, 2, 3, 4 bytes: 2, 4, 5, 7 symbols are written into the window, which is not moved, and the loop ends
(`break`) -/
theorem encBody_tail (d w : List (BitVec 8)) (src : List UInt8) (h0 : 0 < src.length) (h5 : src.length < 5) :
    encBody ((d, w), bv src) =
      if encodedLen src.length ≤ w.length then
        .run (true, ((d, bv (encQuantum src) ++ w.drop (encodedLen src.length)), bv src))
      else .panic := by
  match src, h0, h5 with
  | [u0], _, _ =>
    rw [show encodedLen [u0].length = 2 from (rfl : encodedLen 1 = 2)]
    by_cases h : 2 ≤ w.length
    · rw [if_pos h]
      match w, h with
      | w0 :: w1 :: wr, _ =>
        simp [encBody, encC5, encC4, encC3, encC2, encC1, encNext, bv, encQuantum_1, Proofs.Base32.e0, Proofs.Base32.e1, BitVec.slt]
    · rw [if_neg h]
      have : w.length ≤ 1 := by omega
      simp [encBody, encC5, encC4, encC3, encC2, encC1, bv, this]
  | [u0, u1], _, _ =>
    rw [show encodedLen [u0, u1].length = 4 from (rfl : encodedLen 2 = 4)]
    by_cases h : 4 ≤ w.length
    · rw [if_pos h]
      match w, h with
      | w0 :: w1 :: w2 :: w3 :: wr, _ =>
        simp [encBody, encC5, encC4, encC3, encC2, encC1, encNext, bv, encQuantum_2, Proofs.Base32.e0, Proofs.Base32.e1, Proofs.Base32.e2, Proofs.Base32.e3, BitVec.slt]
    · rw [if_neg h]
      have : w.length ≤ 3 := by omega
      simp [encBody, encC5, encC4, encC3, encC2, encC1, bv, this]
  | [u0, u1, u2], _, _ =>
    rw [show encodedLen [u0, u1, u2].length = 5 from (rfl : encodedLen 3 = 5)]
    by_cases h : 5 ≤ w.length
    · rw [if_pos h]
      match w, h with
      | w0 :: w1 :: w2 :: w3 :: w4 :: wr, _ =>
        simp [encBody, encC5, encC4, encC3, encC2, encC1, encNext, bv, encQuantum_3, Proofs.Base32.e0, Proofs.Base32.e1, Proofs.Base32.e2, Proofs.Base32.e3, Proofs.Base32.e4, BitVec.slt]
    · rw [if_neg h]
      have : w.length ≤ 4 := by omega
      simp [encBody, encC5, encC4, encC3, encC2, encC1, bv, this]
  | [u0, u1, u2, u3], _, _ =>
    rw [show encodedLen [u0, u1, u2, u3].length = 7 from (rfl : encodedLen 4 = 7)]
    by_cases h : 7 ≤ w.length
    · rw [if_pos h]
      match w, h with
      | w0 :: w1 :: w2 :: w3 :: w4 :: w5 :: w6 :: wr, _ =>
        simp [encBody, encC5, encC4, encC3, encC2, encC1, encNext, bv, encQuantum_4, Proofs.Base32.e0, Proofs.Base32.e1, Proofs.Base32.e2, Proofs.Base32.e3, Proofs.Base32.e4, Proofs.Base32.e5, Proofs.Base32.e6, BitVec.slt]
    · rw [if_neg h]
      have : w.length ≤ 6 := by omega
      simp [encBody, encC5, encC4, encC3, encC2, encC1, bv, this]

theorem encCond_eq (dst : Buf) (src : List (BitVec 8)) (h : src.length < 2 ^ 63) :
    encCond (dst, src) = decide (0 < src.length) :=
  slt_ofNat 0 src.length (by decide) h

theorem encodedLen_add5 (n : Nat) : encodedLen (n + 5) = encodedLen n + 8 := by
  unfold encodedLen; omega

/-- the loop of `Encode` from the state "`d` already passed, window `w`, `src` left", followed by `return n` -/
theorem encLoop (n : BitVec 64) (fuel : Nat) : ∀ (src : List UInt8) (d w : List (BitVec 8)),
    src.length ≤ fuel → src.length < 2 ^ 63 →
    (whileFuelB encCond encBody fuel ((d, w), bv src)).bind
        (fun st => (Flow.done (n, st.1.1 ++ st.1.2) : Flow ER ER)) =
      if encodedLen src.length ≤ w.length then
        .done (n, d ++ bv (b32Encode src) ++ w.drop (encodedLen src.length))
      else .panic := by
  have nil : ∀ (k : Nat) (d w : List (BitVec 8)),
      (whileFuelB encCond encBody k ((d, w), bv [])).bind (fun st => (Flow.done (n, st.1.1 ++ st.1.2) : Flow ER ER)) =
        if encodedLen ([] : List UInt8).length ≤ w.length then
          .done (n, d ++ bv (b32Encode []) ++ w.drop (encodedLen ([] : List UInt8).length))
        else .panic := by
    intro k d w
    have : whileFuelB encCond encBody k ((d, w), bv []) = .run ((d, w), bv []) := by
      cases k with
      | zero => rfl
      | succ k => rw [whileFuelB_succ, encCond_eq _ _ (by simp [bv])]; simp [bv]
    rw [this]
    simp [encodedLen, b32Encode, bv]
  induction fuel with
  | zero =>
    intro src d w hf _
    have : src = [] := List.length_eq_zero_iff.mp (by omega)
    subst this
    exact nil 0 d w
  | succ fuel ih =>
    intro src d w hf hlen
    by_cases h5 : ∃ u0 u1 u2 u3 u4 rest, src = u0 :: u1 :: u2 :: u3 :: u4 :: rest
    · obtain ⟨u0, u1, u2, u3, u4, rest, rfl⟩ := h5
      simp only [List.length_cons] at hf hlen
      rw [whileFuelB_succ, encCond_eq _ _ (by simp [bv]; omega), encBody_5 d w u0 u1 u2 u3 u4 rest (by omega)]
      have hpos : decide (0 < (bv (u0 :: u1 :: u2 :: u3 :: u4 :: rest)).length) = true := by simp [bv]
      rw [hpos, if_pos rfl]
      have hel : encodedLen (u0 :: u1 :: u2 :: u3 :: u4 :: rest).length = encodedLen rest.length + 8 := by
        simp only [List.length_cons]; exact encodedLen_add5 _
      rw [hel, b32Encode_5]
      by_cases h8 : 8 ≤ w.length
      · rw [if_pos h8, Flow.bind_run]
        simp only [Bool.false_eq_true, if_false]
        rw [ih rest _ _ (by omega) (by omega), List.length_drop]
        by_cases hfit : encodedLen rest.length ≤ w.length - 8
        · rw [if_pos hfit, if_pos (by omega)]
          simp only [Bech32Code.bv_append, List.append_assoc, List.drop_drop, Nat.add_comm 8]
        · rw [if_neg hfit, if_neg (by omega)]
      · rw [if_neg h8, Flow.bind_panic, Flow.bind_panic, if_neg (by omega)]
    · have h5 : ∀ a b c d e r, src = a :: b :: c :: d :: e :: r → False := fun a b c d e r e' => h5 ⟨a, b, c, d, e, r, e'⟩
      by_cases hne : src = []
      · subst hne; exact nil (fuel + 1) d w
      have h0 : 0 < src.length := List.length_pos_iff.mpr hne
      rw [whileFuelB_succ, encCond_eq _ _ (by rw [bv_length]; exact hlen), bv_length, decide_eq_true h0, if_pos rfl,
        encBody_tail d w src h0 (length_lt_5 src h5), b32Encode.eq_3 src hne h5]
      by_cases h : encodedLen src.length ≤ w.length
      · rw [if_pos h, if_pos h, List.append_assoc]; rfl
      · rw [if_neg h, if_neg h]; rfl

/-- **`Encode`, complete description** (`len(src) < 2^63` holds for every Go slice).  The minimal destination is
exactly `EncodedLen(len(src))` entries: a full group of 5 bytes needs 8 entries (its first statement is `dst[7] = …`),
a last group of 1, 2, 3, 4 bytes needs 2, 4, 5, 7 (`dst[1]`, `dst[3]`, `dst[4]`, `dst[6]` are written first) — the
same numbers as `EncodedLen`.  With that much room the function does not panic, returns `EncodedLen(len(src))` as
computed in 64-bit arithmetic, has overwritten the first `EncodedLen(len(src))` entries with the model's
`b32Encode src` and left the others untouched; with less room it panics. -/
theorem encode_spec (dst : List (BitVec 8)) (src : List UInt8) (hlen : src.length < 2 ^ 63) :
    Gen.Bech32.base32.Encode dst (bv src) =
      if encodedLen src.length ≤ dst.length then
        some (Gen.Bech32.base32.EncodedLen (BitVec.ofNat 64 src.length),
          bv (b32Encode src) ++ dst.drop (encodedLen src.length))
      else none := by
  rw [Encode_unfold, bv_length, encLoop _ src.length src [] dst (Nat.le_refl _) hlen, apply_ite Flow.result]
  rfl

/-- **`Encode`, enough room** (`len(src) < 2^60`, so that `n*8 + 4` does not overflow; sharp, see
`EncodedLen_overflow`): the result is `EncodedLen(len(src))` of the model and the encoded symbols followed by the
untouched rest of `dst`. -/
theorem encode_eq (dst : List (BitVec 8)) (src : List UInt8) (hlen : src.length < 2 ^ 60)
    (h : encodedLen src.length ≤ dst.length) :
    Gen.Bech32.base32.Encode dst (bv src) =
      some (BitVec.ofNat 64 (encodedLen src.length), bv (b32Encode src) ++ dst.drop (encodedLen src.length)) := by
  rw [encode_spec dst src (by omega), if_pos h, EncodedLen_eq _ hlen]

/-- **`Encode` panics exactly when `dst` is shorter than `EncodedLen(len(src))`.** -/
theorem encode_panics_iff (dst : List (BitVec 8)) (src : List UInt8) (hlen : src.length < 2 ^ 63) :
    Gen.Bech32.base32.Encode dst (bv src) = none ↔ dst.length < encodedLen src.length := by
  rw [encode_spec dst src hlen, ite_eq_right_iff, Nat.not_le.symm]
  exact ⟨fun h hle => Option.some_ne_none _ (h hle), fun h hle => absurd hle h⟩

/-- **no panic with the destination the caller allocates**: `bech32.Encode` passes
`make([]uint8, base32.EncodedLen(len(src))+checksumLength)`; with exactly `EncodedLen(len(src))` entries the whole
destination is the encoding. -/
theorem encode_exact (dst : List (BitVec 8)) (src : List UInt8) (hlen : src.length < 2 ^ 60)
    (h : dst.length = encodedLen src.length) :
    Gen.Bech32.base32.Encode dst (bv src) = some (BitVec.ofNat 64 (encodedLen src.length), bv (b32Encode src)) := by
  rw [encode_eq dst src hlen (by omega), ← h, List.drop_length, List.append_nil]

theorem encode_no_panic (dst : List (BitVec 8)) (src : List UInt8) (hlen : src.length < 2 ^ 63)
    (h : encodedLen src.length ≤ dst.length) : Gen.Bech32.base32.Encode dst (bv src) ≠ none := by
  rw [Ne, encode_panics_iff dst src hlen]; omega

/-! ### `Decode` -/

abbrev DR := BitVec 64 × Option (String × BitVec 64) × List (BitVec 8)
abbrev DSt := Buf × List (BitVec 8) × BitVec 64 × BitVec 64

def decCond (st_1 : DSt) : Bool :=
      let src : List (BitVec 8) := st_1.2.1
      (BitVec.slt 0#64 (BitVec.ofNat 64 src.length))

/-- `default:` — runs for `n ∉ {7,5,4,2}` -/
def decC8 (sw_2 : BitVec 64) (src : List (BitVec 8)) (dst : Buf) (written : BitVec 64) : Flow DR (Buf × BitVec 64) :=
      (if (!((sw_2 == 7#64) || (sw_2 == 5#64) || (sw_2 == 4#64) || (sw_2 == 2#64))) then
          if !(decide (4 < dst.2.length)) then Go.Flow.panic else
          if !(decide (6 < src.length)) then Go.Flow.panic else
          if !(decide (7 < src.length)) then Go.Flow.panic else
          let dst : (List (BitVec 8) × List (BitVec 8)) := (dst.1, dst.2.set 4 (((src.getD 6 0#8) <<< 5) ||| (src.getD 7 0#8)))
          let written : BitVec 64 := (written + 1#64)
          Go.Flow.run (dst, written)
        else
          Go.Flow.run (dst, written))

def decC7 (sw_2 : BitVec 64) (src : List (BitVec 8)) (dst : Buf) (written : BitVec 64) : Flow DR (Buf × BitVec 64) :=
      (if ((!((sw_2 == 7#64) || (sw_2 == 5#64) || (sw_2 == 4#64) || (sw_2 == 2#64))) || (sw_2 == 7#64)) then
          if !(decide (3 < dst.2.length)) then Go.Flow.panic else
          if !(decide (4 < src.length)) then Go.Flow.panic else
          if !(decide (5 < src.length)) then Go.Flow.panic else
          if !(decide (6 < src.length)) then Go.Flow.panic else
          let dst : (List (BitVec 8) × List (BitVec 8)) := (dst.1, dst.2.set 3 ((((src.getD 4 0#8) <<< 7) ||| ((src.getD 5 0#8) <<< 2)) ||| ((src.getD 6 0#8) >>> 3)))
          let written : BitVec 64 := (written + 1#64)
          Go.Flow.run (dst, written)
        else
          Go.Flow.run (dst, written))

def decC5 (sw_2 : BitVec 64) (src : List (BitVec 8)) (dst : Buf) (written : BitVec 64) : Flow DR (Buf × BitVec 64) :=
      (if ((!((sw_2 == 7#64) || (sw_2 == 5#64) || (sw_2 == 4#64) || (sw_2 == 2#64))) || (sw_2 == 7#64) || (sw_2 == 5#64)) then
          if !(decide (2 < dst.2.length)) then Go.Flow.panic else
          if !(decide (3 < src.length)) then Go.Flow.panic else
          if !(decide (4 < src.length)) then Go.Flow.panic else
          let dst : (List (BitVec 8) × List (BitVec 8)) := (dst.1, dst.2.set 2 (((src.getD 3 0#8) <<< 4) ||| ((src.getD 4 0#8) >>> 1)))
          let written : BitVec 64 := (written + 1#64)
          Go.Flow.run (dst, written)
        else
          Go.Flow.run (dst, written))

def decC4 (sw_2 : BitVec 64) (src : List (BitVec 8)) (dst : Buf) (written : BitVec 64) : Flow DR (Buf × BitVec 64) :=
      (if ((!((sw_2 == 7#64) || (sw_2 == 5#64) || (sw_2 == 4#64) || (sw_2 == 2#64))) || (sw_2 == 7#64) || (sw_2 == 5#64) || (sw_2 == 4#64)) then
          if !(decide (1 < dst.2.length)) then Go.Flow.panic else
          if !(decide (1 < src.length)) then Go.Flow.panic else
          if !(decide (2 < src.length)) then Go.Flow.panic else
          if !(decide (3 < src.length)) then Go.Flow.panic else
          let dst : (List (BitVec 8) × List (BitVec 8)) := (dst.1, dst.2.set 1 ((((src.getD 1 0#8) <<< 6) ||| ((src.getD 2 0#8) <<< 1)) ||| ((src.getD 3 0#8) >>> 4)))
          let written : BitVec 64 := (written + 1#64)
          Go.Flow.run (dst, written)
        else
          Go.Flow.run (dst, written))

def decC2 (sw_2 : BitVec 64) (src : List (BitVec 8)) (dst : Buf) (written : BitVec 64) : Flow DR (Buf × BitVec 64) :=
      (if ((!((sw_2 == 7#64) || (sw_2 == 5#64) || (sw_2 == 4#64) || (sw_2 == 2#64))) || (sw_2 == 7#64) || (sw_2 == 5#64) || (sw_2 == 4#64) || (sw_2 == 2#64)) then
          if !(decide (0 < dst.2.length)) then Go.Flow.panic else
          if !(decide (0 < src.length)) then Go.Flow.panic else
          if !(decide (1 < src.length)) then Go.Flow.panic else
          let dst : (List (BitVec 8) × List (BitVec 8)) := (dst.1, dst.2.set 0 (((src.getD 0 0#8) <<< 3) ||| ((src.getD 1 0#8) >>> 2)))
          let written : BitVec 64 := (written + 1#64)
          Go.Flow.run (dst, written)
        else
          Go.Flow.run (dst, written))

/-- `if n < 8 { switch { …padding… }; break }; dst = dst[5:]; src = src[8:]; read += 8` -/
def decNext (n : BitVec 64) (src : List (BitVec 8)) (dst : Buf) (written read : BitVec 64) : Flow DR (Bool × DSt) :=
      if (BitVec.slt n 8#64) then
        if !(!(n == 2#64) || (decide (1 < src.length))) then Go.Flow.panic else
        if ((n == 2#64) && (((src.getD 1 0#8) &&& 3#8) != 0#8)) then
          Go.Flow.done (written, (some ("ErrNonZeroPadding", (read + 1#64))), (dst.1 ++ dst.2))
        else
        if !(!(n == 4#64) || (decide (3 < src.length))) then Go.Flow.panic else
        if ((n == 4#64) && (((src.getD 3 0#8) &&& 15#8) != 0#8)) then
          Go.Flow.done (written, (some ("ErrNonZeroPadding", (read + 3#64))), (dst.1 ++ dst.2))
        else
        if !(!(n == 5#64) || (decide (4 < src.length))) then Go.Flow.panic else
        if ((n == 5#64) && (((src.getD 4 0#8) &&& 1#8) != 0#8)) then
          Go.Flow.done (written, (some ("ErrNonZeroPadding", (read + 4#64))), (dst.1 ++ dst.2))
        else
        if !(!(n == 7#64) || (decide (6 < src.length))) then Go.Flow.panic else
        if ((n == 7#64) && (((src.getD 6 0#8) &&& 7#8) != 0#8)) then
          Go.Flow.done (written, (some ("ErrNonZeroPadding", (read + 6#64))), (dst.1 ++ dst.2))
        else
        Go.Flow.run (true, (dst, src, written, read))
      else
      if !(decide (5 ≤ dst.2.length)) then Go.Flow.panic else
      let dst : (List (BitVec 8) × List (BitVec 8)) := (dst.1 ++ dst.2.take 5, dst.2.drop 5)
      if !(decide (8 ≤ src.length)) then Go.Flow.panic else
      let src : List (BitVec 8) := (src.drop 8)
      let read : BitVec 64 := (read + 8#64)
      Go.Flow.run (false, (dst, src, written, read))

/-- the loop body, as generated (cut into the clauses of the switch) -/
def decBody (st_1 : DSt) : Flow DR (Bool × DSt) :=
      let dst : (List (BitVec 8) × List (BitVec 8)) := st_1.1
      let src : List (BitVec 8) := st_1.2.1
      let written : BitVec 64 := st_1.2.2.1
      let read : BitVec 64 := st_1.2.2.2
      let n : BitVec 64 := (BitVec.ofNat 64 src.length)
      if (((n == 1#64) || (n == 3#64)) || (n == 6#64)) then
        Go.Flow.done (written, (some ("ErrInvalidLength", read)), (dst.1 ++ dst.2))
      else
      let sw_2 : BitVec 64 := n
      Go.Flow.bind (decC8 sw_2 src dst written) (fun (st_3 : (List (BitVec 8) × List (BitVec 8)) × BitVec 64) =>
      Go.Flow.bind (decC7 sw_2 src st_3.1 st_3.2) (fun (st_4 : (List (BitVec 8) × List (BitVec 8)) × BitVec 64) =>
      Go.Flow.bind (decC5 sw_2 src st_4.1 st_4.2) (fun (st_5 : (List (BitVec 8) × List (BitVec 8)) × BitVec 64) =>
      Go.Flow.bind (decC4 sw_2 src st_5.1 st_5.2) (fun (st_6 : (List (BitVec 8) × List (BitVec 8)) × BitVec 64) =>
      Go.Flow.bind (decC2 sw_2 src st_6.1 st_6.2) (fun (st_7 : (List (BitVec 8) × List (BitVec 8)) × BitVec 64) =>
      decNext n src st_7.1 st_7.2 read)))))

theorem Decode_unfold (dst src : List (BitVec 8)) :
    Gen.Bech32.base32.Decode dst src =
      Flow.result (Flow.bind (whileFuelB decCond decBody src.length ((([] : List (BitVec 8)), dst), src, 0#64, 0#64))
        (fun st => Flow.done (st.2.2.1, (none : Option (String × BitVec 64)), st.1.1 ++ st.1.2))) := rfl

theorem decCond_eq (dst : Buf) (src : List (BitVec 8)) (kw kr : BitVec 64) (h : src.length < 2 ^ 63) :
    decCond (dst, src, kw, kr) = decide (0 < src.length) :=
  slt_ofNat 0 src.length (by decide) h

/-- a full group of 8 symbols: 5 bytes are written (this needs a window of 5 entries) and the loop goes on -/
theorem decBody_8 (d w : List (BitVec 8)) (kw kr : BitVec 64) (s0 s1 s2 s3 s4 s5 s6 s7 : UInt8) (rest : List UInt8)
    (hl : rest.length + 8 < 2 ^ 63) :
    decBody ((d, w), bv (s0 :: s1 :: s2 :: s3 :: s4 :: s5 :: s6 :: s7 :: rest), kw, kr) =
      if 5 ≤ w.length then
        .run (false, ((d ++ bv (decQuantum [s0, s1, s2, s3, s4, s5, s6, s7]), w.drop 5), bv rest,
          kw + 1#64 + 1#64 + 1#64 + 1#64 + 1#64, kr + 8#64))
      else .panic := by
  have hL : (bv (s0 :: s1 :: s2 :: s3 :: s4 :: s5 :: s6 :: s7 :: rest)).length = rest.length + 8 := by simp [bv]
  have ne : ∀ c : Nat, c < 8 →
      (BitVec.ofNat 64 (bv (s0 :: s1 :: s2 :: s3 :: s4 :: s5 :: s6 :: s7 :: rest)).length == BitVec.ofNat 64 c) = false := by
    intro c hc
    rw [hL, beq_ofNat _ c (by omega) (by omega)]; exact decide_eq_false (by omega)
  have hs : BitVec.slt (BitVec.ofNat 64 (bv (s0 :: s1 :: s2 :: s3 :: s4 :: s5 :: s6 :: s7 :: rest)).length) 8#64 = false := by
    rw [hL, slt_ofNat _ 8 (by omega) (by decide)]; exact decide_eq_false (by omega)
  unfold decBody
  simp only [decC8, decC7, decC5, decC4, decC2, decNext, hs,
    ne 1 (by decide), ne 2 (by decide), ne 3 (by decide), ne 4 (by decide), ne 5 (by decide), ne 6 (by decide), ne 7 (by decide)]
  by_cases h5 : 5 ≤ w.length
  · rw [if_pos h5]
    match w, h5 with
    | w0 :: w1 :: w2 :: w3 :: w4 :: wr, _ =>
      simp [bv, decQuantum_8, Proofs.Base32.o0, Proofs.Base32.o1, Proofs.Base32.o2, Proofs.Base32.o3, Proofs.Base32.o4]
  · rw [if_neg h5]
    have : w.length ≤ 4 := by omega
    simp [this]

/-- the padding test on a symbol of `src`: the translated code and the model agree -/
theorem pad_bv (src : List UInt8) (i : Nat) (m : UInt8) (m' : BitVec 8) (hm : m.toBitVec = m') :
    (((bv src).getD i 0#8 &&& m') != 0#8) = decide (src.getD i 0 &&& m ≠ 0) := by
  rw [bv_getD, ← hm, ← UInt8.toBitVec_and, bne, show (0#8 : BitVec 8) = (0 : UInt8).toBitVec from rfl]
  by_cases h : src.getD i 0 &&& m = 0
  · rw [h, decide_eq_false (not_not_intro rfl)]; rfl
  · rw [decide_eq_true h, beq_eq_false_iff_ne.mpr (fun e => h (UInt8.toBitVec_inj.mp e))]; rfl

/-- on a last group of fewer than 8 symbols the padding switch is the model's `padCheck`: `ErrNonZeroPadding` at the offset of
the last symbol, or the loop ends (`break`); the index tests before the reads of `src` pass -/
theorem decNext_tail (src : List UInt8) (h8 : src.length < 8) (dst : Buf) (kw : BitVec 64) (r : Nat) :
    decNext (BitVec.ofNat 64 (bv src).length) (bv src) dst kw (BitVec.ofNat 64 r) =
      match padCheck src with
      | some off => .done (kw, some ("ErrNonZeroPadding", BitVec.ofNat 64 (r + off)), dst.1 ++ dst.2)
      | none => .run (true, (dst, bv src, kw, BitVec.ofNat 64 r)) := by
  have eq : ∀ c : Nat, c < 8 → (BitVec.ofNat 64 src.length == BitVec.ofNat 64 c) = decide (src.length = c) :=
    fun c hc => beq_ofNat _ c (by omega) (by omega)
  have ck : ∀ c i : Nat, i < c → (!(!decide (src.length = c) || decide (i < src.length))) = false := by
    intro c i hi
    by_cases e : src.length = c
    · rw [decide_eq_true e, decide_eq_true (e ▸ hi)]; rfl
    · rw [decide_eq_false e]; rfl
  unfold decNext padCheck
  rw [bv_length, slt_ofNat _ 8 (by omega) (by decide), decide_eq_true h8, if_pos rfl]
  simp only [eq 2 (by decide), eq 4 (by decide), eq 5 (by decide), eq 7 (by decide), pad_bv src 1 3 3#8 rfl,
    pad_bv src 3 15 15#8 rfl, pad_bv src 4 1 1#8 rfl, pad_bv src 6 7 7#8 rfl, ck 2 1 (by decide), ck 4 3 (by decide),
    ck 5 4 (by decide), ck 7 6 (by decide), Bool.false_eq_true, if_false, Bool.and_eq_true, decide_eq_true_eq,
    ← BitVec.ofNat_add, apply_ite (fun o : Option Nat => (match o with
      | some off => .done (kw, some ("ErrNonZeroPadding", BitVec.ofNat 64 (r + off)), dst.1 ++ dst.2)
      | none => .run (true, (dst, bv src, kw, BitVec.ofNat 64 r)) : Flow DR (Bool × DSt)))]

/-- a last group of 1 … 7 symbols, with `k` bytes written and `r` symbols read so far.  1, 3 or 6 symbols: `ErrInvalidLength`
at the current read offset, nothing written.  Otherwise the bytes of the group are written into the window (which is not
moved; this needs room for them), then the padding is tested (`decNext_tail`). -/
theorem decBody_tail (d w : List (BitVec 8)) (k r : Nat) (src : List UInt8) (h0 : 0 < src.length) (h8 : src.length < 8) :
    decBody ((d, w), bv src, BitVec.ofNat 64 k, BitVec.ofNat 64 r) =
      if src.length = 1 ∨ src.length = 3 ∨ src.length = 6 then
        .done (BitVec.ofNat 64 k, some ("ErrInvalidLength", BitVec.ofNat 64 r), d ++ w)
      else if (decQuantum src).length ≤ w.length then
        match padCheck src with
        | some off => .done (BitVec.ofNat 64 (k + (decQuantum src).length),
            some ("ErrNonZeroPadding", BitVec.ofNat 64 (r + off)), d ++ (bv (decQuantum src) ++ w.drop (decQuantum src).length))
        | none => .run (true, ((d, bv (decQuantum src) ++ w.drop (decQuantum src).length), bv src,
            BitVec.ofNat 64 (k + (decQuantum src).length), BitVec.ofNat 64 r))
      else .panic := by
  simp only [decBody, decNext_tail src h8]
  match src, h0, h8 with
  | [s0], _, _ => simp [bv]
  | [s0, s1, s2], _, _ => simp [bv]
  | [s0, s1, s2, s3, s4, s5], _, _ => simp [bv]
  | [s0, s1], _, _ =>
    by_cases h : 1 ≤ w.length
    · match w, h with
      | w0 :: wr, _ => simp [decC8, decC7, decC5, decC4, decC2, bv, decQuantum_2, Proofs.Base32.o0, ← BitVec.ofNat_add]
    · have : w = [] := List.length_eq_zero_iff.mp (by omega)
      simp [decC8, decC7, decC5, decC4, decC2, bv, decQuantum_2, this]
  | [s0, s1, s2, s3], _, _ =>
    by_cases h : 2 ≤ w.length
    · match w, h with
      | w0 :: w1 :: wr, _ =>
        simp [decC8, decC7, decC5, decC4, decC2, bv, decQuantum_4, Proofs.Base32.o0, Proofs.Base32.o1, ← BitVec.ofNat_add]
    · have : w.length ≤ 1 := by omega
      simp [decC8, decC7, decC5, decC4, decC2, bv, decQuantum_4, h, this]
  | [s0, s1, s2, s3, s4], _, _ =>
    by_cases h : 3 ≤ w.length
    · match w, h with
      | w0 :: w1 :: w2 :: wr, _ =>
        simp [decC8, decC7, decC5, decC4, decC2, bv, decQuantum_5, Proofs.Base32.o0, Proofs.Base32.o1, Proofs.Base32.o2,
          ← BitVec.ofNat_add]
    · have : w.length ≤ 2 := by omega
      simp [decC8, decC7, decC5, decC4, decC2, bv, decQuantum_5, h, this]
  | [s0, s1, s2, s3, s4, s5, s6], _, _ =>
    by_cases h : 4 ≤ w.length
    · match w, h with
      | w0 :: w1 :: w2 :: w3 :: wr, _ =>
        simp [decC8, decC7, decC5, decC4, decC2, bv, decQuantum_7, Proofs.Base32.o0, Proofs.Base32.o1, Proofs.Base32.o2,
          Proofs.Base32.o3, ← BitVec.ofNat_add]
    · have : w.length ≤ 3 := by omega
      simp [decC8, decC7, decC5, decC4, decC2, bv, decQuantum_7, h, this]

/-! #### what the model says, and what it does not say

`b32Decode` returns either the bytes or `(error, offset)`; in the error case it drops the bytes decoded before the
error, which Go has written into `dst` and counts in its first result.  `decBytes src` is that observable output: the
bytes of all groups decoded when `Decode` returns (on success all of them; with `ErrNonZeroPadding` all of them as
well — the test comes after the last group has been written; with `ErrInvalidLength` those of the full groups). -/

def decBytes : List UInt8 → List UInt8
  | s0 :: s1 :: s2 :: s3 :: s4 :: s5 :: s6 :: s7 :: rest => decQuantum [s0, s1, s2, s3, s4, s5, s6, s7] ++ decBytes rest
  | tail => if tail.length = 0 ∨ tail.length = 1 ∨ tail.length = 3 ∨ tail.length = 6 then [] else decQuantum tail

theorem decBytes_8 (s0 s1 s2 s3 s4 s5 s6 s7 : UInt8) (rest : List UInt8) :
    decBytes (s0 :: s1 :: s2 :: s3 :: s4 :: s5 :: s6 :: s7 :: rest) =
      decQuantum [s0, s1, s2, s3, s4, s5, s6, s7] ++ decBytes rest := by
  rw [decBytes]

/-- the names of the package variables `ErrInvalidLength`, `ErrNonZeroPadding` -/
def errName : B32Err → String
  | .invalidLength => "ErrInvalidLength"
  | .nonZeroPadding => "ErrNonZeroPadding"

/-- the `error` result of `Decode`: `nil`, or `&CorruptInputError{Err…, offset}` -/
def errOf : Except (B32Err × Nat) (List UInt8) → Option (String × BitVec 64)
  | .ok _ => none
  | .error (e, off) => some (errName e, BitVec.ofNat 64 off)

theorem errOf_8 (r : Nat) (s0 s1 s2 s3 s4 s5 s6 s7 : UInt8) (rest : List UInt8) :
    errOf (b32DecodeAux r (s0 :: s1 :: s2 :: s3 :: s4 :: s5 :: s6 :: s7 :: rest)) = errOf (b32DecodeAux (r + 8) rest) := by
  rw [decodeAux_8]
  cases b32DecodeAux (r + 8) rest <;> rfl

abbrev decRet : DSt → Flow DR DR :=
  fun st => Flow.done (st.2.2.1, (none : Option (String × BitVec 64)), st.1.1 ++ st.1.2)

/-- the loop of `Decode` from the state "`d` already passed, window `w`, `src` left, `k` bytes written, `r` symbols
read", followed by `return written, nil` -/
theorem decLoop (fuel : Nat) : ∀ (src : List UInt8) (d w : List (BitVec 8)) (k r : Nat),
    src.length ≤ fuel → src.length < 2 ^ 63 →
    (whileFuelB decCond decBody fuel ((d, w), bv src, BitVec.ofNat 64 k, BitVec.ofNat 64 r)).bind decRet =
      if (decBytes src).length ≤ w.length then
        .done (BitVec.ofNat 64 (k + (decBytes src).length), errOf (b32DecodeAux r src),
          d ++ bv (decBytes src) ++ w.drop (decBytes src).length)
      else .panic := by
  have nil : ∀ (f : Nat) (d w : List (BitVec 8)) (k r : Nat),
      (whileFuelB decCond decBody f ((d, w), bv [], BitVec.ofNat 64 k, BitVec.ofNat 64 r)).bind decRet =
        if (decBytes []).length ≤ w.length then
          .done (BitVec.ofNat 64 (k + (decBytes []).length), errOf (b32DecodeAux r []),
            d ++ bv (decBytes []) ++ w.drop (decBytes []).length)
        else .panic := by
    intro f d w k r
    have : whileFuelB decCond decBody f ((d, w), bv [], BitVec.ofNat 64 k, BitVec.ofNat 64 r) =
        .run ((d, w), bv [], BitVec.ofNat 64 k, BitVec.ofNat 64 r) := by
      cases f with
      | zero => rfl
      | succ f => rw [whileFuelB_succ, decCond_eq _ _ _ _ (by simp [bv])]; simp [bv]
    rw [this]
    simp [decBytes, b32DecodeAux, errOf, bv, decRet]
  induction fuel with
  | zero =>
    intro src d w k r hf _
    have : src = [] := List.length_eq_zero_iff.mp (by omega)
    subst this
    exact nil 0 d w k r
  | succ fuel ih =>
    intro src d w k r hf hlen
    by_cases h8 : ∃ s0 s1 s2 s3 s4 s5 s6 s7 rest, src = s0 :: s1 :: s2 :: s3 :: s4 :: s5 :: s6 :: s7 :: rest
    · obtain ⟨s0, s1, s2, s3, s4, s5, s6, s7, rest, rfl⟩ := h8
      simp only [List.length_cons] at hf hlen
      rw [whileFuelB_succ, decCond_eq _ _ _ _ (by simp [bv]; omega),
        decBody_8 d w _ _ s0 s1 s2 s3 s4 s5 s6 s7 rest (by omega)]
      have hpos : decide (0 < (bv (s0 :: s1 :: s2 :: s3 :: s4 :: s5 :: s6 :: s7 :: rest)).length) = true := by simp [bv]
      have hq : (decQuantum [s0, s1, s2, s3, s4, s5, s6, s7]).length = 5 := by simp [decQuantum_8]
      rw [hpos, if_pos rfl, decBytes_8, errOf_8, List.length_append, hq]
      by_cases h5 : 5 ≤ w.length
      · rw [if_pos h5, Flow.bind_run]
        simp only [Bool.false_eq_true, if_false, ← BitVec.ofNat_add]
        rw [ih rest _ _ _ _ (by omega) (by omega), List.length_drop]
        by_cases hfit : (decBytes rest).length ≤ w.length - 5
        · rw [if_pos hfit, if_pos (by omega)]
          simp only [Bech32Code.bv_append, List.append_assoc, List.drop_drop]
          rw [show k + 1 + 1 + 1 + 1 + 1 + (decBytes rest).length = k + (5 + (decBytes rest).length) by omega]
        · rw [if_neg hfit, if_neg (by omega)]
      · rw [if_neg h5, Flow.bind_panic, Flow.bind_panic, if_neg (by omega)]
    · have h8 : ∀ s0 s1 s2 s3 s4 s5 s6 s7 rest, src = s0 :: s1 :: s2 :: s3 :: s4 :: s5 :: s6 :: s7 :: rest → False :=
        fun s0 s1 s2 s3 s4 s5 s6 s7 rest e => h8 ⟨s0, s1, s2, s3, s4, s5, s6, s7, rest, e⟩
      by_cases hne : src = []
      · subst hne; exact nil (fuel + 1) d w k r
      have h0 : 0 < src.length := List.length_pos_iff.mpr hne
      have hl8 := length_lt_8 src h8
      rw [whileFuelB_succ, decCond_eq _ _ _ _ (by rw [bv_length]; exact hlen), bv_length, decide_eq_true h0, if_pos rfl,
        decBody_tail d w k r src h0 hl8, b32DecodeAux.eq_3 r src hne h8]
      by_cases hbad : src.length = 1 ∨ src.length = 3 ∨ src.length = 6
      · rw [if_pos hbad, if_pos hbad, show decBytes src = [] by rw [decBytes.eq_2 src h8, if_pos (.inr hbad)]]
        simp [errOf, Base32Code.errName, bv]
      · rw [if_neg hbad, if_neg hbad, show decBytes src = decQuantum src by rw [decBytes.eq_2 src h8, if_neg (by omega)]]
        by_cases hfit : (decQuantum src).length ≤ w.length
        · rw [if_pos hfit, if_pos hfit]
          cases padCheck src <;> simp [errOf, Base32Code.errName, decRet]
        · rw [if_neg hfit, if_neg hfit]; rfl

/-- **`Decode`, complete description** (`len(src) < 2^63` holds for every Go slice; the symbols are ARBITRARY bytes,
nothing is assumed about them being below 32).  The minimal destination is `len(decBytes src)` entries (see
`decBytes_length`: 5 per full group of 8 symbols, and 0, 0, 1, 0, 2, 3, 0, 4 for a last group of 0 … 7 symbols).  With
that much room the function does not panic: it returns the number of bytes written, the error of the model
(`nil`, or `&CorruptInputError{Err…, offset}` with the model's offset), and has overwritten exactly the first
`len(decBytes src)` entries of `dst` with `decBytes src`; with less room it panics. -/
theorem decode_spec (dst : List (BitVec 8)) (src : List UInt8) (hlen : src.length < 2 ^ 63) :
    Gen.Bech32.base32.Decode dst (bv src) =
      if (decBytes src).length ≤ dst.length then
        some (BitVec.ofNat 64 (decBytes src).length, errOf (b32Decode src),
          bv (decBytes src) ++ dst.drop (decBytes src).length)
      else none := by
  rw [Decode_unfold, bv_length]
  have := decLoop src.length src [] dst 0 0 (Nat.le_refl _) hlen
  unfold decRet at this
  rw [show (0#64 : BitVec 64) = BitVec.ofNat 64 0 from rfl, this, apply_ite Flow.result, Nat.zero_add]
  rfl

/-- what the model's verdict says about the length of `src` and about `decBytes src`: on success the model returns
exactly the bytes that were written, for a length that is not 1, 3, 6 (mod 8); `ErrInvalidLength` is reported for a last
group of 1, 3 or 6 symbols, at the offset of that group; `ErrNonZeroPadding` for a last group of 2, 4, 5 or 7 symbols, at
the offset of its last symbol -/
theorem decodeAux_cases (src : List UInt8) (r : Nat) :
    match b32DecodeAux r src with
    | .ok bytes => decBytes src = bytes ∧ ¬ (src.length % 8 = 1 ∨ src.length % 8 = 3 ∨ src.length % 8 = 6)
    | .error (.invalidLength, off) =>
      (src.length % 8 = 1 ∨ src.length % 8 = 3 ∨ src.length % 8 = 6) ∧ off = r + 8 * (src.length / 8)
    | .error (.nonZeroPadding, off) =>
      (src.length % 8 = 2 ∨ src.length % 8 = 4 ∨ src.length % 8 = 5 ∨ src.length % 8 = 7) ∧ off + 1 = r + src.length := by
  fun_induction b32DecodeAux r src with
  | case1 read => exact ⟨rfl, by decide⟩
  | case2 read s0 s1 s2 s3 s4 s5 s6 s7 rest bs hrec ih =>
    rw [hrec] at ih
    refine ⟨by rw [decBytes_8, ih.1], ?_⟩
    show ¬ ((rest.length + 8) % 8 = 1 ∨ (rest.length + 8) % 8 = 3 ∨ (rest.length + 8) % 8 = 6)
    rw [Nat.add_mod_right]; exact ih.2
  | case3 read s0 s1 s2 s3 s4 s5 s6 s7 rest e hrec ih =>
    rw [hrec] at ih
    obtain ⟨_ | _, off⟩ := e
    · show ((rest.length + 8) % 8 = 1 ∨ (rest.length + 8) % 8 = 3 ∨ (rest.length + 8) % 8 = 6) ∧
        off = read + 8 * ((rest.length + 8) / 8)
      rw [Nat.add_mod_right, Nat.add_div_right _ (by decide)]
      exact ⟨ih.1, by rw [ih.2]; omega⟩
    · show ((rest.length + 8) % 8 = 2 ∨ (rest.length + 8) % 8 = 4 ∨ (rest.length + 8) % 8 = 5 ∨
        (rest.length + 8) % 8 = 7) ∧ off + 1 = read + (rest.length + 8)
      rw [Nat.add_mod_right]
      exact ⟨ih.1, by rw [ih.2]; omega⟩
  | case4 read tail hne h8 hl =>
    have hlt := length_lt_8 tail h8
    show _ ∧ read = _
    rw [Nat.mod_eq_of_lt hlt, Nat.div_eq_of_lt hlt]; exact ⟨hl, rfl⟩
  | case5 read tail hne h8 hl off hpad =>
    have hlt := length_lt_8 tail h8
    have := List.length_pos_iff.mpr hne
    show _ ∧ read + off + 1 = _
    rw [Nat.mod_eq_of_lt hlt, Nat.add_assoc, padCheck_some tail off hpad]; exact ⟨by omega, rfl⟩
  | case6 read tail hne h8 hl hpad =>
    have hlt := length_lt_8 tail h8
    have := List.length_pos_iff.mpr hne
    show decBytes tail = _ ∧ _
    rw [Nat.mod_eq_of_lt hlt]
    exact ⟨by rw [decBytes.eq_2 tail h8, if_neg (by omega)], hl⟩

theorem decBytes_of_ok (src : List UInt8) (r : Nat) (bytes : List UInt8) (h : b32DecodeAux r src = .ok bytes) :
    decBytes src = bytes := by
  have := decodeAux_cases src r
  rw [h] at this
  exact this.1

/-- the true minimal length of `dst` for `n` symbols: `DecodedLen(n)`, except for the invalid lengths `n % 8 ∈ {3, 6}`,
where `Decode` returns `ErrInvalidLength` before it writes the last group (1 resp. 3 bytes less) -/
def minDst (n : Nat) : Nat := if n % 8 = 3 ∨ n % 8 = 6 then 5 * (n / 8) else decodedLen n

theorem minDst_le (n : Nat) : minDst n ≤ decodedLen n := by
  unfold minDst decodedLen; split <;> omega

theorem minDst_add8 (n : Nat) : minDst (n + 8) = minDst n + 5 := by
  unfold minDst decodedLen
  rw [Nat.add_mod_right, Nat.add_div_right n (by decide)]
  split <;> omega

theorem decBytes_length (src : List UInt8) : (decBytes src).length = minDst src.length := by
  fun_induction decBytes src with
  | case1 s0 s1 s2 s3 s4 s5 s6 s7 rest ih =>
    rw [List.length_append, ih, decQuantum_8]
    exact ((minDst_add8 rest.length).trans (Nat.add_comm _ _)).symm
  | case2 tail h8 hl => rcases hl with h | h | h | h <;> rw [h] <;> rfl
  | case3 tail h8 hl =>
    have hk : tail.length = 2 ∨ tail.length = 4 ∨ tail.length = 5 ∨ tail.length = 7 := by
      have := length_lt_8 tail h8; omega
    rw [(decQuantum_pad tail hk).1]
    rcases hk with h | h | h | h <;> rw [h] <;> rfl

/-- with `ErrInvalidLength` at offset `off` the bytes written are the decoding of the `off` symbols before it -/
theorem decode_prefix (src : List UInt8) (r : Nat) (h : src.length % 8 = 1 ∨ src.length % 8 = 3 ∨ src.length % 8 = 6) :
    b32DecodeAux r (src.take (8 * (src.length / 8))) = .ok (decBytes src) := by
  fun_induction decBytes src generalizing r with
  | case1 s0 s1 s2 s3 s4 s5 s6 s7 rest ih =>
    change (rest.length + 8) % 8 = 1 ∨ (rest.length + 8) % 8 = 3 ∨ (rest.length + 8) % 8 = 6 at h
    show b32DecodeAux r (List.take (8 * ((rest.length + 8) / 8)) _) = _
    rw [Nat.add_mod_right] at h
    rw [Nat.add_div_right _ (by decide), Nat.mul_succ]
    simp only [List.take_succ_cons]
    rw [decodeAux_8, ih (r + 8) h]
  | case2 tail h8 hl => rw [Nat.div_eq_of_lt (length_lt_8 tail h8), List.take_zero]; rfl
  | case3 tail h8 hl => have := length_lt_8 tail h8; omega

/-! #### the statements in the form the properties use -/

/-- **`Decode`, model accepts**: if the model returns `bytes` and they fit into `dst`, the Go function returns
`(len(bytes), nil)` and has overwritten exactly the first `len(bytes)` entries of `dst` with `bytes`. -/
theorem decode_ok (dst : List (BitVec 8)) (src bytes : List UInt8) (hlen : src.length < 2 ^ 63)
    (hm : b32Decode src = .ok bytes) (hfit : bytes.length ≤ dst.length) :
    Gen.Bech32.base32.Decode dst (bv src) =
      some (BitVec.ofNat 64 bytes.length, none, bv bytes ++ dst.drop bytes.length) := by
  have hb := decBytes_of_ok src 0 bytes hm
  rw [decode_spec dst src hlen, hb, if_pos hfit, hm]; rfl

/-- **`Decode`, model rejects** with `(e, off)`: the Go function returns `&CorruptInputError{e, off}` and as first
result the number of bytes of `decBytes src` — the bytes written before the error, which the model's `Except` does
not keep; they are what `dst` starts with on return.  Their number is `5 * (off / 8)` for `ErrInvalidLength` (and they
are the decoding of the first `off` symbols, `decode_prefix`), and `DecodedLen(len(src))` for `ErrNonZeroPadding`. -/
theorem decode_error (dst : List (BitVec 8)) (src : List UInt8) (e : B32Err) (off : Nat) (hlen : src.length < 2 ^ 63)
    (hm : b32Decode src = .error (e, off)) (hfit : (decBytes src).length ≤ dst.length) :
    Gen.Bech32.base32.Decode dst (bv src) =
      some (BitVec.ofNat 64 (decBytes src).length, some (errName e, BitVec.ofNat 64 off),
        bv (decBytes src) ++ dst.drop (decBytes src).length) := by
  rw [decode_spec dst src hlen, if_pos hfit, hm]; rfl

theorem written_invalidLength (src : List UInt8) (off : Nat) (hm : b32Decode src = .error (.invalidLength, off)) :
    off = 8 * (src.length / 8) ∧ (decBytes src).length = 5 * (off / 8) ∧ b32Decode (src.take off) = .ok (decBytes src) := by
  have h := decodeAux_cases src 0
  rw [show b32DecodeAux 0 src = _ from hm] at h
  have hoff : off = 8 * (src.length / 8) := h.2.trans (Nat.zero_add _)
  refine ⟨hoff, ?_, ?_⟩
  · rw [decBytes_length, hoff, Nat.mul_div_cancel_left _ (by decide)]
    unfold minDst decodedLen
    split
    · rfl
    · omega
  · rw [hoff]; exact decode_prefix src 0 h.1

theorem written_nonZeroPadding (src : List UInt8) (off : Nat) (hm : b32Decode src = .error (.nonZeroPadding, off)) :
    off + 1 = src.length ∧ (decBytes src).length = decodedLen src.length := by
  have h := decodeAux_cases src 0
  rw [show b32DecodeAux 0 src = _ from hm] at h
  refine ⟨by omega, ?_⟩
  rw [decBytes_length, minDst, if_neg (by omega)]

/-- conversely, what the Go function returns determines the verdict of the model: `nil` only if the model accepts … -/
theorem ok_of_decode (dst : List (BitVec 8)) (src : List UInt8) (hlen : src.length < 2 ^ 63)
    (w : BitVec 64) (buf : List (BitVec 8)) (h : Gen.Bech32.base32.Decode dst (bv src) = some (w, none, buf)) :
    ∃ bytes, b32Decode src = .ok bytes ∧ w = BitVec.ofNat 64 bytes.length ∧ buf = bv bytes ++ dst.drop bytes.length := by
  rw [decode_spec dst src hlen] at h
  split at h
  · simp only [Option.some.injEq, Prod.mk.injEq] at h
    cases hm : b32Decode src with
    | ok bytes =>
      have hb := decBytes_of_ok src 0 bytes hm
      exact ⟨bytes, rfl, by rw [← hb]; exact h.1.symm, by rw [← hb]; exact h.2.2.symm⟩
    | error e => rw [hm] at h; cases e; simp [errOf] at h
  · cases h

/-- … and an error `(name, o)` only if the model rejects with that error at that offset. -/
theorem error_of_decode (dst : List (BitVec 8)) (src : List UInt8) (hlen : src.length < 2 ^ 63)
    (w : BitVec 64) (nm : String) (o : BitVec 64) (buf : List (BitVec 8))
    (h : Gen.Bech32.base32.Decode dst (bv src) = some (w, some (nm, o), buf)) :
    ∃ e off, b32Decode src = .error (e, off) ∧ nm = errName e ∧ o = BitVec.ofNat 64 off ∧
      w = BitVec.ofNat 64 (decBytes src).length ∧ buf = bv (decBytes src) ++ dst.drop (decBytes src).length := by
  rw [decode_spec dst src hlen] at h
  split at h
  · simp only [Option.some.injEq, Prod.mk.injEq] at h
    cases hm : b32Decode src with
    | ok bytes => rw [hm] at h; simp [errOf] at h
    | error e =>
      obtain ⟨e, off⟩ := e
      rw [hm] at h
      simp only [errOf, Option.some.injEq, Prod.mk.injEq] at h
      exact ⟨e, off, rfl, h.2.1.1.symm, h.2.1.2.symm, h.1.symm, h.2.2.symm⟩
  · cases h

/-- **`Decode` panics exactly when `dst` is shorter than `minDst(len(src))`**, which is `DecodedLen(len(src))` unless
`len(src) % 8 ∈ {3, 6}`. -/
theorem decode_panics_iff (dst : List (BitVec 8)) (src : List UInt8) (hlen : src.length < 2 ^ 63) :
    Gen.Bech32.base32.Decode dst (bv src) = none ↔ dst.length < minDst src.length := by
  rw [decode_spec dst src hlen, decBytes_length, ite_eq_right_iff, Nat.not_le.symm]
  exact ⟨fun h hle => Option.some_ne_none _ (h hle), fun h hle => absurd hle h⟩

/-- `DecodedLen(len(src))` is not the minimum for the invalid lengths 3 and 6 (mod 8): 1 resp. 3 entries less suffice -/
theorem minDst_lt (n : Nat) (h : n % 8 = 3 ∨ n % 8 = 6) : minDst n < decodedLen n := by
  unfold minDst decodedLen; rw [if_pos h]; omega
theorem minDst_eq (n : Nat) (h : ¬ (n % 8 = 3 ∨ n % 8 = 6)) : minDst n = decodedLen n := by
  unfold minDst; rw [if_neg h]

/-- **no panic with the destination the caller allocates**: `bech32.Decode` passes
`make([]byte, base32.DecodedLen(len(data)))`. -/
theorem decode_no_panic (dst : List (BitVec 8)) (src : List UInt8) (hlen : src.length < 2 ^ 63)
    (h : decodedLen src.length ≤ dst.length) : Gen.Bech32.base32.Decode dst (bv src) ≠ none := by
  rw [Ne, decode_panics_iff dst src hlen]
  have := minDst_le src.length
  omega

/-- on success exactly `DecodedLen(len(src))` bytes are produced -/
theorem length_ok (src bytes : List UInt8) (hm : b32Decode src = .ok bytes) : bytes.length = decodedLen src.length := by
  have h := decodeAux_cases src 0
  rw [show b32DecodeAux 0 src = _ from hm] at h
  rw [← h.1, decBytes_length, minDst_eq _ (fun h' => h.2 (.inr h'))]

/-- with exactly `DecodedLen(len(src))` entries: on success the whole destination is the decoded data -/
theorem decode_exact (dst : List (BitVec 8)) (src bytes : List UInt8) (hlen : src.length < 2 ^ 63)
    (h : dst.length = decodedLen src.length) (hm : b32Decode src = .ok bytes) :
    Gen.Bech32.base32.Decode dst (bv src) = some (BitVec.ofNat 64 bytes.length, none, bv bytes) := by
  have hl := length_ok src bytes hm
  rw [decode_ok dst src bytes hlen hm (by omega), hl, ← h, List.drop_length, List.append_nil]

/-! #### the destinations `pkg/bech32/bech32.go` allocates, computed by the translated `EncodedLen` / `DecodedLen` -/

/-- `bech32.Encode`: `data := make([]uint8, base32.EncodedLen(len(src))+checksumLength); base32.Encode(data, src)`
(`checksumLength = 6`): no panic; the symbols are followed by the 6 entries left for the checksum. -/
theorem encode_caller (dst : List (BitVec 8)) (src : List UInt8) (hlen : src.length < 2 ^ 60)
    (h : dst.length = (Gen.Bech32.base32.EncodedLen (BitVec.ofNat 64 src.length) + 6#64).toNat) :
    Gen.Bech32.base32.Encode dst (bv src) =
      some (BitVec.ofNat 64 (encodedLen src.length), bv (b32Encode src) ++ dst.drop (encodedLen src.length)) ∧
    (dst.drop (encodedLen src.length)).length = 6 := by
  rw [EncodedLen_eq _ hlen, ← BitVec.ofNat_add,
    toNat_ofNat_lt _ (by unfold encodedLen; omega)] at h
  exact ⟨encode_eq dst src hlen (by omega), by rw [List.length_drop]; omega⟩

/-- `bech32.Decode`: `dst := make([]byte, base32.DecodedLen(len(data))); base32.Decode(dst, data)`: no panic
(`len(data) * 5 < 2^63`, so that `DecodedLen` does not overflow; in `bech32.Decode` `len(data) ≤ 90`). -/
theorem decode_caller (dst : List (BitVec 8)) (src : List UInt8) (hlen : src.length * 5 < 2 ^ 63)
    (h : dst.length = (Gen.Bech32.base32.DecodedLen (BitVec.ofNat 64 src.length)).toNat) :
    Gen.Bech32.base32.Decode dst (bv src) ≠ none := by
  rw [DecodedLen_eq _ hlen, toNat_ofNat_lt _ (by unfold decodedLen; omega)] at h
  exact decode_no_panic dst src (by omega) (by omega)

end Iota.Tie.Base32Code
