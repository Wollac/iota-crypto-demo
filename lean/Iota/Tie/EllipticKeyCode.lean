/-
Code tie for pkg/slip10/elliptic: `Curve.NewPrivateKey` (curve.go), `PrivateKey.Shift`, `PublicKey.Shift` (key.go), translated
AS CODE by cmd/extract (loops_key.go) into `Iota/Gen/EllipticKeyCode.lean` (`Gen.EllipticKeyCode.key.*`), against
the fields `newPrivateKey` and `shift` of the model `Iota.Slip10.wCurve` (`Iota/Model/Slip10.lean`); the two `Shift` ties are
here, that of `NewPrivateKey` is `Tie/Slip10.code_newPrivateKey`, with the same lemmas.  A `*big.Int` is an
`Int`; the first result `Option (Nat × List Int)` is `none` for a nil `slip10.Key`, `some (0, [K])` for a new `*PrivateKey`,
`some (1, [X, Y])` for a new `*PublicKey` (`encKey`); the error is `some "slip10.ErrInvalidKey"`; an outer `none` = panic.
The curve is a set of parameters: `curve_N` is instantiated with the model's `w.n`; `Externs` states what is assumed of
`curve_ScalarBaseMult` / `curve_Add` (they compute the model's `baseMul` / `add` in affine coordinates `coords`, and the
model's `isInfinity` is "both coordinates are 0").
-/
import Iota.Gen.EllipticKeyCode
import Iota.Model.Slip10
import Iota.Tie.BV

namespace Iota.Tie.EllipticKeyCode
open Iota Iota.Go
open Iota.Tie.Bech32Code (bv bigSetBytes_bv)
open Iota.Gen.EllipticKeyCode
open Iota.Slip10 (Bytes WCurve WKey KeyErr wCurve beNat)

variable {Pt : Type}

/-- the model's result as the Go results `(slip10.Key, error)` of the translation -/
def encKey (coords : Pt → Int × Int) : Except KeyErr (WKey Pt) → Option (Nat × List Int) × Option String
  | .ok (.priv k) => (some (0, [(k : Int)]), none)
  | .ok (.pub p) => (some (1, [(coords p).1, (coords p).2]), none)
  | .error _ => (none, some "slip10.ErrInvalidKey")

theorem setBytes_bv (b : Bytes) : Go.bigSetBytes (bv b) = (beNat b : Int) := bigSetBytes_bv b

theorem bigCmp_ge (a b : Int) : BitVec.sle 0#64 (Go.bigCmp a b) = decide (b ≤ a) := by
  rw [bigCmp_eq]
  split
  · exact (decide_eq_false (by omega)).symm
  · rw [decide_eq_true (by omega)]; split <;> rfl

/-- **`PrivateKey.Shift`** for a key with scalar `k`, every byte string, `N > 0` (for `N = 0` the `Mod` panics) -/
theorem code_privateShift (w : WCurve Pt) (hk : Bytes) (coords : Pt → Int × Int) (hn : 0 < w.n) (k : Nat) (buf : Bytes) :
    key.PrivateKey_Shift (w.n : Int) (k : Int) (bv buf) = some (encKey coords ((wCurve w hk).shift (.priv k) buf)) := by
  unfold key.PrivateKey_Shift wCurve
  have hn0 : (w.n : Int) ≠ 0 := by omega
  -- the tests of the code, on casts of naturals, are the tests of the model; then both sides branch alike
  simp only [setBytes_bv, bigSign_eq_zero, bigCmp_ge, ← Int.natCast_add, ← Int.natCast_emod, Int.natCast_eq_zero, Int.ofNat_le,
    decide_eq_true_eq, hn0, ne_eq, not_false_eq_true, decide_true, Bool.not_true, Bool.false_eq_true, if_false,
    apply_ite (encKey coords), apply_ite Flow.result, apply_ite some]
  rfl

theorem code_privateShift_never_panics (w : WCurve Pt) (hk : Bytes) (coords : Pt → Int × Int) (hn : 0 < w.n) (k : Nat) (buf : Bytes) :
    key.PrivateKey_Shift (w.n : Int) (k : Int) (bv buf) ≠ none := by
  rw [code_privateShift w hk coords hn k buf]; simp

/-- what is assumed of the two curve methods: in the affine coordinates `coords` they compute the model's `baseMul` and
`add` (and do not panic), and the model's point at infinity is the point with both coordinates 0 -/
structure Externs (w : WCurve Pt) (coords : Pt → Int × Int) (sbm : List (BitVec 8) → Option (Int × Int))
    (add : Int → Int → Int → Int → Option (Int × Int)) : Prop where
  sbm_eq : ∀ b : Bytes, sbm (bv b) = some (coords (w.baseMul b))
  add_eq : ∀ p q : Pt, add (coords p).1 (coords p).2 (coords q).1 (coords q).2 = some (coords (w.add p q))
  inf_eq : ∀ p : Pt, w.isInfinity p = decide ((coords p).1 = 0 ∧ (coords p).2 = 0)

theorem externs_inhabited : Externs (Pt := Int × Int)
    { n := 1, baseMul := fun _ => (0, 0), add := fun _ _ => (0, 0), isInfinity := fun p => decide (p.1 = 0 ∧ p.2 = 0), compress := fun _ => [] }
    id (fun _ => some (0, 0)) (fun _ _ _ _ => some (0, 0)) :=
  ⟨fun _ => rfl, fun _ _ => rfl, fun _ => rfl⟩

/-- **`PublicKey.Shift`** for the key with point `p`, every byte string -/
theorem code_publicShift (w : WCurve Pt) (hk : Bytes) (coords : Pt → Int × Int) {sbm : List (BitVec 8) → Option (Int × Int)}
    {add : Int → Int → Int → Int → Option (Int × Int)} (E : Externs w coords sbm add) (p : Pt) (buf : Bytes) :
    key.PublicKey_Shift add (w.n : Int) sbm (coords p).1 (coords p).2 (bv buf) =
      some (encKey coords ((wCurve w hk).shift (.pub p) buf)) := by
  unfold key.PublicKey_Shift wCurve
  simp only [setBytes_bv, bigSign_eq_zero, bigCmp_ge, E.sbm_eq, Go.call, Flow.bind_run, E.add_eq, E.inf_eq, Int.ofNat_le,
    ← Bool.decide_and, decide_eq_true_eq, apply_ite (encKey coords), apply_ite Flow.result, apply_ite some]
  rfl

theorem code_publicShift_never_panics (w : WCurve Pt) (hk : Bytes) (coords : Pt → Int × Int) {sbm : List (BitVec 8) → Option (Int × Int)}
    {add : Int → Int → Int → Int → Option (Int × Int)} (E : Externs w coords sbm add) (p : Pt) (buf : Bytes) :
    key.PublicKey_Shift add (w.n : Int) sbm (coords p).1 (coords p).2 (bv buf) ≠ none := by
  rw [code_publicShift w hk coords E p buf]; simp

end Iota.Tie.EllipticKeyCode
