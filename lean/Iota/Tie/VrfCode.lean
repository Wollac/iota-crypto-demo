/-
Code tie for pkg/vrf/canonical.go: `isCanonicalY`, translated AS CODE by cmd/extract into
`Iota/Gen/Ed.lean` (`Gen.Ed.vrf.isCanonicalY : List (BitVec 8) → Option Bool`, `none` = run-time panic),
against the hand-written model `Vrf.isCanonicalY` of `Iota/Model/Vrf.lean`.

* For every input of length ≥ 32 the Go function does not panic and returns what the model returns
  (the model is only ever applied to 32-byte strings; it is total through `getD`).
* For every shorter input the Go function panics (the `_ = x[31]` bounds-check hint).

Coercion: as in `Bech32Code`, `bv : List UInt8 → List (BitVec 8)` (bijection, inverse `List.map UInt8.ofBitVec`).
-/
import Iota.Gen.Ed
import Iota.Model.Vrf
import Iota.Tie.GoFlow
import Iota.Tie.BV

namespace Iota.Tie.VrfCode
open Iota Iota.Go
open Iota.Tie.Bech32Code (bv bv_ofBitVec bv_length bv_getD toBitVec_bne)

/-- the indices of `for i := 1; i <= 30; i++`, computed in 64-bit signed arithmetic -/
theorem indices_eq : forUp true true 1#64 30#64 1 = (List.range 30).map (fun m => BitVec.ofNat 64 (1 + m * 1)) :=
  forUp_int true 1 30 1 (by decide) (by decide)

theorem indices : (forUp true true 1#64 30#64 1).map BitVec.toNat = (List.range 30).map (· + 1) := by
  rw [indices_eq, List.map_map]
  apply List.map_congr_left
  intro m hm
  have := List.mem_range.mp hm
  exact (toNat_ofNat_lt _ (by omega)).trans (by omega)

/-- the loop header `for i := 1; i <= 30; i++`, run step by step in 64-bit signed arithmetic (`Go.loopIdx`, any bound
above 30 on the number of steps), visits exactly the list the translation folds over, then finds `i <= 30` false -/
theorem header_sound (fuel : Nat) (h : 30 < fuel) :
    loopIdx (cmpUp true true 30#64) (· + BitVec.ofNat 64 1) fuel 1#64 = forUp true true 1#64 30#64 1 :=
  forUp_sound true true 30#64 1 (by decide) (by decide) fuel 1#64 (by rw [indices_eq, List.length_map, List.length_range]; exact h)

/-- **`isCanonicalY`, inputs of at least 32 bytes**: no panic, and the result of the model. -/
theorem isCanonicalY_eq (x : List UInt8) (hx : 32 ≤ x.length) :
    Gen.Ed.vrf.isCanonicalY (bv x) = some (Vrf.isCanonicalY x) := by
  unfold Gen.Ed.vrf.isCanonicalY Vrf.isCanonicalY
  have h31 : decide (31 < (bv x).length) = true := by rw [bv_length]; exact decide_eq_true (by omega)
  have h0 : decide (0 < (bv x).length) = true := by rw [bv_length]; exact decide_eq_true (by omega)
  simp only [h31, h0, Bool.not_true, Bool.false_eq_true, if_false]
  have hult : BitVec.ult ((bv x).getD 0 0#8) 237#8 = decide ((x.getD 0 0).toNat < 237) := by
    rw [bv_getD]; rfl
  rw [hult]
  by_cases h1 : (x.getD 0 0).toNat < 237
  · rw [decide_eq_true h1, if_pos rfl, if_pos h1]; rfl
  · have hany : ((List.range 30).map (· + 1)).any (fun i => x.getD i 0 != 255) =
        (List.range 30).any (fun m => x.getD (m + 1) 0 != 255) := List.any_map
    rw [decide_eq_false h1, if_neg (by decide), if_neg h1, hany, indices_eq, Go.forIn_map,
      forIn_any (List.range 30) (fun m => x.getD (m + 1) 0 != 255) true]
    · cases (List.range 30).any (fun m => x.getD (m + 1) 0 != 255)
      · rw [bv_getD]
        exact congrArg some (toBitVec_bne (x.getD 31 0 ||| 128) 255)
      · rfl
    · intro m hm
      have := List.mem_range.mp hm
      rw [Go.inRangeS_ofNat _ _ (by omega), bv_length, decide_eq_true (by omega), toNat_ofNat_lt _ (by omega),
        Nat.mul_one, Nat.add_comm, bv_getD, ← toBitVec_bne _ 255]
      rfl

/-- **`isCanonicalY`, shorter inputs**: the Go function panics (index out of range at `_ = x[31]`). -/
theorem isCanonicalY_panics (x : List UInt8) (hx : x.length < 32) :
    Gen.Ed.vrf.isCanonicalY (bv x) = none := by
  unfold Gen.Ed.vrf.isCanonicalY
  have h31 : decide (31 < (bv x).length) = false := by rw [bv_length]; exact decide_eq_false (by omega)
  simp [h31]

/-! the same statements for arbitrary inputs of the translated code -/

theorem isCanonicalY_eq' (x : List (BitVec 8)) (hx : 32 ≤ x.length) :
    Gen.Ed.vrf.isCanonicalY x = some (Vrf.isCanonicalY (x.map UInt8.ofBitVec)) := by
  have := isCanonicalY_eq (x.map UInt8.ofBitVec) (by simpa using hx)
  rwa [bv_ofBitVec] at this

theorem isCanonicalY_panics' (x : List (BitVec 8)) (hx : x.length < 32) :
    Gen.Ed.vrf.isCanonicalY x = none := by
  have := isCanonicalY_panics (x.map UInt8.ofBitVec) (by simpa using hx)
  rwa [bv_ofBitVec] at this

/-- the instance the callers use: they pass exactly 32 bytes -/
theorem isCanonicalY_32 (x : List UInt8) (hx : x.length = 32) :
    Gen.Ed.vrf.isCanonicalY (bv x) = some (Vrf.isCanonicalY x) := isCanonicalY_eq x (by omega)

end Iota.Tie.VrfCode
