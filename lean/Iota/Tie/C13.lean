/-
Tie for C13: the synchronisation skeleton of `Mine` and `worker`, regenerated from pkg/pow/worker.go
and pkg/pow/v2/worker.go by go/cmd/extract (every go statement, select, channel operation, close,
WaitGroup call, atomic call, defer and return, in source order), equals the skeleton written out here, which
the transition system `Iota.Mine.step` follows.  Each line is annotated with the model step that stands for it.
The full normalized text of both functions is also pinned (`Iota.Tie.Pow.src`).
-/
import Iota.Gen.Pow
import Iota.Tie.Pow
import Iota.Model.Mine

namespace Iota.Tie.C13
open Iota

/-- `Mine`, as modelled -/
def mineSkeleton : List String :=
  [ "make make(chan uint64, w.numWorkers)",      -- `results`: capacity `W` (`.send` enabled iff length < W)
    "make make(chan struct{})",                  -- `closing`
    "go{",                                       -- MPc.start: watcher becomes `.select`
    "select{",
    "case <-ctx.Done():",                        -- Label.watcherCtx
    "call atomic.StoreUint32(&done, 1)",         -- Label.watcherStore
    "case <-closing:",                           -- Label.watcherClosing
    "}",
    "}",
    "call wg.Add(1)",                            -- MPc.spawn k: wg + 1 before the goroutine starts
    "go{",                                       --   worker k becomes `.loop`
    "defer wg.Done()",                           -- WPc.exiting: wg - 1 on every exit path
    "call atomic.StoreUint32(&done, 1)",         -- WPc.found n
    "send results <- nonce",                     -- WPc.send n
    "}",
    "call wg.Wait()",                            -- MPc.wait: enabled iff wg = 0
    "call close(results)",                       -- MPc.closeResults
    "call close(closing)",                       -- MPc.closeClosing
    "recv <-results",                            -- MPc.recv
    "return 0, ErrCancelled",                    -- MPc.returned none
    "return nonce, nil" ]                        -- MPc.returned (some n)

/-- `worker`, as modelled -/
def workerSkeleton : List String :=
  [ "call atomic.LoadUint32(done)",                       -- WPc.loop
    "return 0, err",                                      -- Absorb error: impossible for 243-trit input (C06); exits without a result like `ErrDone`
    "call atomic.AddUint64(counter, bct.MaxBatchSize)",   -- statistics only, not modelled
    "return nonce + uint64(i), nil",                      -- WPc.batch with outcome `some n`
    "return 0, ErrDone" ]                                 -- WPc.loop with done set

/-- every use of the `done` flag: declared in `Mine`, stored by the watcher and by a finding worker,
passed by address to `worker`, loaded there; all accesses are atomic. -/
def doneAccesses (call : String) : List String :=
  [ "var done uint32", "atomic.StoreUint32(&done, 1)", call, "atomic.StoreUint32(&done, 1)", "param *uint32",
    "atomic.LoadUint32(done)" ]

/-- v1 first waits for cancellation and returns the cancellation error when the target is unattainable
(`Iota.Mine.preambleV1`), before anything is created -/
theorem skeleton_v1 : Gen.Pow.mineSkeletonV1 = "recv <-ctx.Done()" :: "return 0, ErrCancelled" :: mineSkeleton := rfl
/-- v2 differs only by the early `targetScore == 0` return before anything is created (its target validation has no
synchronisation operation; its position before the first `go` is pinned by the source text) -/
theorem skeleton_v2 : Gen.Pow.mineSkeletonV2 = "return 0, nil" :: mineSkeleton := rfl
theorem worker_v1 : Gen.Pow.workerSkeletonV1 = workerSkeleton := rfl
theorem worker_v2 : Gen.Pow.workerSkeletonV2 = workerSkeleton := rfl
theorem done_v1 : Gen.Pow.doneAccessesV1 =
    doneAccesses "w.worker(powDigest, startNonce, targetZeros, &done, &counter)" := rfl
theorem done_v2 : Gen.Pow.doneAccessesV2 =
    doneAccesses "w.worker(powDigest[:], startNonce, sufficientTrailing, target, &done, &counter)" := rfl

/-- every use of the statistics counter: passed by address, only ever `atomic.AddUint64` -/
def counterAccesses (call : String) : List String :=
  [ "var counter uint64", call, "param *uint64", "atomic.AddUint64(counter, bct.MaxBatchSize)" ]

theorem counter_v1 : Gen.Pow.counterAccessesV1 =
    counterAccesses "w.worker(powDigest, startNonce, targetZeros, &done, &counter)" := rfl
theorem counter_v2 : Gen.Pow.counterAccessesV2 =
    counterAccesses "w.worker(powDigest[:], startNonce, sufficientTrailing, target, &done, &counter)" := rfl

/-- what the goroutines share with `Mine` and with each other.  Watcher (go1): reads `ctx`, `closing`; takes
`&done`.  Worker (go2): takes `&done`, `&counter` (atomics, lists above); reads the channel `results`, the
WaitGroup `wg`, the receiver `w`, and `powDigest` / the target values, none of which is written by anyone from the
worker's spawn on; `startNonce` is a fresh variable per loop iteration.  No goroutine writes a captured variable. -/
def captures (targets : List String) : List String :=
  [ "go1 addr done", "go1 read closing", "go1 read ctx", "go2 addr counter", "go2 addr done", "go2 read powDigest",
    "go2 read results", "go2 read startNonce" ] ++ targets ++
  [ "go2 read w", "go2 read wg", "main-after-go define startNonce" ]

theorem captures_v1 : Gen.Pow.capturesV1 = captures ["go2 read targetZeros"] := rfl
theorem captures_v2 : Gen.Pow.capturesV2 = captures ["go2 read sufficientTrailing", "go2 read target"] := rfl

/-- the source text, held as text, of `Mine` and `worker` of both packages and of the two constructors `New` -/
theorem src :
    Gen.Pow.src_pow_Worker_Mine = Expect.Pow_src_pow_Worker_Mine ∧
    Gen.Pow.src_pow_Worker_worker = Expect.Pow_src_pow_Worker_worker ∧
    Gen.Pow.src_v2_Worker_Mine = Expect.Pow_src_v2_Worker_Mine ∧
    Gen.Pow.src_v2_Worker_worker = Expect.Pow_src_v2_Worker_worker ∧
    Gen.Pow.src_pow_New = Expect.Pow_src_pow_New ∧
    Gen.Pow.src_v2_New = Expect.Pow_src_v2_New :=
  ⟨rfl, rfl, rfl, rfl, rfl, rfl⟩

end Iota.Tie.C13
