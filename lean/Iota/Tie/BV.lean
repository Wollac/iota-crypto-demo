/-
Helpers shared by the code ties of several packages (namespace `Iota.Tie.Bech32Code`), kept free of any `Iota.Gen.*` import so
that a tie of one package does not depend on the regenerated file of another: the byte coercion `bv` between the model's
`UInt8` and the translated code's `BitVec 8`, a bijection (`ofBitVec_bv`, `bv_ofBitVec`); what the list functions, `==` / `!=`
and `strings.HasPrefix` / `HasSuffix` / `TrimPrefix` / `TrimSuffix` do under it; `bigSetBytes_bv` (math/big `SetBytes` is the
model's big-endian fold); `Hof`, a hash function handed to the translated code read as a hash function of the model.
-/
import Iota.Tie.GoFlow

namespace Iota.Tie.Bech32Code

/-! ### `bv` and the list functions under it -/

/-- bytes of the model as bytes of the translated code (a `[]byte`, a byte array or a `string`) -/
def bv (l : List UInt8) : List (BitVec 8) := l.map UInt8.toBitVec

theorem bv_nil : bv [] = [] := rfl
theorem bv_cons (a : UInt8) (l : List UInt8) : bv (a :: l) = a.toBitVec :: bv l := rfl
theorem bv_length (l : List UInt8) : (bv l).length = l.length := List.length_map _
theorem bv_append (a b : List UInt8) : bv (a ++ b) = bv a ++ bv b := List.map_append
theorem bv_take (n : Nat) (l : List UInt8) : (bv l).take n = bv (l.take n) := List.map_take.symm
theorem bv_drop (n : Nat) (l : List UInt8) : (bv l).drop n = bv (l.drop n) := List.map_drop.symm
theorem bv_reverse (l : List UInt8) : (bv l).reverse = bv l.reverse := List.map_reverse.symm
theorem bv_replicate (n : Nat) (a : UInt8) : bv (List.replicate n a) = List.replicate n a.toBitVec := List.map_replicate
theorem bv_getD (l : List UInt8) (k : Nat) : (bv l).getD k 0#8 = (l.getD k 0).toBitVec :=
  Go.getD_map UInt8.toBitVec l k 0

theorem ofBitVec_bv (l : List UInt8) : (bv l).map UInt8.ofBitVec = l := by
  rw [bv, List.map_map]
  exact List.map_id l
theorem bv_ofBitVec (l : List (BitVec 8)) : bv (l.map UInt8.ofBitVec) = l := by
  rw [bv, List.map_map]
  exact List.map_id l

theorem bv_inj {a b : List UInt8} (h : bv a = bv b) : a = b := by
  rw [← ofBitVec_bv a, ← ofBitVec_bv b, h]

theorem exists_bv (l : List (BitVec 8)) : ∃ t : List UInt8, bv t = l ∧ t.length = l.length :=
  ⟨l.map UInt8.ofBitVec, bv_ofBitVec l, List.length_map _⟩

/-- for a sweep by `decide` over the 256 numerals (the twin of `Proofs.forall_byte`) -/
theorem forall_bv8 {P : BitVec 8 → Prop} (h : ∀ n, n < 256 → P (BitVec.ofNat 8 n)) (v : BitVec 8) : P v := by
  have := h v.toNat v.isLt
  rwa [BitVec.ofNat_toNat, BitVec.setWidth_eq] at this

/-! ### `==`, `!=` on bytes and on byte strings -/

theorem toBitVec_beq (a b : UInt8) : (a.toBitVec == b.toBitVec) = (a == b) :=
  Bool.eq_iff_iff.mpr (by rw [beq_iff_eq, beq_iff_eq]; exact UInt8.toBitVec_inj)

theorem toBitVec_bne (a b : UInt8) : (a.toBitVec != b.toBitVec) = (a != b) := by
  rw [bne, toBitVec_beq, bne]

theorem bv_beq (a b : List UInt8) : (bv a == bv b) = decide (a = b) :=
  Bool.eq_iff_iff.mpr (by rw [beq_iff_eq, decide_eq_true_eq]; exact ⟨bv_inj, congrArg bv⟩)

/-! ### `strings.HasPrefix`, `HasSuffix`, `TrimPrefix`, `TrimSuffix` -/

theorem isPrefixOf_bv (p t : List UInt8) : (bv p).isPrefixOf (bv t) = p.isPrefixOf t := by
  induction p generalizing t with
  | nil => rfl
  | cons a p ih =>
    cases t with
    | nil => rfl
    | cons b t => rw [bv_cons, bv_cons, List.isPrefixOf_cons_cons, List.isPrefixOf_cons_cons, toBitVec_beq, ih]

theorem isSuffixOf_bv (p t : List UInt8) : (bv p).isSuffixOf (bv t) = p.isSuffixOf t := by
  rw [List.isSuffixOf, bv_reverse, bv_reverse, isPrefixOf_bv, List.isSuffixOf]

theorem isPrefixOf_take (p t : List UInt8) : p.isPrefixOf t = decide (t.take p.length = p) := by
  rw [Bool.eq_iff_iff, List.isPrefixOf_iff_prefix, List.prefix_iff_eq_take, decide_eq_true_eq]
  exact eq_comm

theorem isSuffixOf_drop (p t : List UInt8) : p.isSuffixOf t = decide (t.drop (t.length - p.length) = p) := by
  rw [Bool.eq_iff_iff, List.isSuffixOf_iff_suffix, List.suffix_iff_eq_drop, decide_eq_true_eq]
  exact eq_comm

theorem hasPrefix_bv (t p : List UInt8) : Go.hasPrefix (bv t) (bv p) = decide (t.take p.length = p) := by
  rw [Go.hasPrefix, isPrefixOf_bv, isPrefixOf_take]

theorem hasSuffix_bv (t p : List UInt8) : Go.hasSuffix (bv t) (bv p) = decide (t.drop (t.length - p.length) = p) := by
  rw [Go.hasSuffix, isSuffixOf_bv, isSuffixOf_drop]

theorem trimPrefix_bv (s p : List UInt8) :
    Go.trimPrefix (bv s) (bv p) = bv (if s.take p.length = p then s.drop p.length else s) := by
  rw [Go.trimPrefix, isPrefixOf_bv, isPrefixOf_take, bv_length, bv_drop, apply_ite bv]
  simp only [decide_eq_true_eq]

theorem trimSuffix_bv (t p : List UInt8) :
    Go.trimSuffix (bv t) (bv p) = bv (if t.drop (t.length - p.length) = p then t.take (t.length - p.length) else t) := by
  rw [Go.trimSuffix, isSuffixOf_bv, isSuffixOf_drop, bv_length, bv_length, bv_take, apply_ite bv]
  simp only [decide_eq_true_eq]

/-! ### math/big `SetBytes` -/

/-- `Bip39.setBytes` and `Slip10.beNat` are this fold -/
theorem bigSetBytes_bv (b : List UInt8) :
    Go.bigSetBytes (bv b) = ((b.foldl (fun acc x => acc * 256 + x.toNat) 0 : Nat) : Int) := by
  rw [Go.bigSetBytes, bv, List.foldl_map]; rfl

/-! ### `Hof`: a hash function handed to the translated code, as a hash function of the model -/

/-- the model hash that describes a parameter `sum` of the translated code: `sum` on the model's bytes -/
def Hof (sum : List (BitVec 8) → List (BitVec 8)) (x : List UInt8) : List UInt8 := (sum (bv x)).map UInt8.ofBitVec

theorem Hof_spec (sum : List (BitVec 8) → List (BitVec 8)) (x : List UInt8) : sum (bv x) = bv (Hof sum x) :=
  (bv_ofBitVec _).symm

theorem Hof_length (sum : List (BitVec 8) → List (BitVec 8)) (x : List UInt8) :
    (Hof sum x).length = (sum (bv x)).length := List.length_map _

/-- so an assumption `∀ x, sum (bv x) = bv (H x)` only gives `Hof sum` a name -/
theorem Hof_unique (sum : List (BitVec 8) → List (BitVec 8)) (H : List UInt8 → List UInt8)
    (hH : ∀ x, sum (bv x) = bv (H x)) : H = Hof sum :=
  funext fun x => bv_inj (by rw [← hH, ← Hof_spec])

end Iota.Tie.Bech32Code
