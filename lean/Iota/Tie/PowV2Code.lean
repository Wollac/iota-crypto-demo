/-
Code tie for pkg/pow/v2/worker.go: the integer core of PoW v2, translated AS CODE by cmd/extract into
`Iota/Gen/Pow.lean` (namespace `Gen.Pow.v2code`; `none` = run-time panic), against the model of `Iota/Model/Pow.lean`.
What is proved (the theorems are `code_*_v2` of `Iota/Tie/Pow.lean`; here are their lemmas):

* `sufficientTrailingZeros(data []byte, targetScore uint64) int`: for every `data` (shorter than 2^62 bytes; a Go slice
  of bytes is shorter than 2^63) and every `targetScore`, with `lx = (len(data)+8)·targetScore` computed in ℕ:
  the function panics exactly when `lx ≥ 2^64` (`math.MaxUint64/uint64(len(data)+nonceBytes) < targetScore`), and
  otherwise returns `Pow.sufficientTrailingZeros lx`.  The division is by a non-constant: the translation checks the
  divisor against 0 first (never 0 here: `len(data)+8 ≥ 8`).  In the last iteration (`s = 40`) `v *= 3` wraps around in
  uint64 (3^41 > 2^64); the wrapped value is never read, and the model computes the same result in ℕ.
* `targetHash(data []byte, targetScore uint64) *big.Int` (`*big.Int` ↦ `Int`): for every `data` (shorter than 2^62 bytes)
  and EVERY `targetScore` the function does not panic (the divisor of `Quo` is `lx + 1 ≥ 1`) and returns
  `Pow.targetHash lx = ⌊maxHash / (lx + 1)⌋`; the product `lx` is formed in `big.Int`, so there is no overflow case.
  The value of the package-level `maxHash = hexToInt("2367b8…385b")` is a literal the translator computed with math/big;
  `maxHash_lit` checks it against the model's constant (`Tie.Pow.maxHash_eq` checks the hex string separately).
* `toInt(trits trinary.Trits) *big.Int` (pow.go; `[]int8` ↦ `List (BitVec 8)`, two's complement) with its callee
  `tritToUint`: for every list of 243 balanced trits (-1, 0, 1) the function does not panic and returns
  `Pow.toInt` of the trits read as integers; every uint64 chunk value stays below 3^40 < 2^64 (`chunk_loop`), so nothing
  wraps around; for every other length (below 2^64) it panics.  The statement
  `b.Add(b.Mul(b, uint64Radix), tmp.SetUint64(v))` is translated as `b := b·R; tmp := v; b := b + tmp` (Go evaluates the
  operand calls left to right, each returns its receiver); `chunk := trits[i*40 : i*40+40]` is a read-only window.
* `stateToInt(l, h *[243]uint, idx uint) *big.Int` (worker.go): for all planes and every lane index `idx < 64` no panic and
  `Pow.stateToInt l h idx` (the loop fills a local `[243]int8` with the lane's trits, then calls `toInt`).
-/
import Iota.Gen.Pow
import Iota.Model.Pow
import Iota.Tie.GoFlow
import Iota.Tie.PowCode

namespace Iota.Tie.PowV2Code
open Iota Iota.Go
open Iota.Tie.CurlCodeLanes (laneInt8 lane_toNat)

/-! ### `sufficientTrailingZeros` -/

/-- the body of the loop `for s, v := 0, uint64(1); s <= 40; s++ { if v >= lx { return s }; v *= 3 }` -/
def stzBody (lx : BitVec 64) (v s : BitVec 64) : Flow (BitVec 64) (BitVec 64) :=
  if (BitVec.ule lx v) then Flow.done s else
  let v : BitVec 64 := (v * 3#64)
  Flow.run v

theorem pow3_lt (s : Nat) (hs : s ≤ 40) : 3 ^ s < 2 ^ 64 :=
  Nat.lt_of_le_of_lt (Nat.pow_le_pow_right (by decide) hs) (by decide)

/-- the loop from iteration `s` on (`fuel` iterations left, `v = 3^s`) is the model's loop -/
theorem stz_loop (lx : BitVec 64) : ∀ (fuel s : Nat) (v : BitVec 64), s + fuel = 41 → (0 < fuel → v.toNat = 3 ^ s) →
    (forIn ((List.range' s fuel).map (BitVec.ofNat 64)) v (stzBody lx)).bind (fun _ => Flow.done 41#64) =
      (Flow.done (BitVec.ofNat 64 (Pow.sufficientLoop lx.toNat fuel s v.toNat)) : Flow (BitVec 64) (BitVec 64)) := by
  intro fuel
  induction fuel with
  | zero =>
    intro s v hs _
    simp [Pow.sufficientLoop]
  | succ fuel ih =>
    intro s v hs hv
    have hv' := hv (Nat.succ_pos _)
    rw [List.range'_succ, List.map_cons, forIn_cons]
    unfold Pow.sufficientLoop stzBody
    rw [show BitVec.ule lx v = decide (lx.toNat ≤ v.toNat) from rfl]
    by_cases hc : lx.toNat ≤ v.toNat
    · simp [hc]
    · simp only [hc, decide_false, Bool.false_eq_true, if_false, Flow.bind_run]
      have hmul : 0 < fuel → (v * 3#64).toNat = 3 ^ (s + 1) := by
        intro hf
        have h3 : 3 ^ (s + 1) < 2 ^ 64 := pow3_lt (s + 1) (by omega)
        rw [BitVec.toNat_mul, hv']
        show 3 ^ s * 3 % 2 ^ 64 = 3 ^ (s + 1)
        rw [← Nat.pow_succ]
        exact Nat.mod_eq_of_lt h3
      have ih' := ih (s + 1) (v * 3#64) (by omega) hmul
      unfold stzBody at ih'
      rw [ih']
      cases fuel with
      | zero => rfl
      | succ fuel => rw [hmul (Nat.succ_pos _), hv', Nat.pow_succ]

theorem forUp_0_40 : forUp true true 0#64 40#64 1 = (List.range' 0 41).map (BitVec.ofNat 64) := by
  rw [forUp_int true 0 40 1 (by decide) (by decide), List.range_eq_range']
  exact List.map_congr_left fun m _ => by rw [Nat.zero_add, Nat.mul_one]

/-- `uint64(len(data)+nonceBytes)` -/
theorem len8 (n : Nat) (hn : n < 2 ^ 62) : (BitVec.ofNat 64 n + 8#64).toNat = n + 8 := by
  rw [← BitVec.ofNat_add, toNat_ofNat_lt _ (by omega)]

/-- … which is not 0: the division does not panic -/
theorem len8_ne_zero (n : Nat) (hn : n < 2 ^ 62) : (BitVec.ofNat 64 n + 8#64 != 0#64) = true := by
  rw [← BitVec.ofNat_add, bne, beq_ofNat (n + 8) 0 (by omega) (by decide), decide_eq_false (by omega)]
  rfl

/-- the overflow test `math.MaxUint64/uint64(len(data)+nonceBytes) < targetScore` is exact -/
theorem overflow_test (n : Nat) (hn : n < 2 ^ 62) (t : BitVec 64) :
    BitVec.ult (18446744073709551615#64 / (BitVec.ofNat 64 n + 8#64)) t = decide (2 ^ 64 ≤ (n + 8) * t.toNat) := by
  have h : (18446744073709551615#64 / (BitVec.ofNat 64 n + 8#64)).toNat = (2 ^ 64 - 1) / (n + 8) := by
    rw [BitVec.toNat_udiv, len8 n hn]; rfl
  unfold BitVec.ult
  rw [h]
  congr 1
  rw [Nat.div_lt_iff_lt_mul (by omega : 0 < n + 8), Nat.mul_comm]
  exact propext (by omega)

/-- the result as a Go `int` is one of `0 … 41` -/
theorem sufficientLoop_le (lx : Nat) : ∀ fuel s v, s + fuel = 41 → Pow.sufficientLoop lx fuel s v ≤ 41 := by
  intro fuel
  induction fuel with
  | zero => intro s v _; simp [Pow.sufficientLoop]
  | succ fuel ih =>
    intro s v h
    unfold Pow.sufficientLoop
    split
    · omega
    · exact ih _ _ (by omega)

theorem sufficientTrailingZeros_le (lx : Nat) : Pow.sufficientTrailingZeros lx ≤ 41 :=
  sufficientLoop_le lx 41 0 1 rfl

/-! ### `targetHash` -/

/-- the constant the translator computed from `maxHash = hexToInt("2367b8…385b")` (math/big, base 16) is the model's -/
theorem maxHash_lit :
    (87189642485960958202911070585860771696964072404731750085525219437990967093723439943475549906831683116791055225665627 : Int)
      = ((Pow.maxHash : Nat) : Int) := by decide +kernel

/-- `int64(len(data)+nonceBytes)` -/
theorem len8_toInt (n : Nat) (hn : n < 2 ^ 62) : BitVec.toInt (BitVec.ofNat 64 n + 8#64) = ((n + 8 : Nat) : Int) := by
  rw [← BitVec.ofNat_add, toInt_ofNat_small _ (by omega)]

/-! ### `toInt` -/

/-- a balanced trit as an `int8` -/
def isTrit (t : BitVec 8) : Prop := t = BitVec.ofInt 8 (-1) ∨ t = 0#8 ∨ t = 1#8

theorem tritToUint_toNat (t : BitVec 8) (h : isTrit t) :
    (Gen.Pow.v2code.tritToUint t).toNat = Pow.tritToUint t.toInt := by
  rcases h with rfl | rfl | rfl <;> decide

theorem tritToUint_le (t : BitVec 8) (h : isTrit t) : (Gen.Pow.v2code.tritToUint t).toNat ≤ 2 := by
  rcases h with rfl | rfl | rfl <;> decide

theorem getD_isTrit (l : List (BitVec 8)) (htr : ∀ t ∈ l, isTrit t) (i : Nat) : isTrit (l.getD i 0#8) := by
  by_cases h : i < l.length
  · exact htr _ (getD_mem l i h _)
  · rw [List.getD_eq_getElem?_getD, List.getElem?_eq_none (by omega)]
    exact Or.inr (Or.inl rfl)

/-- the body of the inner loop `for j := len(chunk) - 1; j >= 0; j-- { v = v*3 + tritToUint(chunk[j]) }` -/
def innerBody (chunk : List (BitVec 8)) (v j : BitVec 64) : Flow Int (BitVec 64) :=
  if !(Go.inRangeS j chunk.length) then Go.Flow.panic else
  let v : BitVec 64 := ((v * 3#64) + (Gen.Pow.v2code.tritToUint (chunk.getD j.toNat 0#8)))
  Go.Flow.run v

/-- the inner loop over the indices `idx` of a chunk does not panic: it is Horner's rule in uint64 -/
theorem inner_loop (chunk : List (BitVec 8)) (hc : chunk.length < 2 ^ 63) (idx : List Nat) (hi : ∀ i ∈ idx, i < chunk.length)
    (v : BitVec 64) :
    forIn (idx.map (BitVec.ofNat 64)) v (innerBody chunk) = (Flow.run
      (idx.foldl (fun v i => v * 3#64 + Gen.Pow.v2code.tritToUint (chunk.getD i 0#8)) v) : Flow Int (BitVec 64)) := by
  rw [Go.forIn_map]
  refine forIn_eq_foldl idx _ _ _ fun v i hi' => ?_
  have hil := hi i hi'
  rw [innerBody, Go.inRangeS_ofNat i _ (by omega), decide_eq_true hil, toNat_ofNat_lt i (by omega)]
  rfl

/-- one step of Horner's rule in uint64, from a value below `3^k` (`k < 40`) with a digit `u ≤ 2`: nothing wraps around,
since `3^40 < 2^64` -/
theorem horner_step (v u : BitVec 64) (k : Nat) (hv : v.toNat < 3 ^ k) (hk : k < 40) (hu : u.toNat ≤ 2) :
    (v * 3#64 + u).toNat = v.toNat * 3 + u.toNat ∧ v.toNat * 3 + u.toNat < 3 ^ (k + 1) := by
  have h3 := pow3_lt (k + 1) hk
  rw [Nat.pow_succ] at h3 ⊢
  have hlt : v.toNat * 3 + u.toNat < 3 ^ k * 3 := by omega
  have h64 := Nat.lt_trans hlt h3
  refine ⟨?_, hlt⟩
  rw [BitVec.toNat_add, BitVec.toNat_mul]
  show (v.toNat * 3 % 2 ^ 64 + _) % 2 ^ 64 = _
  rw [Nat.mod_eq_of_lt (Nat.lt_of_le_of_lt (Nat.le_add_right _ _) h64), Nat.mod_eq_of_lt h64]

/-- the fold of `inner_loop` from a value below `3^k`, as long as at most 40 digits are collected: its value in ℕ, and the
bound `3^(k + |idx|)` on it -/
theorem horner_toNat (chunk : List (BitVec 8)) (htr : ∀ t ∈ chunk, isTrit t) :
    ∀ (idx : List Nat) (v : BitVec 64) (k : Nat), v.toNat < 3 ^ k → k + idx.length ≤ 40 →
      (idx.foldl (fun v i => v * 3#64 + Gen.Pow.v2code.tritToUint (chunk.getD i 0#8)) v).toNat =
        idx.foldl (fun a i => a * 3 + Pow.tritToUint (chunk.getD i 0#8).toInt) v.toNat ∧
      idx.foldl (fun a i => a * 3 + Pow.tritToUint (chunk.getD i 0#8).toInt) v.toNat < 3 ^ (k + idx.length)
  | [], _, _, hv, _ => ⟨rfl, hv⟩
  | i :: idx, v, k, hv, hk => by
    rw [List.length_cons] at hk
    have ht := getD_isTrit chunk htr i
    obtain ⟨hstep, hlt⟩ := horner_step v _ k hv (by omega) (tritToUint_le _ ht)
    have ih := horner_toNat chunk htr idx _ (k + 1) (by rw [hstep]; exact hlt) (by omega)
    rw [hstep, tritToUint_toNat _ ht] at ih
    rw [List.foldl_cons, List.foldl_cons, List.length_cons, show k + (idx.length + 1) = k + 1 + idx.length by omega]
    exact ih

theorem foldl_range_reverse {α β : Type} (l : List α) (d : α) (g : β → α → β) (a : β) :
    (List.range l.length).reverse.foldl (fun a i => g a (l.getD i d)) a = l.reverse.foldl g a := by
  rw [← List.foldl_map, List.map_reverse, range_map_getD l d (fun x => x), List.map_id']

/-- the inner loop on a chunk of 40 trits: no panic, the model's `chunkValue`, which is below `3^40 < 2^64` -/
theorem chunk_loop (chunk : List (BitVec 8)) (hl : chunk.length = 40) (htr : ∀ t ∈ chunk, isTrit t) :
    forIn (forDown true true ((BitVec.ofNat 64 chunk.length) - 1#64) 0#64 1) 0#64 (innerBody chunk) =
      (Flow.run (BitVec.ofNat 64 (Pow.chunkValue (chunk.map BitVec.toInt))) : Flow Int (BitVec 64)) ∧
    Pow.chunkValue (chunk.map BitVec.toInt) < 3 ^ 40 := by
  have hcv : (List.range chunk.length).reverse.foldl (fun a i => a * 3 + Pow.tritToUint (chunk.getD i 0#8).toInt) 0 =
      Pow.chunkValue (chunk.map BitVec.toInt) := by
    rw [Pow.chunkValue, ← List.map_reverse, List.foldl_map]
    exact foldl_range_reverse chunk 0#8 (fun (a : Nat) (t : BitVec 8) => a * 3 + Pow.tritToUint t.toInt) 0
  obtain ⟨hn, hlt⟩ := horner_toNat chunk htr (List.range chunk.length).reverse 0#64 0 (by decide)
    (by rw [List.length_reverse, List.length_range]; omega)
  rw [show (0#64 : BitVec 64).toNat = 0 from rfl, hcv] at hn hlt
  rw [List.length_reverse, List.length_range, Nat.zero_add, hl] at hlt
  refine ⟨?_, hlt⟩
  rw [forDown_int chunk.length (by omega),
    inner_loop chunk (by omega) _ (fun i hi => List.mem_range.mp (List.mem_reverse.mp hi)), ← hn, BitVec.ofNat_toNat,
    BitVec.setWidth_eq]

/-- the body of the outer loop `for i := 5; i >= 0; i-- { chunk := trits[i*40 : i*40+40]; …; b.Add(b.Mul(b, uint64Radix), tmp.SetUint64(v)) }`
(the generated text, with 243 for `len(trits)`) -/
def outerBody (trits : List (BitVec 8)) (st_1 : Int × Int) (i : BitVec 64) : Flow Int (Int × Int) :=
  let b : Int := st_1.1
  if !(Go.sliceOK (i * 40#64) ((i * 40#64) + 40#64) 243) then Go.Flow.panic else
  let chunk : List (BitVec 8) := ((trits.drop (i * 40#64).toNat).take (((i * 40#64) + 40#64).toNat - (i * 40#64).toNat))
  let v : BitVec 64 := 0#64
  Go.Flow.bind (Go.forIn (Go.forDown true true ((BitVec.ofNat 64 chunk.length) - 1#64) 0#64 1) v (innerBody chunk)) (fun (v : BitVec 64) =>
  let v : BitVec 64 := (if (i == 0#64) then (v + 1#64) else v)
  let b : Int := (b * (12157665459056928801 : Int))
  let tmp : Int := ((BitVec.toNat v : Nat) : Int)
  let b : Int := (b + tmp)
  Go.Flow.run (b, tmp))

/-- the value the model adds for chunk `i` -/
def chunkTerm (trits : List (BitVec 8)) (i : Nat) : Nat :=
  let v := Pow.chunkValue (((trits.map BitVec.toInt).drop (i * 40)).take 40)
  if i = 0 then v + 1 else v

theorem outer_key : ∀ i, i < 6 → ((BitVec.ofNat 64 i * 40#64).toNat = i * 40 ∧
    (BitVec.ofNat 64 i * 40#64 + 40#64).toNat = i * 40 + 40 ∧
    sliceOK (BitVec.ofNat 64 i * 40#64) (BitVec.ofNat 64 i * 40#64 + 40#64) 243 = true ∧
    ((BitVec.ofNat 64 i == 0#64) = decide (i = 0))) := by decide

theorem outer_step (trits : List (BitVec 8)) (hlen : trits.length = 243) (htr : ∀ t ∈ trits, isTrit t)
    (i : Nat) (hi : i < 6) (b tmp : Int) :
    outerBody trits (b, tmp) (BitVec.ofNat 64 i) =
      Flow.run (b * (12157665459056928801 : Int) + ((chunkTerm trits i : Nat) : Int), ((chunkTerm trits i : Nat) : Int)) := by
  obtain ⟨h1, h2, hs, h0⟩ := outer_key i hi
  have hcl : ((trits.drop (i * 40)).take 40).length = 40 := by
    rw [List.length_take, List.length_drop, hlen]; omega
  have hct : ∀ t ∈ (trits.drop (i * 40)).take 40, isTrit t :=
    fun t ht => htr t (List.mem_of_mem_drop (List.mem_of_mem_take ht))
  obtain ⟨hw, hwlt⟩ := chunk_loop _ hcl hct
  unfold outerBody
  simp only [hs, h1, h2, Bool.not_true, Bool.false_eq_true, if_false, Nat.add_sub_cancel_left, h0]
  rw [hw, Flow.bind_run]
  have h40 : (3 : Nat) ^ 40 < 2 ^ 64 - 1 := by decide
  rw [chunkTerm, ← List.map_drop, ← List.map_take]
  by_cases hi0 : i = 0
  · rw [decide_eq_true hi0, if_pos rfl, if_pos hi0, ← BitVec.ofNat_add, toNat_ofNat_lt _ (by omega)]
  · rw [decide_eq_false hi0, if_neg Bool.false_ne_true, if_neg hi0, toNat_ofNat_lt _ (by omega)]

/-- the three top trits -/
def topTerm (trits : List (BitVec 8)) : BitVec 64 :=
  ((((Gen.Pow.v2code.tritToUint (trits.getD 242 0#8)) * 9#64) + ((Gen.Pow.v2code.tritToUint (trits.getD 241 0#8)) * 3#64)) +
    (Gen.Pow.v2code.tritToUint (trits.getD 240 0#8)))

theorem toInt_unfold (trits : List (BitVec 8)) (hlen : trits.length = 243) :
    Gen.Pow.v2code.toInt trits =
      Flow.result (Flow.bind (forIn (forDown true true 5#64 0#64 1) (((topTerm trits).toNat : Int), (0 : Int)) (outerBody trits))
        (fun st => Flow.done st.1)) := by
  unfold Gen.Pow.v2code.toInt
  rw [hlen]
  rfl

/-! ### `stateToInt` -/

/-- the loop of `stateToInt` fills the local `[243]int8` with the trits of lane `idx` (`idx &= 63` is the identity below
64), for any two lists; then `toInt` is called -/
theorem stateToInt_lane (l h : List (BitVec 64)) (idx : Nat) (hidx : idx < 64) :
    Gen.Pow.v2code.stateToInt l h (BitVec.ofNat 64 idx) =
      Gen.Pow.v2code.toInt ((List.range 243).map (laneInt8 l h idx)) := by
  have hi : (BitVec.ofNat 64 idx).toNat = idx := toNat_ofNat_lt idx (by omega)
  have hmask : BitVec.ofNat 64 idx &&& 63#64 = BitVec.ofNat 64 idx :=
    BitVec.eq_of_toNat_eq (by rw [lane_toNat, hi, Nat.mod_eq_of_lt hidx])
  unfold Gen.Pow.v2code.stateToInt
  simp only [hmask, hi]
  rw [show (242#64 : BitVec 64) = BitVec.ofNat 64 243 - 1#64 from rfl, forDown_int 243 (by decide), Go.forIn_map,
    forIn_eq_foldl _ _ _ (fun t j => t.set j (laneInt8 l h idx j)),
    foldl_set_all _ _ 243 0#8 (fun i => by rw [List.mem_reverse, List.mem_range]), Flow.bind_run]
  · cases Gen.Pow.v2code.toInt _ <;> rfl
  · intro t j hj
    have hj' := List.mem_range.mp (List.mem_reverse.mp hj)
    simp only [Go.inRangeS_ofNat j _ (by omega), toNat_ofNat_lt j (by omega), decide_eq_true hj', Bool.not_true,
      Bool.false_eq_true, if_false]
    rfl

/-! concrete runs of the generated code -/
example : Gen.Pow.v2code.sufficientTrailingZeros [] 1#64 = some 2#64 := by decide
example : Gen.Pow.v2code.sufficientTrailingZeros [0#8, 1#8] 100#64 = some 7#64 := by decide
/-- `8 · 2^61 = 2^64` overflows: panic -/
example : Gen.Pow.v2code.sufficientTrailingZeros [] (BitVec.ofNat 64 (2 ^ 61)) = none := by decide
/-- the largest product that fits: 41 trailing zeros (3^40 < 2^64 - 8) -/
example : Gen.Pow.v2code.sufficientTrailingZeros [] (BitVec.ofNat 64 (2 ^ 61 - 1)) = some 41#64 := by decide

example : Gen.Pow.v2code.targetHash [] 0#64 = some ((Pow.maxHash : Nat) : Int) := by decide +kernel
example : Gen.Pow.v2code.targetHash [0#8] 1#64 = some ((Pow.maxHash / 10 : Nat) : Int) := by decide +kernel

/-- 243 zero trits: only the `v++` of chunk 0 contributes -/
theorem toInt_zero : Gen.Pow.v2code.toInt (List.replicate 243 0#8) = some 1 := by decide +kernel
example : Gen.Pow.v2code.toInt (List.replicate 243 0#8) = some 1 := toInt_zero
example : Gen.Pow.v2code.toInt [] = none := by decide
example : Gen.Pow.v2code.toInt (List.replicate 244 0#8) = none := by decide +kernel
/-- all-zero planes: every lane holds 243 zero trits -/
example : Gen.Pow.v2code.stateToInt (List.replicate 243 0#64) (List.replicate 243 0#64) 5#64 = some 1 := by
  have hz : ∀ k, laneInt8 (List.replicate 243 0#64) (List.replicate 243 0#64) 5 k = 0#8 := fun k => by
    have : (List.replicate 243 0#64).getD k 0#64 = 0#64 := by
      rw [List.getD_eq_getElem?_getD, List.getElem?_replicate]
      split <;> rfl
    rw [laneInt8, this]
    rfl
  rw [show (5#64 : BitVec 64) = BitVec.ofNat 64 5 from rfl, stateToInt_lane _ _ 5 (by decide),
    List.map_congr_left (fun k _ => hz k), List.map_const', List.length_range]
  exact toInt_zero

end Iota.Tie.PowV2Code
