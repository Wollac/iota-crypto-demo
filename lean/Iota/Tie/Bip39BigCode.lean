/-
Code tie for pkg/bip39 (bip39.go, utils.go): `computeChecksum`, `validateMnemonic`, `EntropyToMnemonic`, `MnemonicToEntropy`,
translated AS CODE by cmd/extract (loops_big2.go) into `Iota/Gen/Bip39Code.lean` (`Gen.Bip39Code.big.*`; a `*big.Int`
is an `Int`, a `Mnemonic` a `List (List (BitVec 8))`, `error` is `Option String`, `none` as a result = run-time panic),
against the model `Iota/Model/Bip39.lean` (on `Nat`).  The helpers `validateEntropy`, `padBytes`, `entropyBitsToWordCount`,
`wordCountToEntropyBits` are the translations in `Iota/Gen/Bip39.lean`, tied in `Iota/Tie/Bip39Code.lean`.

Parameters of the generated functions: `sha256_Sum256` (related to the model's `H` by `hH : ∀ x, sum (bv x) = bv (H x)`; the
equations hold for every such pair — that the hash returns 32 bytes is the assumption under which translating a `[32]byte`
as a list is faithful, it is not needed for the equations) and the three methods of the word list, about which `Externs`
states what is assumed (`externs_inhabited`: it can be met).

* `code_computeChecksum`: panics exactly for more than 256 bits, otherwise the model's value.
* `code_entropyToMnemonic`: for EVERY entropy (shorter than 2^59 bytes) the result `(words, error)` of the model — so it
  never panics: `words[i]` is in range, `wordList.Word` is only asked for indices below 2048, `computeChecksum` for at most
  16 ≤ 256 bits, and the word count is not negative —, and the error is `ErrInvalidEntropySize` exactly for a length other
  than 16, 20, …, 64 (`code_entropyToMnemonic_error`).
* `code_validateMnemonic`, `code_mnemonicToEntropy`: for EVERY word sequence (fewer than 2^58 words) the result of the
  model: it never panics — `wordList.Index` is only asked for words of the list (`validateMnemonic` has checked them), so
  `panic("invalid word index")` is unreachable; `padBytes` gets at most `size` bytes, `computeChecksum` at most 16 bits —,
  `ErrInvalidMnemonic` for a wrong count or an unknown word (`code_mnemonicToEntropy_invalid`), `ErrInvalidChecksum` / nil as
  the model says (`code_mnemonicToEntropy_error`).
-/
import Iota.Gen.Bip39Code
import Iota.Model.Bip39
import Iota.Tie.Bip39Code
import Iota.Props.C03

namespace Iota.Tie.Bip39BigCode
open Iota Iota.Go
open Iota.Tie.Bech32Code (bv bv_length bv_append bv_inj bv_beq bv_ofBitVec bigSetBytes_bv)
open Iota.Proofs.Bip39 (ValidLen ValidCount validLen_iff idxOf_lt)
open Iota.Tie.Bip39Code (entropyBitsToWordCount_eq wordCountToEntropyBits_eq padBytes_eq validateEntropy_eq)
open Iota.Gen.Bip39Code
open Iota.Bip39 (Bytes Word Err)

/-- a word sequence of the model as the translated code sees it -/
def bvs (ws : List Word) : List (List (BitVec 8)) := ws.map bv

/-! ### the math/big operations on non-negative numbers are the `Nat` operations -/

theorem bigAnd_ofNat (a b : Nat) : Go.bigAnd (a : Int) (b : Int) = ((a &&& b : Nat) : Int) := rfl
theorem bigOr_ofNat (a b : Nat) : Go.bigOr (a : Int) (b : Int) = ((a ||| b : Nat) : Int) := rfl
theorem bigRsh_ofNat (a n : Nat) : Go.bigRsh (a : Int) n = ((a >>> n : Nat) : Int) := rfl
theorem bigLsh_ofNat (a n : Nat) : Go.bigLsh (a : Int) n = ((a <<< n : Nat) : Int) := by
  simp [Go.bigLsh, Nat.shiftLeft_eq]
theorem bigInt64_ofNat (a : Nat) : Go.bigInt64 (a : Int) = BitVec.ofNat 64 a := by
  simp [Go.bigInt64]
theorem bigCmp_ofNat (a b : Nat) : (Go.bigCmp (a : Int) (b : Int) != 0#64) = decide (a ≠ b) := by
  show (!(Go.bigSign ((a : Int) - b) == 0#64)) = _
  rw [bigSign_eq_zero, ← decide_not]
  exact decide_eq_decide.mpr (by omega)

/-- two's complement on negative operands, as math/big documents (`-5 & 3`, `-5 | 3`, …) -/
example : Go.bigAnd (-5) 3 = 3 ∧ Go.bigAnd 5 (-3) = 5 ∧ Go.bigAnd (-5) (-3) = -7 ∧ Go.bigOr (-5) 3 = -5 ∧
    Go.bigOr 5 (-3) = -3 ∧ Go.bigOr (-5) (-3) = -1 ∧ Go.bigRsh (-5) 1 = -3 ∧ Go.bigAnd (-1) 12345 = 12345 ∧
    Go.bigOr (-256) 255 = -1 := by decide

theorem setBytes_bv (b : Bytes) : Go.bigSetBytes (bv b) = (Bip39.setBytes b : Int) := bigSetBytes_bv b

/-! ### computeChecksum -/

/-- `computeChecksum`: panics exactly for more than 256 bits; otherwise the model's value -/
theorem code_computeChecksum (sum : List (BitVec 8) → List (BitVec 8)) (H : Bytes → Bytes) (hH : ∀ x, sum (bv x) = bv (H x))
    (b : Bytes) (n : Nat) (hn : n < 2 ^ 63) :
    big.computeChecksum sum (bv b) (BitVec.ofNat 64 n) =
      if 256 < n then none else some (Bip39.computeChecksum H b n : Int) := by
  unfold big.computeChecksum Bip39.computeChecksum
  rw [show (256#64 : BitVec 64) = BitVec.ofNat 64 256 from rfl, slt_ofNat 256 n (by decide) hn]
  by_cases h : 256 < n
  · simp [h, Flow.result]
  · simp only [h, decide_false, Bool.false_eq_true, if_false, Flow.result, hH, setBytes_bv, bigRsh_ofNat]
    rw [BitVec.ofNat_sub_ofNat_of_le 256 n (by omega) (by omega), toNat_ofNat_lt _ (by omega)]

/-! ### what is assumed of the word-list parameters -/

/-- The three methods of the word list `wordList` holds during a call, for the list `W` of the model: `Contains` decides
membership, `Word(i)` is the `i`-th word for `0 ≤ i < 2048`, `Index(w)` is the position of a word of the list (the real
methods panic — `none` — for other arguments; nothing is assumed about those). -/
structure Externs (W : List Word) (contains : List (BitVec 8) → Bool) (word : BitVec 64 → Option (List (BitVec 8)))
    (index : List (BitVec 8) → Option (BitVec 64)) : Prop where
  length : W.length = 2048
  contains_eq : ∀ w : Word, contains (bv w) = W.contains w
  word_eq : ∀ i : Nat, i < 2048 → word (BitVec.ofNat 64 i) = some (bv (W.getD i []))
  index_eq : ∀ w : Word, w ∈ W → index (bv w) = some (BitVec.ofNat 64 (W.idxOf w))

/-- the assumptions can be met (2048 copies of the empty word; `Externs` does not ask for distinct words: the model's
`idxOf` is the FIRST position, which is the position when the words are distinct) -/
theorem externs_inhabited :
    Externs (List.replicate 2048 []) (fun a => a == []) (fun _ => some []) (fun _ => some 0#64) := by
  refine ⟨List.length_replicate .., ?_, ?_, ?_⟩
  · intro w
    rw [Bool.eq_iff_iff, List.contains_iff_mem, List.mem_replicate, beq_iff_eq]
    cases w <;> simp [bv]
  · intro i _
    rw [List.getD_eq_getElem?_getD, List.getElem?_replicate]
    split <;> rfl
  · intro w hw
    rw [List.eq_of_mem_replicate hw]
    show some 0#64 = some (BitVec.ofNat 64 (List.idxOf [] (List.replicate (2047 + 1) [])))
    rw [List.replicate_succ, List.idxOf_cons_self]

/-! #### the methods of a real list meet the assumptions -/

theorem idxOf_bvs (w : Word) (W : List Word) : (bvs W).idxOf (bv w) = W.idxOf w := by
  rw [bvs, List.idxOf, List.findIdx_map]
  exact congrArg (List.findIdx · W) (funext fun x => (bv_beq x w).trans (Bool.beq_eq_decide_eq x w).symm)

/-- `Contains`, `Word`, `Index` of the list `W` itself (what `internal/wordlists` implements: membership, the array
element — a panic outside `0 … len-1` —, the position — a panic for an unknown word) -/
def containsOf (W : List Word) (a : List (BitVec 8)) : Bool := (bvs W).contains a
def wordOf (W : List Word) (i : BitVec 64) : Option (List (BitVec 8)) := if i.msb then none else (bvs W)[i.toNat]?
def indexOf (W : List Word) (a : List (BitVec 8)) : Option (BitVec 64) :=
  if (bvs W).contains a then some (BitVec.ofNat 64 ((bvs W).idxOf a)) else none

/-- every list of 2048 words, with its own methods, meets `Externs` -/
theorem externs_of (W : List Word) (hW : W.length = 2048) : Externs W (containsOf W) (wordOf W) (indexOf W) := by
  have hmem : ∀ w : Word, bv w ∈ bvs W ↔ w ∈ W := by
    intro w
    simp only [bvs, List.mem_map]
    constructor
    · rintro ⟨x, hx, hh⟩; rw [← bv_inj hh]; exact hx
    · intro h; exact ⟨w, h, rfl⟩
  refine ⟨hW, ?_, ?_, ?_⟩
  · intro w
    rw [containsOf, Bool.eq_iff_iff, List.contains_iff_mem, List.contains_iff_mem, hmem]
  · intro i hi
    have hlt : i < W.length := by omega
    simp only [wordOf, msb_ofNat_small i (by omega), Bool.false_eq_true, if_false, toNat_ofNat_lt i (by omega), bvs,
      List.getElem?_map, List.getD_eq_getElem?_getD, List.getElem?_eq_getElem hlt, Option.map_some, Option.getD_some]
  · intro w hw
    have : (bvs W).contains (bv w) = true := by rw [List.contains_iff_mem, hmem]; exact hw
    simp only [indexOf, this, if_true, idxOf_bvs]

/-! ### EntropyToMnemonic -/

/-- the last value of `wordIndex` -/
def fillWi : Nat → Nat → Int → Int
  | 0, _, wi => wi
  | w + 1, N, _ => fillWi w (N >>> 11) ((N &&& 2047 : Nat) : Int)

/-- the loop of `EntropyToMnemonic` for a body `F` that does what the Go loop body does -/
theorem fill_loop {ρ : Type} (f : Nat → List (BitVec 8))
    (F : Int × List (List (BitVec 8)) × Int → BitVec 64 → Flow ρ (Int × List (List (BitVec 8)) × Int))
    (hF : ∀ (N : Nat) (ws : List (List (BitVec 8))) (wi : Int) (i : Nat), i < ws.length → i < 2 ^ 63 →
      F ((N : Int), ws, wi) (BitVec.ofNat 64 i) = Flow.run (((N >>> 11 : Nat) : Int), ws.set i (f (N &&& 2047)), ((N &&& 2047 : Nat) : Int)))
    (w : Nat) (hw : w < 2 ^ 63) (N : Nat) (sfx : List (List (BitVec 8))) (wi : Int) :
    Go.forIn ((List.range w).reverse.map (BitVec.ofNat 64)) ((N : Int), List.replicate w [] ++ sfx, wi) F =
      Flow.run (((N >>> (11 * w) : Nat) : Int), (Bip39.splitIndices w N).map f ++ sfx, fillWi w N wi) := by
  induction w generalizing N sfx wi with
  | zero => simp [Bip39.splitIndices, fillWi]
  | succ w ih =>
    have hset : (List.replicate (w + 1) ([] : List (BitVec 8)) ++ sfx).set w (f (N &&& 2047)) =
        List.replicate w [] ++ (f (N &&& 2047) :: sfx) := by
      rw [List.replicate_succ', List.append_assoc, List.set_append_right _ _ (by simp)]
      simp
    have h := ih (by omega) (N >>> 11) (f (N &&& 2047) :: sfx) ((N &&& 2047 : Nat) : Int)
    rw [List.range_succ, List.reverse_append, List.reverse_singleton, List.singleton_append, List.map_cons, forIn_cons,
      hF N _ wi w (by simp; omega) (by omega), Flow.bind_run, hset, h]
    simp only [Bip39.splitIndices, List.map_append, List.map_cons, List.map_nil, List.append_assoc, List.singleton_append, fillWi]
    rw [← Nat.shiftRight_add, Nat.mul_succ, Nat.add_comm (11 * w) 11]

theorem bigAnd_2047 (N : Nat) : Go.bigAnd (N : Int) 2047 = ((N &&& 2047 : Nat) : Int) := bigAnd_ofNat N 2047
theorem bigRsh_11 (N : Nat) : Go.bigRsh (N : Int) 11 = ((N >>> 11 : Nat) : Int) := bigRsh_ofNat N 11

/-- the names under which the translation reports the package's error variables -/
def errName : Err → String
  | .invalidEntropySize => "ErrInvalidEntropySize"
  | .invalidMnemonic => "ErrInvalidMnemonic"
  | .invalidChecksum => "ErrInvalidChecksum"

/-- the model's result of `EntropyToMnemonic` as the Go results `(Mnemonic, error)` -/
def encWords : Except Err (List Word) → List (List (BitVec 8)) × Option String
  | .ok ws => (bvs ws, none)
  | .error e => ([], some (errName e))

/-- the model's result of `MnemonicToEntropy` as the Go results `([]byte, error)` -/
def encBytes : Except Err Bytes → List (BitVec 8) × Option String
  | .ok b => (bv b, none)
  | .error e => ([], some (errName e))

theorem code_entropyToMnemonic {W : List Word} {contains : List (BitVec 8) → Bool} {word : BitVec 64 → Option (List (BitVec 8))}
    {index : List (BitVec 8) → Option (BitVec 64)} (E : Externs W contains word index)
    (sum : List (BitVec 8) → List (BitVec 8)) (H : Bytes → Bytes) (hH : ∀ x, sum (bv x) = bv (H x))
    (e : Bytes) (he : e.length < 2 ^ 59) :
    big.EntropyToMnemonic sum word (bv e) = some (encWords (Bip39.entropyToMnemonic H W e)) := by
  unfold big.EntropyToMnemonic Bip39.entropyToMnemonic
  rw [validateEntropy_eq e he]
  simp only [Bip39.entropyMultiple, Bip39.entropyMinBits, Bip39.entropyMaxBits]
  by_cases hv : e.length * 8 % 32 = 0 ∧ 128 ≤ e.length * 8 ∧ e.length * 8 ≤ 512
  · obtain ⟨h1, h2, h3⟩ := hv
    simp only [h1, h2, h3, and_self, if_true, if_false, Option.isSome_none, Bool.false_eq_true, bv_length, ← BitVec.ofNat_mul]
    rw [sdiv_ofNat _ 32 (by omega) (by decide),
      code_computeChecksum sum H hH e _ (by omega), if_neg (by omega)]
    simp only [Go.call, Flow.bind_run, setBytes_bv]
    rw [toNat_ofNat_lt _ (by omega), bigLsh_ofNat, bigOr_ofNat, entropyBitsToWordCount_eq _ (by omega)]
    have hwc : Bip39.entropyBitsToWordCount (e.length * 8) ≤ 48 := by unfold Bip39.entropyBitsToWordCount; omega
    generalize Bip39.entropyBitsToWordCount (e.length * 8) = wc at hwc ⊢
    simp only [Go.nonneg_ofNat wc (by omega), Bool.not_true, Bool.false_eq_true, if_false, toNat_ofNat_lt wc (by omega), List.length_replicate]
    rw [forDown_int wc (by omega), show ((0 : Int)) = ((0 : Nat) : Int) from rfl,
      ← List.append_nil (List.replicate wc ([] : List (BitVec 8))), fill_loop (fun i => bv (W.getD i [])) _ ?hF wc (by omega),
      List.append_nil]
    case hF =>
      intro N ws wi i hi hi2
      have hlt : N &&& 2047 < 2048 := Nat.lt_succ_of_le Nat.and_le_right
      simp only [bigAnd_2047, bigInt64_ofNat, E.word_eq _ hlt, Flow.bind_run, Go.inRangeS_ofNat i _ hi2, hi, decide_true, Bool.not_true,
        Bool.false_eq_true, if_false, bigRsh_11, toNat_ofNat_lt i (by omega)]
    have hm' : ¬ (e.length * 8 < 128 ∨ 512 < e.length * 8) := by omega
    simp [Flow.result, encWords, bvs, hm', List.map_map, Function.comp_def]
  · have hm : (e.length * 8 % 32 ≠ 0 ∨ 128 > e.length * 8 ∨ e.length * 8 > 512) := by omega
    simp [hv, hm, Flow.result, encWords, errName]

/-! ### validateMnemonic -/

theorem bvs_length (m : List Word) : (bvs m).length = m.length := List.length_map _

/-- `validateMnemonic`: never panics; `ErrInvalidMnemonic` for a wrong word count or a word that is not in the list -/
theorem code_validateMnemonic {W : List Word} {contains : List (BitVec 8) → Bool} {word : BitVec 64 → Option (List (BitVec 8))}
    {index : List (BitVec 8) → Option (BitVec 64)} (E : Externs W contains word index)
    (m : List Word) (hm : m.length < 2 ^ 58) :
    big.validateMnemonic contains (bvs m) =
      some (if m.length % 3 ≠ 0 ∨ 12 > m.length ∨ m.length > 48 then some "ErrInvalidMnemonic"
        else if !m.all (fun w => W.contains w) then some "ErrInvalidMnemonic" else none) := by
  unfold big.validateMnemonic
  rw [show Gen.Bip39.code.entropyBitsToWordCount 128#64 = BitVec.ofNat 64 12 from by decide,
    show Gen.Bip39.code.entropyBitsToWordCount 512#64 = BitVec.ofNat 64 48 from by decide]
  simp only [bvs_length]
  rw [srem_ofNat _ 3 (by omega) (by decide), bne, beq_ofNat _ 0 (by omega) (by decide), slt_ofNat _ 12 (by omega) (by decide),
    slt_ofNat 48 _ (by decide) (by omega),
    forIn_any (bvs m) (fun a => !contains a) (some "ErrInvalidMnemonic") _ (fun a _ => rfl)]
  have hany : (bvs m).any (fun a => !contains a) = !m.all (fun w => W.contains w) := by
    simp only [bvs, List.any_map, Function.comp_def, E.contains_eq, List.not_all_eq_any_not]
  rw [hany]
  have hcond : (!decide (m.length % 3 = 0) || decide (m.length < 12) || decide (48 < m.length)) = true ↔
      m.length % 3 ≠ 0 ∨ 12 > m.length ∨ m.length > 48 := by
    simp only [Bool.or_eq_true, Bool.not_eq_true', decide_eq_true_eq, decide_eq_false_iff_not]
    omega
  by_cases hc : m.length % 3 ≠ 0 ∨ 12 > m.length ∨ m.length > 48
  · rw [if_pos hc, if_pos (hcond.mpr hc)]
    rfl
  · rw [if_neg hc, if_neg (mt hcond.mp hc)]
    cases (m.all fun w => W.contains w) <;> rfl

/-! ### MnemonicToEntropy -/

theorem natBytes_fuel (f1 f2 n : Nat) (h1 : n < 256 ^ f1) (h2 : n < 256 ^ f2) :
    Go.natBytesFuel f1 n = bv (Bip39.natBytesAux f2 n) := by
  induction f1 generalizing f2 n with
  | zero =>
    obtain rfl : n = 0 := by simpa using h1
    cases f2 <;> rfl
  | succ f1 ih =>
    cases f2 with
    | zero =>
      obtain rfl : n = 0 := by simpa using h2
      rfl
    | succ f2 =>
      have d1 : n / 256 < 256 ^ f1 := Nat.div_lt_of_lt_mul (by rwa [Nat.pow_succ'] at h1)
      have d2 : n / 256 < 256 ^ f2 := Nat.div_lt_of_lt_mul (by rwa [Nat.pow_succ'] at h2)
      rw [Go.natBytesFuel, Bip39.natBytesAux, ih f2 _ d1 d2]
      split
      · rfl
      · rw [bv_append]
        rfl

theorem bigBytes_ofNat (n : Nat) (h : n < 256 ^ 80) : Go.bigBytes (n : Int) = bv (Bip39.natBytes n) := by
  unfold Go.bigBytes Bip39.natBytes
  rw [Int.natAbs_natCast]
  refine natBytes_fuel n 80 n ?_ h
  calc n < 2 ^ n := Nat.lt_two_pow_self
    _ ≤ 256 ^ n := Nat.pow_le_pow_left (by decide) n

/-- the decoder loop, `decoder = decoder<<11 | index(word)`, for a body `F` that does what the Go loop body does on the
words of the list -/
theorem join_loop {ρ : Type} (W : List Word) (F : Int → List (BitVec 8) → Flow ρ Int)
    (hF : ∀ (acc : Nat) (w : Word), w ∈ W → F (acc : Int) (bv w) = Flow.run (((acc <<< 11 ||| W.idxOf w : Nat)) : Int)) :
    ∀ (m : List Word) (acc : Nat), (∀ w ∈ m, w ∈ W) →
      Go.forIn (bvs m) (acc : Int) F = Flow.run (Bip39.joinIndices W acc m : Int)
  | [], _, _ => rfl
  | w :: ws, acc, hall => by
    rw [bvs, List.map_cons, forIn_cons, hF acc w (hall w (List.mem_cons_self ..)), Flow.bind_run]
    exact join_loop W F hF ws _ fun x hx => hall x (List.mem_cons_of_mem _ hx)

theorem code_mnemonicToEntropy {W : List Word} {contains : List (BitVec 8) → Bool} {word : BitVec 64 → Option (List (BitVec 8))}
    {index : List (BitVec 8) → Option (BitVec 64)} (E : Externs W contains word index)
    (sum : List (BitVec 8) → List (BitVec 8)) (H : Bytes → Bytes) (hH : ∀ x, sum (bv x) = bv (H x))
    (m : List Word) (hm : m.length < 2 ^ 58) :
    big.MnemonicToEntropy sum contains index (bvs m) = some (encBytes (Bip39.mnemonicToEntropy H W m)) := by
  unfold big.MnemonicToEntropy Bip39.mnemonicToEntropy
  rw [code_validateMnemonic E m hm]
  simp only [Bip39.entropyBitsToWordCount, Bip39.entropyMinBits, Bip39.entropyMaxBits, Bip39.entropyMultiple,
    show 3 * 128 / 32 = 12 from rfl, show 3 * 512 / 32 = 48 from rfl, Go.call, Flow.bind_run]
  by_cases hc : m.length % 3 ≠ 0 ∨ 12 > m.length ∨ m.length > 48
  · simp [hc, Flow.result, encBytes, errName]
  · simp only [hc, if_false]
    cases hall : (m.all fun w => W.contains w)
    · simp [Flow.result, encBytes, errName]
    · have hmem : ∀ w ∈ m, w ∈ W := fun w hw => List.contains_iff_mem.mp (List.all_eq_true.mp hall w hw)
      obtain ⟨t, ht⟩ : ∃ t, m.length = 3 * t := ⟨m.length / 3, by omega⟩
      have ht4 : 4 ≤ t := by omega
      have ht16 : t ≤ 16 := by omega
      simp only [Bool.not_true, Bool.false_eq_true, if_false, Option.isSome_none, bvs_length]
      rw [wordCountToEntropyBits_eq _ (by omega)]
      have e1 : Bip39.wordCountToEntropyBits m.length = 32 * t := by unfold Bip39.wordCountToEntropyBits; omega
      rw [e1, sdiv_ofNat _ 32 (by omega) (by decide), sdiv_ofNat _ 8 (by omega) (by decide)]
      simp only [show 32 * t / 32 = t by omega, show 32 * t / 8 = 4 * t by omega, toNat_ofNat_lt t (by omega)]
      rw [show ((0 : Int)) = ((0 : Nat) : Int) from rfl, join_loop W _ ?hF m 0 hmem, Flow.bind_run]
      case hF =>
        intro acc w hw
        have hi := idxOf_lt W E.length w hw
        rw [E.index_eq w hw, Flow.bind_run, slt_ofNat _ 0 (by omega) (by decide), sle_ofNat 2048 _ (by decide) (by omega),
          decide_eq_false (by omega), decide_eq_false (by omega), toInt_ofNat_small _ (by omega), bigLsh_ofNat, bigOr_ofNat]
        rfl
      -- the decoder is below 2048 ^ (3·t) = 256 ^ (4·t) · 2 ^ t, so the entropy has at most 4·t bytes
      have hdec : Bip39.joinIndices W 0 m < 256 ^ (4 * t) * 2 ^ t := by
        have hidx : ∀ w ∈ m, W.idxOf w < 2048 := fun w hw => idxOf_lt W E.length w (hmem w hw)
        rw [Proofs.Bip39.joinIndices_eq W m hidx 0, ← Proofs.Bip39.pow_2048 (3 * t) (4 * t) t (by omega), ← ht,
          ← List.length_map (W.idxOf ·)]
        exact Proofs.Digits.undigs_lt 2048 _ (List.forall_mem_map.mpr hidx)
      generalize Bip39.joinIndices W 0 m = dec at hdec ⊢
      have hd' : dec >>> t < 256 ^ (4 * t) := by
        rw [Nat.shiftRight_eq_div_pow, Nat.div_lt_iff_lt_mul (Nat.two_pow_pos t)]
        exact hdec
      have hd80 : dec >>> t < 256 ^ 80 := Nat.lt_of_lt_of_le hd' (Nat.pow_le_pow_right (by decide) (by omega))
      have hlen : (Bip39.natBytes (dec >>> t)).length ≤ 4 * t := (Proofs.Bip39.natBytesAux_spec 80 _ hd80).2 _ hd'
      have hmask : Go.bigLsh 1 t - (1 : Int) = (((1 <<< t) - 1 : Nat) : Int) := by
        rw [show Go.bigLsh 1 t = ((1 <<< t : Nat) : Int) from bigLsh_ofNat 1 t]
        have : 1 ≤ 1 <<< t := by rw [Nat.one_shiftLeft]; exact Nat.two_pow_pos t
        omega
      simp only [hmask, bigAnd_ofNat, bigRsh_ofNat, bigBytes_ofNat _ hd80]
      rw [padBytes_eq _ _ (by omega) (by omega), if_neg (by omega)]
      simp only [Flow.bind_run]
      rw [code_computeChecksum sum H hH _ t (by omega), if_neg (by omega)]
      simp only [Flow.bind_run, bigCmp_ofNat]
      by_cases hcs : dec &&& (1 <<< t - 1) = Bip39.computeChecksum H (Bip39.padBytes (Bip39.natBytes (dec >>> t)) (4 * t)) t
      · simp [hcs, Flow.result, encBytes]
      · simp [hcs, Flow.result, encBytes, errName]

/-! ### corollaries: the error kinds -/

variable {W : List Word} {contains : List (BitVec 8) → Bool} {word : BitVec 64 → Option (List (BitVec 8))}
  {index : List (BitVec 8) → Option (BitVec 64)}

/-- the error of `EntropyToMnemonic` is nil or `ErrInvalidEntropySize`, the latter exactly for a length other than
16, 20, …, 64 bytes -/
theorem code_entropyToMnemonic_error (E : Externs W contains word index)
    (sum : List (BitVec 8) → List (BitVec 8)) (H : Bytes → Bytes) (hH : ∀ x, sum (bv x) = bv (H x))
    (e : Bytes) (he : e.length < 2 ^ 59) :
    (big.EntropyToMnemonic sum word (bv e)).map (·.2) =
      some (if e.length % 4 = 0 ∧ 16 ≤ e.length ∧ e.length ≤ 64 then none else some "ErrInvalidEntropySize") := by
  rw [code_entropyToMnemonic E sum H hH e he, Option.map_some]
  by_cases hv : e.length % 4 = 0 ∧ 16 ≤ e.length ∧ e.length ≤ 64
  · unfold Bip39.entropyToMnemonic
    simp only []
    rw [if_pos hv, if_neg ((validLen_iff e.length).mpr hv)]
    rfl
  · rw [if_neg hv, Proofs.Bip39.encode_err H W e hv]
    rfl

/-- the error of `MnemonicToEntropy` is nil, `ErrInvalidMnemonic` or `ErrInvalidChecksum`, as the model says -/
theorem code_mnemonicToEntropy_error (E : Externs W contains word index)
    (sum : List (BitVec 8) → List (BitVec 8)) (H : Bytes → Bytes) (hH : ∀ x, sum (bv x) = bv (H x))
    (m : List Word) (hm : m.length < 2 ^ 58) :
    (big.MnemonicToEntropy sum contains index (bvs m)).map (·.2) =
      some (match Bip39.mnemonicToEntropy H W m with
        | .ok _ => none
        | .error .invalidEntropySize => some "ErrInvalidEntropySize"
        | .error .invalidMnemonic => some "ErrInvalidMnemonic"
        | .error .invalidChecksum => some "ErrInvalidChecksum") := by
  rw [code_mnemonicToEntropy E sum H hH m hm]
  cases h : Bip39.mnemonicToEntropy H W m with
  | ok b => simp [encBytes]
  | error e => cases e <;> simp [encBytes, errName]

/-- a wrong word count or an unknown word is `ErrInvalidMnemonic` -/
theorem code_mnemonicToEntropy_invalid (E : Externs W contains word index)
    (sum : List (BitVec 8) → List (BitVec 8)) (H : Bytes → Bytes) (hH : ∀ x, sum (bv x) = bv (H x))
    (m : List Word) (hm : m.length < 2 ^ 58)
    (hbad : m.length % 3 ≠ 0 ∨ m.length < 12 ∨ 48 < m.length ∨ ∃ w ∈ m, w ∉ W) :
    big.MnemonicToEntropy sum contains index (bvs m) = some ([], some "ErrInvalidMnemonic") := by
  have herr : Bip39.mnemonicToEntropy H W m = .error .invalidMnemonic := by
    by_cases hc : ValidCount m.length
    · have ⟨h3, h12, h48⟩ := hc
      obtain ⟨w, hw, hnw⟩ := ((hbad.resolve_left (by omega)).resolve_left (by omega)).resolve_left (by omega)
      exact Props.C03.decode_unknown_word H W m hc w hw hnw
    · exact Props.C03.decode_bad_count H W m hc
  rw [code_mnemonicToEntropy E sum H hH m hm, herr]
  rfl

/-- every argument of the generated functions is the image of a model value -/
theorem bytes_surj (k : List (BitVec 8)) : ∃ k' : Bytes, bv k' = k :=
  ⟨k.map UInt8.ofBitVec, bv_ofBitVec k⟩

theorem words_surj (m : List (List (BitVec 8))) : ∃ m' : List Word, bvs m' = m :=
  ⟨m.map (·.map UInt8.ofBitVec), by
    rw [bvs, List.map_map]
    exact (List.map_congr_left fun a _ => bv_ofBitVec a).trans (List.map_id m)⟩

end Iota.Tie.Bip39BigCode
