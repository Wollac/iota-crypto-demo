/-
Code tie for pkg/encoding/b1t6/b1t6.go and the four functions of iota.go `trinary` it calls, translated AS CODE by
cmd/extract into `Iota/Gen/B1T6.lean` (namespaces `Gen.B1T6.trinary`, `Gen.B1T6.b1t6`; `none` = run-time panic),
against the model `Iota/Model/B1T6.lean` (namespace `B1T6`).  All 12 generated functions are characterised.

Coercions (from `B1T8Code` / `BV`).  Bytes: `bv : List UInt8 → List (BitVec 8)`.  Trits and tryte values: Go
`int8` is `BitVec 8` read as two's complement (`BitVec.toInt`), the model uses `Int`; `trits := List.map BitVec.toInt`,
`ofTrits := List.map (BitVec.ofInt 8)`.  Errors: `errOf : Option B1T6.Err → Option String` (nil ↦ none,
ErrInvalidTrits / ErrInvalidLength ↦ the names of the package variables).  `dst` is an OUTPUT BUFFER: the translated
functions take the content of the slice passed as `dst` and return, as last component, its content on return.

Main statements.
1. `mustPutTryteTrits_eq`, `mustTritsToTryteValue_eq` (+ `tv_eq_ofInt`, `tv_toInt`, `mustTritsToTryteValue_valid`),
   `mustTryteValueToTryte_eq`, `mustTryteToTryteValue_eq`: the `trinary` helpers on ALL inputs, including exactly when
   they panic.
2. `encodeGroup_eq` (all 256 bytes), `decodeGroup_eq` (ALL pairs of int8 values), `encodedLen_eq` / `encodedLen_toNat`,
   `decodedLen_toInt` (every int) / `decodedLen_eq`.
3. `Encode_eq`, `len(src) < 2^60`: the result when `dst` has room for `6 * len(src)` trits, a panic when it has not.
4. `encodeToTrytes_eq`, `len(src) < 2^60`: never panics.
5. `decode_decodeBV`: `Decode` on ARBITRARY int8 entries (`len(src) < 2^63`, true of every Go slice; `decode_gen` is the
   instance for `len(src) < 2^62`) is the recursive function `decodeBV` defined below (tryte values computed with int8
   wrap-around), with a panic exactly when the decoded bytes do not fit into `dst`; `decode_of_room`: no panic when
   `len(src) / 6 ≤ len(dst)`; `Decode_eq`: on valid trits `decodeBV` is the model's `decode`.  `decode_wraps`: without
   `ValidTrits` the Go code and the model really differ (the model does not wrap around), so that hypothesis cannot be
   dropped.
6. `decodeTrytes_gen`: `DecodeTrytes` on ARBITRARY bytes is the recursive function `decodeTrytesBV` (panic = a byte
   outside `'9'` … `'Z'` in a pair that is reached); `decodeTrytes_eq`: on bytes within `'9'` … `'Z'` it is the model's
   `decodeTrytes` and never panics; `decodeTrytes_lowercase_panics`: it does panic on `"aa"`.
   The hypothesis of these equalities is `3 * len(src) < 2^63` (implied by `len(src) < 2^61`), not `len(src) < 2^62`,
   because the function allocates `make([]byte, DecodedLen(len(src) * 3))` and the product wraps around beyond that.
   `decodeTrytes_neg_panics`: for `2^63 ≤ 3 * len(src) ≤ 2^64 - 6` the product is an int ≤ −6, `DecodedLen` of it is
   negative and `make` panics (the translation checks `Go.nonneg` of the length), whatever the bytes are.  The upper
   end is `2^64 - 6`, not `2^64 - 1`, because `DecodedLen` divides (truncating towards zero) before the sign matters:
   for the two lengths with `3 * len(src) = 2^64 - 4` or `2^64 - 1` the product is −4 resp. −1 and the buffer length is
   0 (`buf_edge`).  No Go slice is that long.
Also: `forUp_groups` (the index lists of the two three-clause loops; for `len(src) < g` the bound is negative and the
loop is not entered) and `header_sound` (these lists are what the loop headers compute step by step).

NOT covered.
* Lengths beyond the stated bounds (`2^60` for the encoders; for `DecodeTrytes` the result for
  `3 * len ≥ 2^64 - 5`: the buffer is then shorter than `len / 2`, so the function panics or returns an error early).
* What a panicking call leaves in `dst` (`Encode` has written the groups that fitted, `Decode` the bytes that fitted):
  `none` carries no state.
* Everything the translation does not model (see the header of `Iota/Gen/B1T6.lean`): slice capacity, aliasing of
  `dst` and `src` (their element types differ in `Encode` / `Decode`, so they cannot overlap), the text of the
  `fmt.Errorf` messages (only which package error is wrapped), `strings.Builder` internals.
* `Decode` on invalid trits is NOT compared with the model `B1T6.decode` (which is only meant for valid trits) but
  with `decodeBV`; likewise `DecodeTrytes` outside `'9'` … `'Z'` with `decodeTrytesBV`.  Note that the bytes `':'` … `'@'`
  (58 … 64) are accepted by the Go table (value 0) and by the model alike, although they are not tryte characters.
-/
import Iota.Gen.B1T6
import Iota.Model.B1T6
import Iota.Tie.GoFlow
import Iota.Tie.B1T8Code

namespace Iota.Tie.B1T6Code
open Iota Iota.Go
open Iota.Tie.Bech32Code (bv bv_length forall_bv8)
open Iota.Tie.B1T8Code (trits ofTrits trits_ofTrits toInt_ofInt8 forIn_window emit emit_nil emit_cons emit_zero)

/-! ### 1. the four `trinary` helpers -/

/-- the three table entries `MustPutTryteTrits` writes (`none`: the index `v - MinTryteValue` is out of range) -/
def putVal (v : BitVec 8) : Option (List (BitVec 8)) :=
  let idx : BitVec 8 := v - BitVec.ofInt 8 (-13)
  if Go.inRangeS8 idx 27 then
    some [(Gen.B1T6.trinary.var_TryteValueToTritsLUT.getD idx.toNat []).getD 0 0#8,
      (Gen.B1T6.trinary.var_TryteValueToTritsLUT.getD idx.toNat []).getD 1 0#8,
      (Gen.B1T6.trinary.var_TryteValueToTritsLUT.getD idx.toNat []).getD 2 0#8]
  else none

theorem put_eq (ts : List (BitVec 8)) (v : BitVec 8) :
    Gen.B1T6.trinary.MustPutTryteTrits ts v =
      if 3 ≤ ts.length then (putVal v).map (· ++ ts.drop 3) else none := by
  by_cases h : 3 ≤ ts.length
  · match ts, h with
    | a :: b :: c :: rest, h =>
      rw [if_pos h]
      unfold Gen.B1T6.trinary.MustPutTryteTrits putVal
      simp only []
      generalize v - BitVec.ofInt 8 (-13) = idx
      cases Go.inRangeS8 idx 27 <;> simp
  · rw [if_neg h]
    unfold Gen.B1T6.trinary.MustPutTryteTrits
    simp [decide_eq_false (show ¬ 2 < ts.length by omega)]

theorem putVal_eq (v : BitVec 8) :
    putVal v = if -13 ≤ v.toInt ∧ v.toInt ≤ 13 then some (ofTrits (B1T6.tryteTrits v.toInt)) else none := by
  revert v; exact forall_bv8 (by decide +kernel)

/-- **`trinary.MustPutTryteTrits`, all inputs**: it panics iff `trits` has fewer than 3 entries or the tryte value
`v` is outside −13 … 13; otherwise the first three entries are overwritten with the model's `tryteTrits v`. -/
theorem mustPutTryteTrits_eq (ts : List (BitVec 8)) (v : BitVec 8) :
    Gen.B1T6.trinary.MustPutTryteTrits ts v =
      if 3 ≤ ts.length ∧ -13 ≤ v.toInt ∧ v.toInt ≤ 13 then
        some (ofTrits (B1T6.tryteTrits v.toInt) ++ ts.drop 3) else none := by
  rw [put_eq, putVal_eq]
  by_cases h : 3 ≤ ts.length
  · by_cases hv : -13 ≤ v.toInt ∧ v.toInt ≤ 13
    · rw [if_pos h, if_pos hv, if_pos ⟨h, hv⟩]; rfl
    · rw [if_pos h, if_neg hv, if_neg (fun h' => hv h'.2)]; rfl
  · rw [if_neg h, if_neg (fun h' => h h'.1)]

/-- the `int8` (wrap-around) value `t0 + 3·t1 + 9·t2` -/
def tv (a b c : BitVec 8) : BitVec 8 := a + b * 3#8 + c * 9#8

/-- **`trinary.MustTritsToTryteValue`, all inputs**: it panics iff there are fewer than 3 trits; otherwise the
result is `t0 + 3·t1 + 9·t2` in `int8` arithmetic (the rest of the slice is ignored). -/
theorem mustTritsToTryteValue_eq (ts : List (BitVec 8)) :
    Gen.B1T6.trinary.MustTritsToTryteValue ts =
      if 3 ≤ ts.length then some (tv (ts.getD 0 0#8) (ts.getD 1 0#8) (ts.getD 2 0#8)) else none := by
  unfold Gen.B1T6.trinary.MustTritsToTryteValue
  by_cases h : 3 ≤ ts.length
  · have h2 : decide (2 < ts.length) = true := decide_eq_true (by omega)
    have h1 : decide (1 < ts.length) = true := decide_eq_true (by omega)
    have h0 : decide (0 < ts.length) = true := decide_eq_true (by omega)
    simp only [h2, h1, h0, Bool.not_true, Bool.false_eq_true, if_false, if_pos h, Flow.result_done, tv]
  · have h2 : decide (2 < ts.length) = false := decide_eq_false (by omega)
    simp only [h2, Bool.not_false, if_true, if_neg h, Flow.result_panic]

/-- `tv` is the model's `tritsToTryteValue` reduced to `int8` (for all `int8` arguments) -/
theorem tv_eq_ofInt (a b c : BitVec 8) :
    tv a b c = BitVec.ofInt 8 (B1T6.tritsToTryteValue a.toInt b.toInt c.toInt) := by
  unfold tv B1T6.tritsToTryteValue
  rw [BitVec.ofInt_add, BitVec.ofInt_add, BitVec.ofInt_mul, BitVec.ofInt_mul, BitVec.ofInt_toInt, BitVec.ofInt_toInt,
    BitVec.ofInt_toInt]
  rfl

/-- on trits in {−1, 0, 1} the value is within −13 … 13, so there is no wrap-around: it is the model's -/
theorem tv_toInt (a b c : BitVec 8) (ha : B1T6.ValidTrit a.toInt) (hb : B1T6.ValidTrit b.toInt)
    (hc : B1T6.ValidTrit c.toInt) :
    (tv a b c).toInt = B1T6.tritsToTryteValue a.toInt b.toInt c.toInt := by
  unfold B1T6.ValidTrit at ha hb hc
  rw [tv_eq_ofInt]
  unfold B1T6.tritsToTryteValue
  exact toInt_ofInt8 _ (by omega) (by omega)

/-- **`trinary.MustTryteValueToTryte`, all inputs**: it panics iff `v` is outside −13 … 13; otherwise the result is
the model's `tryteChar v`. -/
theorem mustTryteValueToTryte_eq (v : BitVec 8) :
    Gen.B1T6.trinary.MustTryteValueToTryte v =
      if -13 ≤ v.toInt ∧ v.toInt ≤ 13 then some (B1T6.tryteChar v.toInt).toBitVec else none := by
  revert v; exact forall_bv8 (by decide +kernel)

/-- **`trinary.MustTryteToTryteValue`, all inputs**: it panics iff the byte is outside `'9'` (57) … `'Z'` (90) — in
particular on every lower-case letter; otherwise the result is the model's `tryteValue` (0 for `':'` … `'@'`). -/
theorem mustTryteToTryteValue_eq (t : BitVec 8) :
    Gen.B1T6.trinary.MustTryteToTryteValue t =
      if 57 ≤ t.toNat ∧ t.toNat ≤ 90 then some (BitVec.ofInt 8 (B1T6.tryteValue (UInt8.ofBitVec t))) else none := by
  revert t; exact forall_bv8 (by decide +kernel)

/-! ### 2. `EncodedLen`, `DecodedLen`, `encodeGroup`, `decodeGroup` -/

theorem toInt8_bounds (t : BitVec 8) : -128 ≤ t.toInt ∧ t.toInt ≤ 127 := by
  have h1 := BitVec.le_toInt t
  have h2 := BitVec.toInt_lt (x := t)
  simp only [show (8 : Nat) - 1 = 7 from rfl] at h1 h2
  omega

/-- **`decodeGroup`, all pairs of `int8` values** (not only tryte values): the model's `decodeGroup` on the integer
values; `ok = false` comes with the byte 0. -/
theorem decodeGroup_eq (t1 t2 : BitVec 8) :
    Gen.B1T6.b1t6.decodeGroup t1 t2 =
      (match B1T6.decodeGroup t1.toInt t2.toInt with
       | some x => (x.toBitVec, true)
       | none => (0#8, false)) := by
  have b1 := toInt8_bounds t1
  have b2 := toInt8_bounds t2
  -- the 64-bit sum `int(t1) + int(t2)*27` does not wrap around
  have hm : (BitVec.signExtend 64 t2 * 27#64).toInt = t2.toInt * 27 := by
    rw [BitVec.toInt_mul, BitVec.toInt_signExtend_of_le (by decide), show (27#64 : BitVec 64).toInt = 27 from rfl]
    apply Int.bmod_eq_of_le <;> simp <;> omega
  have hv : (BitVec.signExtend 64 t1 + BitVec.signExtend 64 t2 * 27#64).toInt = t1.toInt + t2.toInt * 27 := by
    rw [BitVec.toInt_add, hm, BitVec.toInt_signExtend_of_le (by decide)]
    apply Int.bmod_eq_of_le <;> simp <;> omega
  have hx : BitVec.signExtend 64 t1 + BitVec.signExtend 64 t2 * 27#64 = BitVec.ofInt 64 (t1.toInt + t2.toInt * 27) := by
    rw [← hv, BitVec.ofInt_toInt]
  unfold Gen.B1T6.b1t6.decodeGroup B1T6.decodeGroup
  simp only [BitVec.slt, hv, show (BitVec.ofInt 64 (-128)).toInt = -128 from by decide,
    show (127#64 : BitVec 64).toInt = 127 from rfl]
  rw [hx]
  generalize t1.toInt + t2.toInt * 27 = V at *
  by_cases h : V < -128 ∨ V > 127
  · rw [if_pos h, if_pos (by simpa using h)]
  · rw [if_neg h, if_neg (by simpa using h)]
    refine Prod.ext (BitVec.eq_of_toNat_eq ?_) rfl
    show _ = (UInt8.ofNat (V % 256).toNat).toNat
    rw [BitVec.toNat_setWidth, BitVec.toNat_ofInt, UInt8.toNat_ofNat']
    omega

/-- **`encodeGroup`, all 256 bytes**: the two tryte values of the model (as `int8`), both within −13 … 13. -/
theorem encodeGroup_eq (b : UInt8) :
    Gen.B1T6.b1t6.encodeGroup b.toBitVec =
      (BitVec.ofInt 8 (B1T6.encodeGroup b).1, BitVec.ofInt 8 (B1T6.encodeGroup b).2) ∧
    -13 ≤ (B1T6.encodeGroup b).1 ∧ (B1T6.encodeGroup b).1 ≤ 13 ∧
    -13 ≤ (B1T6.encodeGroup b).2 ∧ (B1T6.encodeGroup b).2 ≤ 13 := by
  revert b; exact Proofs.forall_byte (by decide +kernel)

/-- **`EncodedLen`** (every `int`; for `n < 2^60` the product `6 * n` does not wrap around) -/
theorem encodedLen_eq (n : Nat) : Gen.B1T6.b1t6.EncodedLen (BitVec.ofNat 64 n) = BitVec.ofNat 64 (6 * n) := by
  rw [Nat.mul_comm]; exact (BitVec.ofNat_mul n 6).symm

theorem encodedLen_toNat (n : Nat) (h : n < 2 ^ 60) :
    (Gen.B1T6.b1t6.EncodedLen (BitVec.ofNat 64 n)).toNat = 6 * n := by
  rw [encodedLen_eq]; exact toNat_ofNat_lt _ (by omega)

/-- **`DecodedLen`, every `int`**: Go's truncated division by 6 -/
theorem decodedLen_toInt (n : BitVec 64) : (Gen.B1T6.b1t6.DecodedLen n).toInt = n.toInt.tdiv 6 := by
  unfold Gen.B1T6.b1t6.DecodedLen
  rw [BitVec.toInt_sdiv_of_ne_or_ne _ _ (Or.inr (by decide))]
  rfl

theorem decodedLen_eq (n : Nat) (h : n < 2 ^ 63) :
    Gen.B1T6.b1t6.DecodedLen (BitVec.ofNat 64 n) = BitVec.ofNat 64 (n / 6) :=
  sdiv_ofNat n 6 h (by decide)

/-! ### `Go.call`, and reading a slice by index -/

@[simp] theorem call_some {ρ α : Type} (a : α) : (Go.call (some a) : Flow ρ α) = .run a := rfl
@[simp] theorem call_none {ρ α : Type} : (Go.call (none : Option α) : Flow ρ α) = .panic := rfl

/-- reading a slice through `for i := range src { … src[i] … }` -/
theorem idx_map (s : List (BitVec 8)) (h : s.length < 2 ^ 64) :
    ((List.range s.length).map (BitVec.ofNat 64)).map (fun i => s.getD i.toNat 0#8) = s := by
  rw [List.map_map]
  refine (List.map_congr_left fun j hj => ?_).trans ((range_map_getD s 0#8 id).trans (List.map_id s))
  rw [Function.comp_apply, toNat_ofNat_lt j (by have := List.mem_range.mp hj; omega)]
  rfl

/-! ### 3. `Encode` -/

/-- the six `int8` values `Encode` writes for the byte `b` -/
def encBV (b : BitVec 8) : List (BitVec 8) := ofTrits (B1T6.encodeByte (UInt8.ofBitVec b))

/-- `encodeGroup` on any `int8` pattern: read as integers, the two values are the model's, within −13 … 13 -/
theorem encodeGroup_toInt (b : BitVec 8) :
    (Gen.B1T6.b1t6.encodeGroup b).1.toInt = (B1T6.encodeGroup (UInt8.ofBitVec b)).1 ∧
    (Gen.B1T6.b1t6.encodeGroup b).2.toInt = (B1T6.encodeGroup (UInt8.ofBitVec b)).2 ∧
    (-13 ≤ (B1T6.encodeGroup (UInt8.ofBitVec b)).1 ∧ (B1T6.encodeGroup (UInt8.ofBitVec b)).1 ≤ 13) ∧
    (-13 ≤ (B1T6.encodeGroup (UInt8.ofBitVec b)).2 ∧ (B1T6.encodeGroup (UInt8.ofBitVec b)).2 ≤ 13) := by
  obtain ⟨hg, h1, h2, h3, h4⟩ := encodeGroup_eq (UInt8.ofBitVec b)
  change Gen.B1T6.b1t6.encodeGroup b = _ at hg
  rw [hg]
  exact ⟨toInt_ofInt8 _ (by omega) (by omega), toInt_ofInt8 _ (by omega) (by omega), ⟨h1, h2⟩, ⟨h3, h4⟩⟩

/-- every entry of the table has three trits -/
theorem tryteTrits_length (v : Int) (h : -13 ≤ v ∧ v ≤ 13) : (B1T6.tryteTrits v).length = 3 :=
  (by decide : ∀ l ∈ B1T6.tryteValueToTritsLUT, l.length = 3) _
    (getD_mem _ _ (show (v + 13).toNat < 27 by omega) _)

/-- the two windows of three trits that the two calls of `MustPutTryteTrits` write for the byte `b` -/
theorem enc_bv (b : BitVec 8) : ∃ p1 p2, putVal (Gen.B1T6.b1t6.encodeGroup b).1 = some p1 ∧
    putVal (Gen.B1T6.b1t6.encodeGroup b).2 = some p2 ∧ p1.length = 3 ∧ p2.length = 3 ∧ encBV b = p1 ++ p2 := by
  obtain ⟨e1, e2, r1, r2⟩ := encodeGroup_toInt b
  refine ⟨_, _, ?_, ?_, ?_, ?_, List.map_append⟩
  · rw [putVal_eq, e1, if_pos r1]; rfl
  · rw [putVal_eq, e2, if_pos r2]; rfl
  · rw [List.length_map, tryteTrits_length _ r1]
  · rw [List.length_map, tryteTrits_length _ r2]

theorem encBV_length (b : BitVec 8) : (encBV b).length = 6 := by
  obtain ⟨p1, p2, _, _, l1, l2, he⟩ := enc_bv b
  rw [he, List.length_append, l1, l2]

theorem flatMap_encBV (src : List UInt8) : (bv src).flatMap encBV = ofTrits (B1T6.encode src) := by
  rw [bv, List.flatMap_map, ofTrits, B1T6.encode, List.map_flatMap]
  rfl

/-- **`Encode`** (`len(src) < 2^60`): with enough room there is no panic, the function returns `6 * len(src)`, the first
`6 * len(src)` entries of `dst` are overwritten with the model's `encode src` and the others are untouched; if `dst` is
shorter the Go function panics (in `MustPutTryteTrits`, or at the slice expression `dst[j:]`, in the iteration that
does not fit; the earlier groups have been written by then). -/
theorem Encode_eq (dst : List (BitVec 8)) (src : List UInt8) (hlen : src.length < 2 ^ 60) :
    Gen.B1T6.b1t6.Encode dst (bv src) =
      if 6 * src.length ≤ dst.length then
        some (BitVec.ofNat 64 (6 * src.length), ofTrits (B1T6.encode src) ++ dst.drop (6 * src.length))
      else none := by
  unfold Gen.B1T6.b1t6.Encode
  simp only []
  -- the loop state is "`A` written, `W` left, `j = len(A)`"
  rw [show (dst, 0#64) = (([] : List (BitVec 8)) ++ dst, BitVec.ofNat 64 ([] : List (BitVec 8)).length) from rfl,
    forIn_window (fun A W => (A ++ W, BitVec.ofNat 64 A.length)) 6 (2 ^ 63)
      (fun i => encBV ((bv src).getD i.toNat 0#8)) (fun _ => encBV_length _) _ _ _ [] dst
      (by simp only [List.length_map, List.length_range, bv_length, List.length_nil]; omega),
    ← List.flatMap_map, idx_map (bv src) (by rw [bv_length]; omega), flatMap_encBV]
  · simp only [List.length_map, List.length_range, bv_length, List.nil_append]
    split
    · simp only [Flow.bind_run, Flow.result_done, ofTrits, List.length_map, Proofs.B1T6.encode_length]
    · rfl
  · -- one iteration: two windows of three trits are written, or the first or the second `MustPutTryteTrits` panics
    intro A W i hA
    obtain ⟨p1, p2, h1, h2, l1, l2, he⟩ := enc_bv ((bv src).getD i.toNat 0#8)
    have hA1 : (A ++ p1).length = A.length + 3 := by rw [List.length_append, l1]
    have d1 : decide (A.length ≤ (A ++ W).length) = true := decide_eq_true (by rw [List.length_append]; omega)
    simp only [← BitVec.ofNat_add, toNat_ofNat_lt A.length (by omega), toNat_ofNat_lt (A.length + 3) (by omega),
      Go.sliceFromS_ofNat A.length _ (by omega), Go.sliceFromS_ofNat (A.length + 3) _ (by omega), List.drop_left,
      List.take_left, put_eq, h1, he, d1, Bool.not_true, Bool.false_eq_true, if_false, Option.map_some]
    by_cases c1 : 3 ≤ W.length
    · have d2 : decide ((A ++ p1).length ≤ (A ++ p1 ++ W.drop 3).length) = true :=
        decide_eq_true (by rw [List.length_append (as := A ++ p1)]; omega)
      simp only [if_pos c1, call_some, Flow.bind_run, ← List.append_assoc A p1, ← hA1, List.drop_left, List.take_left,
        h2, d2, Bool.not_true, Bool.false_eq_true, if_false, Option.map_some]
      have hW : (W.drop 3).length = W.length - 3 := List.length_drop
      by_cases c2 : 3 ≤ (W.drop 3).length
      · rw [if_pos c2, if_pos (by omega), call_some, Flow.bind_run, List.drop_drop, List.append_assoc (A ++ p1) p2,
          List.length_append, List.length_append, l1, l2]
      · rw [if_neg c2, if_neg (by omega)]; rfl
    · rw [if_neg c1, if_neg (by omega)]; rfl

/-! ### 4. `EncodeToTrytes` -/

/-- the two characters `EncodeToTrytes` appends for the byte `b` -/
def e2tBV (b : BitVec 8) : List (BitVec 8) := bv (B1T6.encodeByteTrytes (UInt8.ofBitVec b))

theorem flatMap_e2tBV (src : List UInt8) : (bv src).flatMap e2tBV = bv (B1T6.encodeToTrytes src) := by
  rw [bv, List.flatMap_map, bv, B1T6.encodeToTrytes, List.map_flatMap]
  rfl

/-- the capacity `EncodedLen(len(src)) / 3` passed to `Grow` is not negative -/
theorem grow_nonneg (n : Nat) (h : n < 2 ^ 60) :
    Go.nonneg (BitVec.sdiv (Gen.B1T6.b1t6.EncodedLen (BitVec.ofNat 64 n)) 3#64) = true := by
  rw [encodedLen_eq, sdiv_ofNat (6 * n) 3 (by omega) (by decide)]
  exact Go.nonneg_ofNat _ (by omega)

/-- **`EncodeToTrytes`** (`len(src) < 2^60`): never panics; the result is the model's `encodeToTrytes src`. -/
theorem encodeToTrytes_eq (src : List UInt8) (hlen : src.length < 2 ^ 60) :
    Gen.B1T6.b1t6.EncodeToTrytes (bv src) = some (bv (B1T6.encodeToTrytes src)) := by
  unfold Gen.B1T6.b1t6.EncodeToTrytes
  simp only []
  rw [bv_length, grow_nonneg src.length hlen,
    forIn_eq_foldl _ _ _ (fun dst i => dst ++ e2tBV ((bv src).getD i.toNat 0#8)), ← List.flatMap_eq_foldl,
    ← List.flatMap_map, ← bv_length src, idx_map (bv src) (by rw [bv_length]; omega), flatMap_e2tBV]
  · rfl
  · -- one iteration: both tryte values are within −13 … 13, so neither `MustTryteValueToTryte` panics
    intro dst i _
    generalize (bv src).getD i.toNat 0#8 = b
    obtain ⟨e1, e2, r1, r2⟩ := encodeGroup_toInt b
    simp only [mustTryteValueToTryte_eq, e1, e2, if_pos r1, if_pos r2, call_some, Flow.bind_run, e2tBV,
      B1T6.encodeByteTrytes, bv, List.map_cons, List.map_nil, List.append_assoc, List.cons_append, List.nil_append]


/-! ### the index list of `for j := 0; j <= len(src)-g; j += g` -/

/-- for `len(src) < g` the bound `len(src) - g` is negative and the loop is not entered; otherwise `j` takes the
values `0, g, 2g, …, g * (len(src)/g - 1)` -/
theorem forUp_groups (n g : Nat) (hn : n < 2 ^ 63) (hg0 : 0 < g) (hg : g < 2 ^ 63) :
    forUp true true 0#64 (BitVec.ofNat 64 n - BitVec.ofNat 64 g) g =
      (List.range (n / g)).map (fun k => BitVec.ofNat 64 (g * k)) := by
  by_cases h : g ≤ n
  · rw [BitVec.ofNat_sub_ofNat_of_le n g (by omega) h, forUp_int true 0 (n - g) g (by simp) (by omega)]
    simp only [if_true, Nat.sub_zero, Nat.zero_add]
    rw [← Nat.div_eq_sub_div hg0 h]
    apply List.map_congr_left
    intro m _
    rw [Nat.mul_comm]
  · have : cmpUp true true (BitVec.ofNat 64 n - BitVec.ofNat 64 g) 0#64 = false := by
      unfold cmpUp
      simp only [if_true]
      rw [BitVec.sle, toInt_ofNat_sub n g hn hg]
      exact decide_eq_false (by simp; omega)
    rw [Nat.div_eq_of_lt (by omega), forUp_eq, this]
    rfl

/-- the test `len(src) % g != 0` after the loops -/
theorem rem_ne_zero (n g : Nat) (hn : n < 2 ^ 63) (hg : g < 2 ^ 63) :
    (BitVec.srem (BitVec.ofNat 64 n) (BitVec.ofNat 64 g) != 0#64) = !decide (n % g = 0) := by
  rw [srem_ofNat n g hn hg, bne, beq_ofNat (n % g) 0 (by have := Nat.mod_le n g; omega) (by decide)]

/-! ### the loop shared by `Decode` and `DecodeTrytes` -/

abbrev DSt := List (BitVec 8) × BitVec 64

/-- What a decoder returns from the state "`i` bytes written into `dst`" when the part of the source not yet read decodes
to `r`: a panic if that panics (`none`) or if its bytes do not fit into `dst`, else `ok` resp. `bad e` of the final count
and buffer. -/
def specT {ρ : Type} (ok : Nat → List (BitVec 8) → ρ) (bad : B1T6.Err → Nat → List (BitVec 8) → ρ)
    (dst : List (BitVec 8)) (i : Nat) : Option (List (BitVec 8) × Option B1T6.Err) → Option ρ
  | none => none
  | some (bs, none) => emit ok dst i bs
  | some (bs, some e) => emit (bad e) dst i bs

theorem specT_cons {ρ : Type} (ok : Nat → List (BitVec 8) → ρ) (bad : B1T6.Err → Nat → List (BitVec 8) → ρ)
    (dst : List (BitVec 8)) (i : Nat) (b : BitVec 8) (r : Option (List (BitVec 8) × Option B1T6.Err)) :
    specT ok bad dst i (r.map fun r => (b :: r.1, r.2)) =
      if i < dst.length then specT ok bad (dst.set i b) (i + 1) r else none := by
  match r with
  | none => split <;> rfl
  | some (bs, none) => exact emit_cons ok dst i b bs
  | some (bs, some e) => exact emit_cons (bad e) dst i b bs

/-- A decoder: the loop `for j := 0; j <= len(src)-g; j += g { … dst[i] = b; i++ }` and the statements `tail` after it,
which test `len(src) % g != 0`.  `D` is the group decoder, applied to the part `s` of `src` from `j` on: the iteration
panics (`none`), returns (`some (_, false)`) or writes the byte (`some (b, true)`, with the index check of `dst[i]`).  `S` is
the decoder as a recursive function on the source. -/
theorem forIn_groups {ρ : Type} (g : Nat) (hg : 0 < g) (hg' : g < 2 ^ 63) (src : List (BitVec 8))
    (hn : src.length < 2 ^ 63) (f : DSt → BitVec 64 → Flow ρ DSt) (tail : DSt → Flow ρ ρ)
    (D : List (BitVec 8) → Option (BitVec 8 × Bool)) (S : List (BitVec 8) → Option (List (BitVec 8) × Option B1T6.Err))
    (ok : Nat → List (BitVec 8) → ρ) (bad : B1T6.Err → Nat → List (BitVec 8) → ρ)
    (hS0 : ∀ s, s.length < g → S s = some ([], if s.length = 0 then none else some .invalidLength))
    (hS : ∀ s, g ≤ s.length → S s = (D s).bind fun p =>
      if p.2 then (S (s.drop g)).map (fun r => (p.1 :: r.1, r.2)) else some ([], some .invalidTrits))
    (hf : ∀ dst i j s, i < 2 ^ 63 → j + g ≤ src.length → src.drop j = s →
      f (dst, BitVec.ofNat 64 i) (BitVec.ofNat 64 j) =
        match D s with
        | none => .panic
        | some p =>
          if !p.2 then .done (bad .invalidTrits i dst)
          else if !decide (i < dst.length) then .panic
          else .run (dst.set i p.1, BitVec.ofNat 64 (i + 1)))
    (htail : ∀ dst i, tail (dst, BitVec.ofNat 64 i) =
      if BitVec.srem (BitVec.ofNat 64 src.length) (BitVec.ofNat 64 g) != 0#64 then .done (bad .invalidLength i dst)
      else .done (ok i dst))
    (dst : List (BitVec 8)) :
    Flow.result ((Go.forIn (forUp true true 0#64 (BitVec.ofNat 64 src.length - BitVec.ofNat 64 g) g) (dst, 0#64) f).bind
      tail) = specT ok bad dst 0 (S src) := by
  -- `m` groups to go, `k` done, `i` bytes written
  have loop : ∀ (m k i : Nat) (dst : List (BitVec 8)), k + m = src.length / g → i + m < 2 ^ 63 → i ≤ dst.length →
      Flow.result ((Go.forIn ((List.range' k m).map fun k => BitVec.ofNat 64 (g * k)) (dst, BitVec.ofNat 64 i) f).bind
        tail) = specT ok bad dst i (S (src.drop (g * k))) := by
    intro m
    induction m with
    | zero =>
      intro k i dst hk _ hd
      have hl : (src.drop (g * k)).length = src.length % g := by
        rw [List.length_drop, show k = src.length / g by omega, Nat.mod_eq_sub_mul_div]
      rw [List.range'_zero, List.map_nil, forIn_nil, Flow.bind_run, htail, rem_ne_zero _ g hn hg',
        hS0 _ (by rw [hl]; exact Nat.mod_lt _ hg), hl]
      by_cases h : src.length % g = 0
      · rw [decide_eq_true h, if_pos h]; exact (emit_nil ok dst i hd).symm
      · rw [decide_eq_false h, if_neg h]; exact (emit_nil (bad _) dst i hd).symm
    | succ m ih =>
      intro k i dst hk hi hd
      have hj : g * k + g ≤ src.length :=
        Nat.le_trans (Nat.mul_le_mul_left g (show k + 1 ≤ src.length / g by omega)) (Nat.mul_div_le _ _)
      rw [List.range'_succ, List.map_cons, forIn_cons, hf dst i (g * k) _ (by omega) hj rfl,
        hS _ (by rw [List.length_drop]; omega), List.drop_drop]
      match D (src.drop (g * k)) with
      | none => rfl
      | some (b, false) => exact (emit_nil (bad _) dst i hd).symm
      | some (b, true) =>
        simp only [Option.bind_some, if_true, Bool.not_true, Bool.false_eq_true, if_false]
        rw [specT_cons]
        by_cases hid : i < dst.length
        · rw [decide_eq_true hid, if_pos hid]
          exact ih (k + 1) (i + 1) _ (by omega) (by omega) (by rw [List.length_set]; omega)
        · rw [decide_eq_false hid, if_neg hid]; rfl
  rw [forUp_groups src.length g hn hg hg', List.range_eq_range']
  exact loop (src.length / g) 0 0 dst (Nat.zero_add _) (by have := Nat.div_le_self src.length g; omega) (Nat.zero_le _)

/-! ### 5. `Decode` -/

/-- the group decoder of `Decode`, on the first six entries of `s`: the tryte values are computed with `int8` wrap-around -/
def dec6 (s : List (BitVec 8)) : BitVec 8 × Bool :=
  Gen.B1T6.b1t6.decodeGroup (tv (s.getD 0 0#8) (s.getD 1 0#8) (s.getD 2 0#8)) (tv (s.getD 3 0#8) (s.getD 4 0#8) (s.getD 5 0#8))

/-- `Decode` on ARBITRARY `int8` entries, as a recursive function on the source: the tryte values are computed with
`int8` wrap-around (`tv`); bytes decoded before stopping, and the error -/
def decodeBV : List (BitVec 8) → List (BitVec 8) × Option B1T6.Err
  | t0 :: t1 :: t2 :: t3 :: t4 :: t5 :: rest =>
    if (Gen.B1T6.b1t6.decodeGroup (tv t0 t1 t2) (tv t3 t4 t5)).2 then
      ((Gen.B1T6.b1t6.decodeGroup (tv t0 t1 t2) (tv t3 t4 t5)).1 :: (decodeBV rest).1, (decodeBV rest).2)
    else ([], some .invalidTrits)
  | [] => ([], none)
  | _ => ([], some .invalidLength)

/-- at least 6 entries left: the first group is decoded, and the rest goes on from `s[6:]` -/
theorem decodeBV_of_le (s : List (BitVec 8)) (h : 6 ≤ s.length) :
    decodeBV s =
      if (dec6 s).2 then ((dec6 s).1 :: (decodeBV (s.drop 6)).1, (decodeBV (s.drop 6)).2) else ([], some .invalidTrits) := by
  match s, h with
  | t0 :: t1 :: t2 :: t3 :: t4 :: t5 :: rest, _ => rw [decodeBV]; rfl

/-- fewer than 6 entries left: nothing is decoded, and the length is bad unless nothing is left -/
theorem decodeBV_short (s : List (BitVec 8)) (h : s.length < 6) :
    decodeBV s = ([], if s.length = 0 then none else some .invalidLength) := by
  fun_cases decodeBV s
  case case1 | case2 => simp only [List.length_cons] at h; omega
  case case3 => rfl
  case case4 _ hne => rw [if_neg fun h0 => hne (List.eq_nil_of_length_eq_zero h0)]

/-- the names of the package's error variables (`errors.Is`) -/
def errOf : Option B1T6.Err → Option String
  | none => none
  | some .invalidTrits => some "ErrInvalidTrits"
  | some .invalidLength => some "ErrInvalidLength"

/-- **`Decode`, ARBITRARY `int8` entries** (`len(src) < 2^63`, true of every Go slice): with `(bytes, err) = decodeBV src`,
if the bytes fit into `dst` the Go function does not panic, returns `(len(bytes), err)` and has overwritten exactly the
first `len(bytes)` entries of `dst`; if they do not fit it panics (`dst[i] = b` out of range). -/
theorem decode_decodeBV (dst src : List (BitVec 8)) (hn : src.length < 2 ^ 63) :
    Gen.B1T6.b1t6.Decode dst src =
      if (decodeBV src).1.length ≤ dst.length then
        some (BitVec.ofNat 64 (decodeBV src).1.length, errOf (decodeBV src).2,
          (decodeBV src).1 ++ dst.drop (decodeBV src).1.length)
      else none := by
  unfold Gen.B1T6.b1t6.Decode
  simp only []
  rw [forIn_groups 6 (by decide) (by decide) src hn _ _ (fun s => some (dec6 s)) (fun s => some (decodeBV s))
    (fun n d => (BitVec.ofNat 64 n, none, d)) (fun e n d => (BitVec.ofNat 64 n, errOf (some e), d))
    (fun s h => congrArg some (decodeBV_short s h)) _ _ (fun _ _ => rfl) dst]
  · rcases decodeBV src with ⟨bs, _ | e⟩ <;> exact emit_zero (fun n d => (BitVec.ofNat 64 n, _, d)) dst bs
  · intro s h
    rw [decodeBV_of_le s h, Option.bind_some, Option.map_some]
    cases (dec6 s).2 <;> rfl
  · -- one iteration, on the group `s = src[j:]`
    intro dst i j s hi hj hs
    have hs3 : src.drop (j + 3) = s.drop 3 := by rw [← hs, List.drop_drop]
    have hl : 6 ≤ s.length := by rw [← hs, List.length_drop]; omega
    simp only [← BitVec.ofNat_add, toNat_ofNat_lt j (by omega), toNat_ofNat_lt (j + 3) (by omega),
      toNat_ofNat_lt i (by omega), Go.sliceFromS_ofNat j _ (by omega), Go.sliceFromS_ofNat (j + 3) _ (by omega),
      Go.sliceOK_ofNat j (j + 6) _ (by omega) (by omega), Go.inRangeS_ofNat i _ hi, hs, hs3, mustTritsToTryteValue_eq,
      decide_eq_true (show j ≤ src.length by omega), decide_eq_true (show j + 3 ≤ src.length by omega),
      decide_eq_true hj, decide_eq_true (show j ≤ j + 6 by omega), if_pos (show 3 ≤ s.length by omega),
      if_pos (show 3 ≤ (s.drop 3).length by rw [List.length_drop]; omega), Bool.not_true, Bool.false_eq_true, if_false,
      call_some, Flow.bind_run, getD_drop, Nat.reduceAdd, Bool.and_self]
    rfl

theorem decode_gen (dst src : List (BitVec 8)) (hn : src.length < 2 ^ 62) :
    Gen.B1T6.b1t6.Decode dst src =
      if (decodeBV src).1.length ≤ dst.length then
        some (BitVec.ofNat 64 (decodeBV src).1.length, errOf (decodeBV src).2,
          (decodeBV src).1 ++ dst.drop (decodeBV src).1.length)
      else none :=
  decode_decodeBV dst src (by omega)

/-- `decodeBV` decodes at most `len / 6` bytes -/
theorem decodeBV_length_le (s : List (BitVec 8)) : (decodeBV s).1.length * 6 ≤ s.length := by
  fun_induction decodeBV s
  case case1 => simp only [List.length_cons]; omega
  all_goals exact Nat.zero_le _

/-- **`Decode` with a destination of at least `DecodedLen(len(src))` bytes never panics**, whatever the `int8`
entries of `src` are. -/
theorem decode_of_room (dst src : List (BitVec 8)) (hn : src.length < 2 ^ 63) (hroom : src.length / 6 ≤ dst.length) :
    Gen.B1T6.b1t6.Decode dst src =
      some (BitVec.ofNat 64 (decodeBV src).1.length, errOf (decodeBV src).2,
        (decodeBV src).1 ++ dst.drop (decodeBV src).1.length) := by
  have := decodeBV_length_le src
  rw [decode_decodeBV dst src hn, if_pos (by omega)]

/-! #### on valid trits `decodeBV` is the model's `decode` -/

theorem model_decode_cons6 (t0 t1 t2 t3 t4 t5 : Int) (rest : List Int) :
    B1T6.decode (t0 :: t1 :: t2 :: t3 :: t4 :: t5 :: rest) =
      match B1T6.decodeGroup (B1T6.tritsToTryteValue t0 t1 t2) (B1T6.tritsToTryteValue t3 t4 t5) with
      | none => ([], some .invalidTrits)
      | some b => (b :: (B1T6.decode rest).1, (B1T6.decode rest).2) := by
  simp only [B1T6.decode]
  generalize B1T6.decodeGroup _ _ = p
  cases p <;> rfl

theorem decodeBV_valid : ∀ s : List (BitVec 8), B1T6.ValidTrits (trits s) →
    decodeBV s = (bv (B1T6.decode (trits s)).1, (B1T6.decode (trits s)).2)
  | t0 :: t1 :: t2 :: t3 :: t4 :: t5 :: rest, hv => by
    have hv' : ∀ t ∈ (t0 :: t1 :: t2 :: t3 :: t4 :: t5 :: rest), B1T6.ValidTrit t.toInt :=
      fun t ht => hv t.toInt (List.mem_map.mpr ⟨t, ht, rfl⟩)
    have hr := decodeBV_valid rest fun t ht => by
      obtain ⟨x, hx, rfl⟩ := List.mem_map.mp ht
      exact hv' x (by simp [hx])
    rw [decodeBV, decodeGroup_eq, tv_toInt t0 t1 t2 (hv' t0 (by simp)) (hv' t1 (by simp)) (hv' t2 (by simp)),
      tv_toInt t3 t4 t5 (hv' t3 (by simp)) (hv' t4 (by simp)) (hv' t5 (by simp)), hr]
    simp only [trits, List.map_cons]
    rw [model_decode_cons6]
    cases B1T6.decodeGroup (B1T6.tritsToTryteValue t0.toInt t1.toInt t2.toInt)
      (B1T6.tritsToTryteValue t3.toInt t4.toInt t5.toInt) <;> rfl
  | [], _ | [_], _ | [_, _], _ | [_, _, _], _ | [_, _, _, _], _ | [_, _, _, _, _], _ => rfl

/-- **`Decode`, valid trits** (`len(src) < 2^63`): with `(bytes, err) = decode (trits src)` of the model, if the bytes fit
into `dst` the Go function does not panic, returns `(len(bytes), err)` and has overwritten exactly the first `len(bytes)`
entries of `dst` with `bytes`; if they do not fit it panics. -/
theorem Decode_eq (dst src : List (BitVec 8)) (hn : src.length < 2 ^ 63) (hv : B1T6.ValidTrits (trits src)) :
    Gen.B1T6.b1t6.Decode dst src =
      if (B1T6.decode (trits src)).1.length ≤ dst.length then
        some (BitVec.ofNat 64 (B1T6.decode (trits src)).1.length, errOf (B1T6.decode (trits src)).2,
          bv (B1T6.decode (trits src)).1 ++ dst.drop (B1T6.decode (trits src)).1.length)
      else none := by
  rw [decode_decodeBV dst src hn, decodeBV_valid src hv, bv_length]


/-! ### 6. `DecodeTrytes` -/

/-- the byte is one of `'9'` (57) … `'Z'` (90), the index range of `trinary.TryteToTryteValueLUT` -/
def okCh (c : BitVec 8) : Bool := decide (57 ≤ c.toNat) && decide (c.toNat ≤ 90)

/-- the tryte value of a character, as `int8` -/
def chVal (c : BitVec 8) : BitVec 8 := BitVec.ofInt 8 (B1T6.tryteValue (UInt8.ofBitVec c))

/-- the group decoder of `DecodeTrytes`, on the first two entries of `s`; `none` = a byte outside `'9'` … `'Z'` -/
def dec2 (s : List (BitVec 8)) : Option (BitVec 8 × Bool) :=
  if okCh (s.getD 0 0#8) && okCh (s.getD 1 0#8) then
    some (Gen.B1T6.b1t6.decodeGroup (chVal (s.getD 0 0#8)) (chVal (s.getD 1 0#8)))
  else none

/-- `DecodeTrytes` on ARBITRARY bytes, as a recursive function on the source: `none` = panic (a byte outside
`'9'` … `'Z'` in a pair that is reached); otherwise the bytes decoded before stopping, and the error -/
def decodeTrytesBV : List (BitVec 8) → Option (List (BitVec 8) × Option B1T6.Err)
  | c1 :: c2 :: rest =>
    if okCh c1 && okCh c2 then
      if (Gen.B1T6.b1t6.decodeGroup (chVal c1) (chVal c2)).2 then
        (decodeTrytesBV rest).map (fun r => ((Gen.B1T6.b1t6.decodeGroup (chVal c1) (chVal c2)).1 :: r.1, r.2))
      else some ([], some .invalidTrits)
    else none
  | [] => some ([], none)
  | [_] => some ([], some .invalidLength)

/-- at least 2 bytes left: the first pair is decoded, and the rest goes on from `s[2:]` -/
theorem decodeTrytesBV_of_le (s : List (BitVec 8)) (h : 2 ≤ s.length) :
    decodeTrytesBV s = (dec2 s).bind fun p =>
      if p.2 then (decodeTrytesBV (s.drop 2)).map (fun r => (p.1 :: r.1, r.2)) else some ([], some .invalidTrits) := by
  match s, h with
  | c1 :: c2 :: rest, _ =>
    rw [decodeTrytesBV, dec2, List.getD_cons_zero, List.getD_cons_succ, List.getD_cons_zero]
    cases okCh c1 && okCh c2
    · rfl
    · simp only [if_true, Option.bind_some, List.drop_succ_cons, List.drop_zero]

theorem mustTryteToTryteValue_ok (c : BitVec 8) :
    Gen.B1T6.trinary.MustTryteToTryteValue c = if okCh c then some (chVal c) else none := by
  rw [mustTryteToTryteValue_eq]
  simp [okCh, chVal]

/-- `decodeTrytesBV` yields at most `len / 2` bytes, and exactly that many on success -/
theorem decodeTrytesBV_length (s bs : List (BitVec 8)) (e : Option B1T6.Err) (h : decodeTrytesBV s = some (bs, e)) :
    bs.length * 2 ≤ s.length ∧ (e = none → bs.length * 2 = s.length) := by
  fun_induction decodeTrytesBV s generalizing bs
  case case1 ih =>
    obtain ⟨⟨bs', e'⟩, hr, hb⟩ := Option.map_eq_some_iff.mp h
    simp only [Prod.mk.injEq] at hb
    obtain ⟨rfl, rfl⟩ := hb
    obtain ⟨h1, h2⟩ := ih bs' hr
    simp only [List.length_cons]
    exact ⟨by omega, fun he => by have := h2 he; omega⟩
  case case2 => cases h; exact ⟨Nat.zero_le _, fun h => nomatch h⟩
  case case3 => cases h
  case case4 => cases h; exact ⟨Nat.le_refl _, fun _ => rfl⟩
  case case5 => cases h; exact ⟨Nat.zero_le _, fun h => nomatch h⟩

/-- the length `DecodedLen(len(src) * 3)` of the buffer that `DecodeTrytes` makes is `len(src) / 2` -/
theorem buf_eq (n : Nat) (hn : 3 * n < 2 ^ 63) :
    Gen.B1T6.b1t6.DecodedLen ((BitVec.ofNat 64 n) * 3#64) = BitVec.ofNat 64 (n / 2) := by
  rw [← BitVec.ofNat_mul, decodedLen_eq _ (by omega), show n * 3 / 6 = n / 2 by omega]

/-- for `2^63 ≤ 3 * len(src) ≤ 2^64 - 6` the product `len(src) * 3` is an `int` ≤ −6, so `DecodedLen` of it (the
division truncates towards zero) is negative -/
theorem buf_neg (n : Nat) (h1 : 2 ^ 63 ≤ 3 * n) (h2 : 3 * n + 6 ≤ 2 ^ 64) :
    Go.nonneg (Gen.B1T6.b1t6.DecodedLen ((BitVec.ofNat 64 n) * 3#64)) = false := by
  unfold Go.nonneg
  rw [BitVec.msb_eq_toInt, decodedLen_toInt, ← BitVec.ofNat_mul, BitVec.toInt_eq_toNat_cond, toNat_ofNat_lt _ (by omega),
    if_neg (by omega)]
  have hm : ((n * 3 : Nat) : Int) - ((2 ^ 64 : Nat) : Int) = -(((2 ^ 64 - n * 3 : Nat) : Nat) : Int) := by omega
  rw [hm, Int.neg_tdiv, Int.tdiv_eq_ediv_of_nonneg (by omega)]
  have : decide (-(((2 ^ 64 - n * 3 : Nat) : Int) / 6) < 0) = true := decide_eq_true (by omega)
  rw [this]; rfl

/-- **`DecodeTrytes`, ARBITRARY bytes** (`3 * len(src) < 2^63`, so that `len(src) * 3` does not wrap around): it panics iff `decodeTrytesBV src = none`, i.e. iff a byte
outside `'9'` … `'Z'` occurs in a pair of characters that is reached (no earlier pair has made it return
`ErrInvalidTrits`; an unpaired last character is never looked at); otherwise it returns the decoded bytes, or `nil` and
the error. -/
theorem decodeTrytes_gen (src : List (BitVec 8)) (hn : 3 * src.length < 2 ^ 63) :
    Gen.B1T6.b1t6.DecodeTrytes src =
      match decodeTrytesBV src with
      | none => none
      | some (bs, none) => some (bs, none)
      | some (_, some e) => some ([], errOf (some e)) := by
  unfold Gen.B1T6.b1t6.DecodeTrytes
  simp only []
  -- the length of the buffer is not negative: `make` does not panic
  rw [buf_eq _ hn, Go.nonneg_ofNat _ (by omega), toNat_ofNat_lt _ (by omega)]
  simp only [Bool.not_true, Bool.false_eq_true, if_false]
  -- Go returns `nil` together with an error
  rw [forIn_groups 2 (by decide) (by decide) src (by omega) _ _ dec2 decodeTrytesBV (fun _ d => (d, none))
    (fun e _ _ => ([], errOf (some e))) _ decodeTrytesBV_of_le _ (fun _ _ => rfl)]
  · -- the bytes fill the buffer exactly
    match hr : decodeTrytesBV src with
    | none => rfl
    | some (bs, none) =>
      have hl := (decodeTrytesBV_length src bs none hr).2 rfl
      rw [specT, emit_zero, List.length_replicate, if_pos (by omega),
        List.drop_eq_nil_of_le (by rw [List.length_replicate]; omega), List.append_nil]
    | some (bs, some e) =>
      have hl := (decodeTrytesBV_length src bs _ hr).1
      rw [specT, emit_zero, List.length_replicate, if_pos (by omega)]
  · intro s h
    match s, h with
    | [], _ | [_], _ => rfl
  · -- one iteration, on the pair `s = src[j:]`
    intro dst i j s hi hj hs
    have g0 : src.getD j 0#8 = s.getD 0 0#8 := by rw [← hs, getD_drop]; rfl
    have g1 : src.getD (j + 1) 0#8 = s.getD 1 0#8 := by rw [← hs, getD_drop]
    simp only [← BitVec.ofNat_add, toNat_ofNat_lt j (by omega), toNat_ofNat_lt (j + 1) (by omega),
      toNat_ofNat_lt i (by omega), Go.inRangeS_ofNat j _ (by omega), Go.inRangeS_ofNat (j + 1) _ (by omega),
      Go.sliceOK_ofNat j (j + 2) _ (by omega) (by omega), Go.inRangeS_ofNat i _ hi, g0, g1, mustTryteToTryteValue_ok,
      decide_eq_true (show j < src.length by omega), decide_eq_true (show j + 1 < src.length by omega),
      decide_eq_true hj, decide_eq_true (show j ≤ j + 2 by omega), Bool.not_true, Bool.false_eq_true, if_false,
      Bool.and_self, dec2]
    cases okCh (s.getD 0 0#8)
    · simp only [Bool.false_eq_true, if_false, call_none, Flow.bind_panic, Bool.false_and]
    · cases okCh (s.getD 1 0#8)
      · simp only [if_true, call_some, Flow.bind_run, Bool.false_eq_true, if_false, call_none, Flow.bind_panic,
          Bool.and_false]
      · simp only [if_true, call_some, Flow.bind_run, Bool.and_self, errOf]


/-- **`DecodeTrytes`, `2^63 ≤ 3 * len(src) ≤ 2^64 - 6`**: `len(src) * 3` wraps around to an `int` ≤ −6, `DecodedLen` of
it is negative, and `make` panics — whatever the bytes are.  (Precisely this range: lengths below 2^63 only.  For the
two lengths with `3 * len(src) = 2^64 - 4` or `2^64 - 1` the product is −4 resp. −1, which `DecodedLen` rounds to 0:
see `buf_edge`.) -/
theorem decodeTrytes_neg_panics (src : List (BitVec 8)) (h1 : 2 ^ 63 ≤ 3 * src.length)
    (h2 : 3 * src.length + 6 ≤ 2 ^ 64) : Gen.B1T6.b1t6.DecodeTrytes src = none := by
  unfold Gen.B1T6.b1t6.DecodeTrytes
  rw [buf_neg _ h1 h2]
  rfl

/-- the two lengths below 2^63 whose triple is negative as an `int` without `make` panicking: the buffer is empty
(so the function then panics at the first `dst[i] = b` or in `MustTryteToTryteValue`, or returns `ErrInvalidTrits`
for the first pair; not proved here) -/
theorem buf_edge :
    3 * 6148914691236517204 = 2 ^ 64 - 4 ∧ 3 * 6148914691236517205 = 2 ^ 64 - 1 ∧
    Gen.B1T6.b1t6.DecodedLen (BitVec.ofNat 64 6148914691236517204 * 3#64) = 0#64 ∧
    Gen.B1T6.b1t6.DecodedLen (BitVec.ofNat 64 6148914691236517205 * 3#64) = 0#64 := by decide

/-! #### on characters `'9'` … `'Z'` `decodeTrytesBV` is the model's `decodeTrytesAux` -/

theorem tryteValue_bounds (c : UInt8) : -13 ≤ B1T6.tryteValue c ∧ B1T6.tryteValue c ≤ 13 := by
  unfold B1T6.tryteValue
  rw [List.getD_eq_getElem?_getD]
  cases h : B1T6.tryteToTryteValueLUT[c.toNat - 57]? with
  | none => decide
  | some x => exact (by decide : ∀ x ∈ B1T6.tryteToTryteValueLUT, -13 ≤ x ∧ x ≤ 13) x (List.mem_of_getElem? h)

theorem chVal_toInt (c : UInt8) : (chVal c.toBitVec).toInt = B1T6.tryteValue c :=
  toInt_ofInt8 (B1T6.tryteValue c) (by have := tryteValue_bounds c; omega) (by have := tryteValue_bounds c; omega)

theorem okCh_of (c : UInt8) (h : 57 ≤ c.toNat ∧ c.toNat ≤ 90) : okCh c.toBitVec = true := by
  unfold okCh
  rw [UInt8.toNat_toBitVec, decide_eq_true h.1, decide_eq_true h.2]; rfl

theorem decodeTrytesBV_valid : ∀ src : List UInt8, (∀ c ∈ src, 57 ≤ c.toNat ∧ c.toNat ≤ 90) →
    decodeTrytesBV (bv src) = some (bv (B1T6.decodeTrytesAux src).1, (B1T6.decodeTrytesAux src).2)
  | [], _ | [_], _ => rfl
  | c1 :: c2 :: rest, hc => by
    have hr := decodeTrytesBV_valid rest (fun c hcm => hc c (by simp [hcm]))
    simp only [bv, List.map_cons] at hr ⊢
    rw [decodeTrytesBV, okCh_of c1 (hc c1 (by simp)), okCh_of c2 (hc c2 (by simp)), decodeGroup_eq, chVal_toInt,
      chVal_toInt, hr, Proofs.B1T6.decodeTrytesAux_cons2]
    cases B1T6.decodeGroup (B1T6.tryteValue c1) (B1T6.tryteValue c2) <;> rfl

/-- **`DecodeTrytes`, all characters within `'9'` … `'Z'`** (`3 * len(src) < 2^63`; `len(src) < 2^61` suffices): it never panics and is the model's
`decodeTrytes`: the decoded bytes, or `nil` and the error. -/
theorem decodeTrytes_eq (src : List UInt8) (hn : 3 * src.length < 2 ^ 63)
    (hc : ∀ c ∈ src, 57 ≤ c.toNat ∧ c.toNat ≤ 90) :
    Gen.B1T6.b1t6.DecodeTrytes (bv src) =
      match B1T6.decodeTrytes src with
      | .ok bs => some (bv bs, none)
      | .error e => some ([], errOf (some e)) := by
  rw [decodeTrytes_gen (bv src) (by rw [bv_length]; exact hn), decodeTrytesBV_valid src hc,
    B1T6.decodeTrytes]
  match B1T6.decodeTrytesAux src with
  | (bs, none) => rfl
  | (_, some e) => rfl

/-- **`DecodeTrytes` panics on lower-case input**, e.g. on `"aa"` (index out of range in
`trinary.MustTryteToTryteValue`) -/
theorem decodeTrytes_lowercase_panics : Gen.B1T6.b1t6.DecodeTrytes [97#8, 97#8] = none := by decide


/-- **`MustTritsToTryteValue` on three valid trits** is the model's `tritsToTryteValue` -/
theorem mustTritsToTryteValue_valid (a b c : BitVec 8) (rest : List (BitVec 8)) (ha : B1T6.ValidTrit a.toInt)
    (hb : B1T6.ValidTrit b.toInt) (hc : B1T6.ValidTrit c.toInt) :
    ∃ x, Gen.B1T6.trinary.MustTritsToTryteValue (a :: b :: c :: rest) = some x ∧
      x.toInt = B1T6.tritsToTryteValue a.toInt b.toInt c.toInt := by
  refine ⟨tv a b c, ?_, tv_toInt a b c ha hb hc⟩
  rw [mustTritsToTryteValue_eq, if_pos (by simp)]
  rfl

/-- what `Encode` writes are the trits of the model, read back as `Int` (all in {−1, 0, 1}: no truncation to `int8`) -/
theorem trits_ofTrits_encode (src : List UInt8) : trits (ofTrits (B1T6.encode src)) = B1T6.encode src :=
  trits_ofTrits _ fun t ht => by rcases Proofs.B1T6.encode_valid src t ht with h | h | h <;> omega

/-- without `ValidTrits` the Go code and the model (which computes tryte values in ℤ) differ: `127 + 3·1` wraps
around to −126 in `int8`, so Go decodes the byte 0x82 where the model reports invalid trits -/
theorem decode_wraps :
    Gen.B1T6.b1t6.Decode [0#8] [127#8, 1#8, 0#8, 0#8, 0#8, 0#8] = some (1#64, none, [130#8]) ∧
    B1T6.decode (trits [127#8, 1#8, 0#8, 0#8, 0#8, 0#8]) = ([], some .invalidTrits) := by decide

/-- the loop headers `for j := 0; j <= len(src)-g; j += g` (g = 6 in `Decode`, g = 2 in `DecodeTrytes`), run step by
step in 64-bit arithmetic (`Go.loopIdx`), visit exactly the indices of `Go.forUp` (`forUp_groups`) -/
theorem header_sound (n g fuel : Nat) (hn : n < 2 ^ 62) (hg0 : 0 < g) (hg : g < 2 ^ 62) (hf : n / g < fuel) :
    loopIdx (cmpUp true true (BitVec.ofNat 64 n - BitVec.ofNat 64 g)) (· + BitVec.ofNat 64 g) fuel 0#64 =
      forUp true true 0#64 (BitVec.ofNat 64 n - BitVec.ofNat 64 g) g := by
  apply forUp_sound true true _ g hg0
  · simp only [ord, maxOrd, if_true]
    rw [toInt_ofNat_sub n g (by omega) (by omega)]
    omega
  · rw [forUp_groups n g (by omega) hg0 (by omega)]
    simpa using hf

end Iota.Tie.B1T6Code
