/-
Code tie for pkg/pow/worker.go: v1 `checkStateTrits`, translated AS CODE by cmd/extract into
`Iota/Gen/Pow.lean` (`Gen.Pow.v1.checkStateTrits : List (BitVec 64) → List (BitVec 64) → BitVec 64 →
Option (BitVec 64)`, `none` = run-time panic), against the model `Pow.checkV1` of `Iota/Model/Pow.lean`.

The array parameters `l, h *[243]uint` are lists of length 243 (here: the lists of two `Planes` = `Vector W 243`).
* For every `n ≤ 243` the Go function does not panic and returns `checkV1 l h n` (`checkStateTrits_eq`).
* For every `n > 243` (as a `uint`) the subtraction `243 - n` wraps around to a value above 243, the loop
  `for i := 243 - n; i < 243; i++` does not run, and the function returns `TrailingZeros(^0) = 0`, i.e. it
  reports lane 0 whatever the state is (the worker panics before calling it with such an `n`); the model
  `checkV1` is not meant for such `n` (its `Nat` subtraction truncates to 0 instead): `Tie.Pow.code_checkStateTrits_v1_large`.
-/
import Iota.Gen.Pow
import Iota.Model.Pow
import Iota.Tie.GoFlow
import Iota.Tie.CurlCodeLanes

namespace Iota.Tie.PowCode
open Iota Iota.Go
open Iota.Tie.CurlCodeLanes (getD_toList_toArray)

/-! ### `bits.TrailingZeros(^v)` is `firstZeroBit v` -/

theorem find?_congr_mem {α : Type} (l : List α) (p q : α → Bool) (h : ∀ a ∈ l, p a = q a) :
    l.find? p = l.find? q := by
  induction l with
  | nil => rfl
  | cons a l ih =>
    rw [List.find?_cons, List.find?_cons, h a (List.mem_cons_self ..),
      ih (fun b hb => h b (List.mem_cons_of_mem _ hb))]

theorem trailingZeros_not (v : BitVec 64) :
    trailingZeros64 (~~~v) = BitVec.ofNat 64 (Pow.firstZeroBit v) := by
  unfold trailingZeros64 Pow.firstZeroBit
  rw [find?_congr_mem (List.range 64) (fun i => (~~~v).getLsbD i) (fun i => !v.getLsbD i)]
  intro i hi
  have := List.mem_range.mp hi
  simp [this]

/-! ### the loop of `checkStateTrits` -/

/-- the body of the loop, on indices that are in range -/
def step (l h : List (BitVec 64)) (v i : BitVec 64) : BitVec 64 :=
  v ||| (l.getD i.toNat 0#64 ^^^ h.getD i.toNat 0#64)

/-- a guarded fold over `0 … N-1` is the plain fold over the indices from `start` on -/
theorem foldl_guard (F : BitVec 64 → Nat → BitVec 64) (start N : Nat) (hs : start ≤ N) (v0 : BitVec 64) :
    (List.range N).foldl (fun v i => if start ≤ i then F v i else v) v0 =
      ((List.range (N - start)).map (start + ·)).foldl F v0 := by
  have hf : (List.range N).filter (fun i => decide (start ≤ i)) = (List.range (N - start)).map (start + ·) := by
    conv => lhs; rw [show N = start + (N - start) by omega, List.range_add, List.filter_append]
    rw [List.filter_eq_nil_iff.mpr (fun i hi => by simpa using List.mem_range.mp hi), List.nil_append,
      List.filter_eq_self.mpr]
    intro i hi
    obtain ⟨m, _, rfl⟩ := List.mem_map.mp hi
    exact decide_eq_true (Nat.le_add_right _ _)
  rw [← hf, List.foldl_filter]
  simp only [decide_eq_true_eq]

/-- the code's fold over the last `n` indices is the model's guarded fold over all 243 -/
theorem orDiff_eq_foldl (l h : Pow.Planes) (n : Nat) (hn : n ≤ 243) :
    ((List.range n).map (fun m => BitVec.ofNat 64 (243 - n + m))).foldl (step l.toList h.toList) 0#64 =
      Pow.orDiff l h (243 - n) := by
  unfold Pow.orDiff
  rw [foldl_guard (fun v i => v ||| (l.toArray.getD i 0 ^^^ h.toArray.getD i 0)) (243 - n) 243 (by omega),
    Nat.sub_sub_self hn, List.foldl_map, List.foldl_map]
  apply foldl_congr_mem
  intro v m hm
  have := List.mem_range.mp hm
  rw [step, toNat_ofNat_lt _ (by omega), getD_toList_toArray, getD_toList_toArray]

/-- **v1 `checkStateTrits`, `n ≤ 243`**: no panic, and the result of the model. -/
theorem checkStateTrits_eq (l h : Pow.Planes) (n : Nat) (hn : n ≤ 243) :
    Gen.Pow.v1.checkStateTrits l.toList h.toList (BitVec.ofNat 64 n) =
      some (BitVec.ofNat 64 (Pow.checkV1 l h n)) := by
  unfold Gen.Pow.v1.checkStateTrits Pow.checkV1
  have hidx : forUp false false (243#64 - BitVec.ofNat 64 n) 243#64 1 =
      (List.range n).map (fun m => BitVec.ofNat 64 (243 - n + m)) := by
    rw [forUp_uint_lt, BitVec.ofNat_sub_ofNat_of_le 243 n (by omega) hn, toNat_ofNat_lt _ (by omega)]
    show List.map _ (List.range (243 - (243 - n))) = _
    rw [Nat.sub_sub_self hn]
  simp only []
  rw [hidx, forIn_eq_foldl _ _ _ (step l.toList h.toList), orDiff_eq_foldl l h n hn]
  · simp only [Flow.bind_run, Flow.result_done, trailingZeros_not]
  · intro v i hi
    obtain ⟨m, hm, rfl⟩ := List.mem_map.mp hi
    have := List.mem_range.mp hm
    simp only [Go.inRangeU_ofNat _ 243 (by omega : 243 - n + m < 2 ^ 64), decide_eq_true (show 243 - n + m < 243 by omega),
      Bool.not_true, Bool.false_eq_true, if_false]
    rfl

/-- the loop header `for i := 243 - n; i < 243; i++`, run step by step in 64-bit unsigned arithmetic (`Go.loopIdx`),
visits exactly the list the translation folds over, for EVERY `n` (wrap-around of `243 - n` included) -/
theorem header_sound (n : BitVec 64) (fuel : Nat) (h : (forUp false false (243#64 - n) 243#64 1).length < fuel) :
    loopIdx (cmpUp false false 243#64) (· + 1#64) fuel (243#64 - n) = forUp false false (243#64 - n) 243#64 1 :=
  forUp_sound_one false 243#64 fuel _ h

/-- the same for arbitrary lists of length 243 (the arrays behind `l, h *[243]uint`) -/
theorem checkStateTrits_eq' (l h : List (BitVec 64)) (hl : l.length = 243) (hh : h.length = 243)
    (n : Nat) (hn : n ≤ 243) :
    Gen.Pow.v1.checkStateTrits l h (BitVec.ofNat 64 n) =
      some (BitVec.ofNat 64 (Pow.checkV1 ⟨l.toArray, by simpa using hl⟩ ⟨h.toArray, by simpa using hh⟩ n)) := by
  have := checkStateTrits_eq ⟨l.toArray, by simpa using hl⟩ ⟨h.toArray, by simpa using hh⟩ n hn
  simpa [Vector.toList] using this

/-- as a Go `int` the result is the lane index `0 … 64` of the model -/
theorem checkV1_le (l h : Pow.Planes) (n : Nat) : Pow.checkV1 l h n ≤ 64 := by
  unfold Pow.checkV1 Pow.firstZeroBit
  cases hf : (List.range 64).find? (fun i => !(Pow.orDiff l h (243 - n)).getLsbD i) with
  | none => simp
  | some i =>
    have := List.mem_range.mp (List.mem_of_find?_eq_some hf)
    simp; omega

end Iota.Tie.PowCode
