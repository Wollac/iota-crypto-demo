/-
END-TO-END theorems for secp256k1.go: the C17 properties (`Iota/Props/C17.lean`: Add, Double, ScalarMult,
ScalarBaseMult compute the group law of the curve y² = x³ + 7 over ZMod P — Mathlib's `WeierstrassCurve.Affine.Point` —
for ALL representable points and EVERY scalar byte string, without panicking; IsOnCurve is the curve equation) stated about
the GENERATED functions `Gen.Secp256k1Code.btccurve.*` (`Iota/Gen/Secp256k1Code.lean`, regenerated from the Go source on
every run), obtained by combining the code tie `Tie.C17.code_*` (generated code = model, all inputs; proofs in `Tie/SecpCode`) with the property
theorems about the model.  No model function occurs in the statements: only the generated functions, `toPoint` (which
reads a pair of integers as a point of Mathlib's group: `(0,0)` is the identity, otherwise coordinates in `[0, P)` on the
curve), `beNat` (big-endian value of a byte string) and the group operations.

`inv` is the library method `(*big.Int).ModInverse`, a parameter of the generated code; `ExternsSpec inv` is its documented
behaviour (inverse in `[0, n)` when it exists, nil only when `g` and `n` are not coprime), met by `Secp256k1.modInverse`.
The receiver's fields are instantiated with the constants `init()` sets (`Tie.C17.constants`).
-/
import Iota.Props.C17
import Iota.Tie.C17

namespace Iota.Tie.E2E.Secp
open Iota Iota.Secp256k1 Iota.Proofs.Secp WeierstrassCurve.Affine
open Iota.Gen.Secp256k1Code.btccurve
open Iota.Tie.SecpCode (ExternsSpec)

/-- the scalar as the generated code receives it -/
def bv (k : List UInt8) : List (BitVec 8) := k.map UInt8.toBitVec

/-- **The generated `Add` returns the group sum for ALL representable points — P = Q, P = −Q and the identity on either
side included — and does not panic.** -/
theorem add_is_group_add_code {inv : Int → Int → Option Int} (S : ExternsSpec inv) {x1 y1 x2 y2 : Int} {Q1 Q2 : Curve.Point}
    (h1 : toPoint (x1, y1) = some Q1) (h2 : toPoint (x2, y2) = some Q2) :
    ∃ x3 y3, koblitzCurve_Add inv P x1 y1 x2 y2 = some (x3, y3) ∧ toPoint (x3, y3) = some (Q1 + Q2) := by
  rw [C17.code_add S.toExterns]
  exact Props.C17.add_is_group_add h1 h2

theorem double_is_group_double_code {inv : Int → Int → Option Int} (S : ExternsSpec inv) {x y : Int} {Q : Curve.Point}
    (h : toPoint (x, y) = some Q) :
    ∃ x3 y3, koblitzCurve_Double inv P x y = some (x3, y3) ∧ toPoint (x3, y3) = some (Q + Q) := by
  rw [C17.code_double S.toExterns]
  exact Props.C17.double_is_group_double h

/-- **The generated `ScalarMult` returns `[k]Q` for EVERY scalar byte string — zero, values at or above the group order, any
length, leading zeros — and every representable base point including the identity, and does not panic.** -/
theorem scalarMult_is_nsmul_code {inv : Int → Int → Option Int} (S : ExternsSpec inv) {x y : Int} {Q : Curve.Point}
    (h : toPoint (x, y) = some Q) (k : List UInt8) :
    ∃ x' y', koblitzCurve_ScalarMult inv P x y (bv k) = some (x', y') ∧ toPoint (x', y') = some (beNat k • Q) := by
  unfold bv
  rw [C17.code_scalarMult S.toExterns]
  exact Props.C17.scalarMult_is_nsmul h k

theorem scalarBaseMult_is_nsmul_code {inv : Int → Int → Option Int} (S : ExternsSpec inv) (k : List UInt8) :
    ∃ x' y', koblitzCurve_ScalarBaseMult inv P Gx Gy (bv k) = some (x', y') ∧ toPoint (x', y') = some (beNat k • G Fp) := by
  unfold bv
  rw [C17.code_scalarBaseMult S.toExterns]
  exact Props.C17.scalarBaseMult_is_nsmul k

/-- **The generated `IsOnCurve` holds exactly for the affine solutions of y² = x³ + 7 over ZMod P, for all integers, and
never panics.** -/
theorem isOnCurve_iff_code (x y : Int) :
    koblitzCurve_IsOnCurve P B x y = some (decide ((y : Fp) ^ 2 = (x : Fp) ^ 3 + 7)) := by
  rw [C17.code_isOnCurve]
  exact congrArg some (Bool.eq_iff_iff.mpr ((Props.C17.isOnCurve_iff x y).trans decide_eq_true_iff.symm))

/-- the identity is returned as `(0,0)` by the generated `Add` exactly when the sum is the identity -/
theorem add_identity_code {inv : Int → Int → Option Int} (S : ExternsSpec inv) {x1 y1 x2 y2 : Int} {Q1 Q2 : Curve.Point}
    (h1 : toPoint (x1, y1) = some Q1) (h2 : toPoint (x2, y2) = some Q2) :
    koblitzCurve_Add inv P x1 y1 x2 y2 = some (0, 0) ↔ Q1 + Q2 = 0 := by
  obtain ⟨x3, y3, he, hp⟩ := add_is_group_add_code S h1 h2
  rw [he, Option.some.injEq, Prod.mk.injEq, ← Props.C17.identity_is_zero_zero, hp, Option.some.injEq]

/-! ### non-vacuity: the hypotheses are met, and the generated code runs in the kernel -/
example : ExternsSpec Secp256k1.modInverse := SecpCode.externsSpec_inhabited
example : koblitzCurve_IsOnCurve P B Gx Gy = some true ∧ koblitzCurve_IsOnCurve P B 0 0 = some false := by decide +kernel
example : koblitzCurve_Add modInverse P 0 0 Gx Gy = some (Gx, Gy) := by decide +kernel
example : koblitzCurve_ScalarBaseMult modInverse P Gx Gy [1#8] = some (Gx, Gy) := by decide +kernel
example : koblitzCurve_Double modInverse P Gx Gy = koblitzCurve_ScalarBaseMult modInverse P Gx Gy [2#8] := by decide +kernel

end Iota.Tie.E2E.Secp
