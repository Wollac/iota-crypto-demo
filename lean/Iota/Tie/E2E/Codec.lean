/-
End-to-end theorems for the b1t6 / b1t8 codecs, stated about the GENERATED code only
(`Iota.Gen.B1T6.b1t6.*`, `Iota.Gen.B1T6.b1t8.*`: the Lean definitions translated from the Go source; `none` = Go run-time
panic; an output buffer is an extra list argument and the last component of the result is its content on return).

They are obtained by composing the code ties (`Iota/Tie/C14.lean`: generated code = model) with the property theorems
about the model (`Iota/Props/C14.lean`).  No model function occurs in a statement below; the only conversion that does is
`bv : List UInt8 → List (BitVec 8)` (`List.map UInt8.toBitVec`), used to quantify over byte strings.
-/
import Iota.Tie.C14
import Iota.Props.C14

namespace Iota.Tie.E2E.Codec
open Iota
open Iota.Tie.Bech32Code (bv bv_length)
open Iota.Tie.B1T8Code (trits ofTrits trits_length ofTrits_length)

/-- an `int8` buffer holding balanced trits only: every entry is −1, 0 or 1 -/
def Trits (t : List (BitVec 8)) : Prop := ∀ x ∈ t, x = BitVec.ofInt 8 (-1) ∨ x = 0#8 ∨ x = 1#8

/-- an `int8` buffer holding binary trits only: every entry is 0 or 1 -/
def Bits (t : List (BitVec 8)) : Prop := ∀ x ∈ t, x = 0#8 ∨ x = 1#8

/-! ### conversions between the code's `int8` buffers and the model's `Int` trits -/

theorem validTrits_of_Trits (t : List (BitVec 8)) (h : Trits t) : B1T6.ValidTrits (trits t) := by
  intro v hv
  simp only [trits, List.mem_map] at hv
  obtain ⟨x, hx, rfl⟩ := hv
  rcases h x hx with rfl | rfl | rfl
  · exact Or.inl (by decide)
  · exact Or.inr (Or.inl (by decide))
  · exact Or.inr (Or.inr (by decide))

theorem Trits_ofTrits (l : List Int) (h : B1T6.ValidTrits l) : Trits (ofTrits l) := by
  intro x hx
  simp only [ofTrits, List.mem_map] at hx
  obtain ⟨v, hv, rfl⟩ := hx
  rcases h v hv with rfl | rfl | rfl
  · exact Or.inl rfl
  · exact Or.inr (Or.inl (by decide))
  · exact Or.inr (Or.inr (by decide))

theorem b1t6_errOf_none (e : Option B1T6.Err) (h : B1T6Code.errOf e = none) : e = none := by
  cases e with
  | none => rfl
  | some e => cases e <;> cases h

theorem b1t8_errOf_none (e : Option B1T8.Err) (h : B1T8Code.errOf e = none) : e = none := by
  cases e with
  | none => rfl
  | some e => cases e <;> cases h

theorem take_bv_append (bs : List UInt8) (r : List (BitVec 8)) : (bv bs ++ r).take bs.length = bv bs := by
  rw [← bv_length bs, List.take_left]

theorem append_drop_all (a b : List (BitVec 8)) (k : Nat) (h : b.length ≤ k) : a ++ b.drop k = a := by
  rw [List.drop_of_length_le h, List.append_nil]

/-- A decoder accepts only code words.  `Dec` / `Enc` are generated functions, `dec` / `enc` their models with `g` trits per
byte; `hD`, `hE` are the code ties (at `t`), `hok` is the model's "`dec` succeeds only on code words". -/
theorem accepts_only_codewords {E : Type} (g : Nat) (hg : 0 < g)
    (Dec : List (BitVec 8) → List (BitVec 8) → Option (BitVec 64 × Option String × List (BitVec 8)))
    (Enc : List (BitVec 8) → List (BitVec 8) → Option (BitVec 64 × List (BitVec 8)))
    (dec : List Int → List UInt8 × Option E) (enc : List UInt8 → List Int) (errOf : Option E → Option String)
    (t : List (BitVec 8)) (hlen : t.length < 2 ^ 63)
    (hD : ∀ out : List (BitVec 8), ((dec (trits t)).1.length ≤ out.length → Dec out t =
        some (BitVec.ofNat 64 (dec (trits t)).1.length, errOf (dec (trits t)).2,
          bv (dec (trits t)).1 ++ out.drop (dec (trits t)).1.length)) ∧
      (out.length < (dec (trits t)).1.length → Dec out t = none))
    (hE : ∀ (buf : List (BitVec 8)) (bs : List UInt8), g * bs.length = t.length → g * bs.length ≤ buf.length →
      Enc buf (bv bs) = some (BitVec.ofNat 64 (g * bs.length), ofTrits (enc bs) ++ buf.drop (g * bs.length)))
    (herr : ∀ e, errOf e = none → e = none) (hok : ∀ bs, dec (trits t) = (bs, none) → trits t = enc bs)
    (henc : ∀ bs, (enc bs).length = g * bs.length)
    (out : List (BitVec 8)) (n : BitVec 64) (res : List (BitVec 8)) (h : Dec out t = some (n, none, res)) :
    g * n.toNat = t.length ∧ n.toNat ≤ out.length ∧ res.length = out.length ∧ (∃ bs, t = ofTrits (enc bs)) ∧
    ∀ buf : List (BitVec 8), buf.length = t.length → Enc buf (res.take n.toNat) = some (BitVec.ofNat 64 t.length, t) := by
  obtain ⟨h1, h2⟩ := hD out
  generalize hM : dec (trits t) = M at h1 h2
  obtain ⟨bs, e⟩ := M
  simp only at h1 h2
  by_cases hl : bs.length ≤ out.length
  · rw [h1 hl] at h
    simp only [Option.some.injEq, Prod.mk.injEq] at h
    obtain ⟨hn, he, hres⟩ := h
    obtain rfl := herr e he
    have ht : t = ofTrits (enc bs) := by rw [← hok bs hM, B1T8Code.ofTrits_trits]
    have htl : t.length = g * bs.length := by rw [← trits_length t, hok bs hM, henc]
    have hb : bs.length ≤ t.length := htl ▸ Nat.le_mul_of_pos_left _ hg
    have hnn : n.toNat = bs.length := by rw [← hn]; exact Go.toNat_ofNat_lt _ (by omega)
    refine ⟨by rw [hnn, htl], by omega, ?_, ⟨bs, ht⟩, ?_⟩
    · rw [← hres, List.length_append, List.length_drop, bv_length]; omega
    · intro buf hbuf
      rw [hnn, ← hres, take_bv_append, hE buf bs htl.symm (by omega), append_drop_all _ _ _ (by omega), ← ht, htl]
  · rw [h2 (by omega)] at h
    cases h

/-! ### b1t6 -/

/-- 1. ROUND TRIP OF THE CODE.  `Encode` into a buffer of exactly `EncodedLen` entries does not panic, reports `6·len(src)`
trits written, fills the buffer with balanced trits, and `Decode` of that buffer into any buffer of `len(src)` bytes does
not panic, reports `len(src)` bytes, no error, and returns the original bytes. -/
theorem b1t6_roundtrip (src : List UInt8) (hlen : src.length < 2 ^ 60) (dst : List (BitVec 8))
    (hdst : dst.length = 6 * src.length) :
    ∃ t, Gen.B1T6.b1t6.Encode dst (bv src) = some (BitVec.ofNat 64 (6 * src.length), t) ∧
      (∀ x ∈ t, x = BitVec.ofInt 8 (-1) ∨ x = 0#8 ∨ x = 1#8) ∧
      ∀ out : List (BitVec 8), out.length = src.length →
        Gen.B1T6.b1t6.Decode out t = some (BitVec.ofNat 64 src.length, none, bv src) := by
  refine ⟨ofTrits (B1T6.encode src), ?_, Trits_ofTrits _ (Props.C14.b1t6_encode_valid src), ?_⟩
  · rw [(C14.code_b1t6_encode dst src hlen).1 (by omega), append_drop_all _ _ _ (by omega)]
  · intro out hout
    have htl : (ofTrits (B1T6.encode src)).length < 2 ^ 63 := by
      rw [ofTrits_length, Props.C14.b1t6_encode_length]; omega
    have hv : B1T6.ValidTrits (trits (ofTrits (B1T6.encode src))) := by
      rw [B1T6Code.trits_ofTrits_encode]; exact Props.C14.b1t6_encode_valid src
    have h := ((C14.code_b1t6_decode out (ofTrits (B1T6.encode src)) htl).1 hv).1
    rw [B1T6Code.trits_ofTrits_encode, Props.C14.b1t6_decode_encode] at h
    have h' := h (by simp only; omega)
    simp only [B1T6Code.errOf] at h'
    rw [h', append_drop_all _ _ _ (by omega)]

theorem isTryteChar_bv (c : UInt8) (h : B1T6.isTryteChar c = true) :
    c.toBitVec = 57#8 ∨ (65 ≤ c.toBitVec.toNat ∧ c.toBitVec.toNat ≤ 90) := by
  simp only [B1T6.isTryteChar, Bool.or_eq_true, beq_iff_eq, Bool.and_eq_true, decide_eq_true_eq] at h
  rcases h with h | h
  · left; rw [h]; rfl
  · right; exact h

theorem encodeToTrytes_chars (src : List UInt8) : ∀ c ∈ B1T6.encodeToTrytes src, B1T6.isTryteChar c = true := by
  intro c hc
  simp only [B1T6.encodeToTrytes, List.mem_flatMap] at hc
  obtain ⟨b, _, hcb⟩ := hc
  obtain ⟨c1, c2, he, h1, h2, _⟩ := Proofs.B1T6.encodeByteTrytes_shape b
  rw [he] at hcb
  simp only [List.mem_cons, List.not_mem_nil, or_false] at hcb
  rcases hcb with rfl | rfl <;> assumption

theorem encodeToTrytes_length (src : List UInt8) : (B1T6.encodeToTrytes src).length = 2 * src.length := by
  induction src with
  | nil => rfl
  | cons b src ih =>
    rw [Proofs.B1T6.encodeToTrytes_cons, List.length_append, ih]
    obtain ⟨c1, c2, he, _⟩ := Proofs.B1T6.encodeByteTrytes_shape b
    rw [he]; simp only [List.length_cons, List.length_nil]; omega

/-- 2. TRYTE ROUND TRIP OF THE CODE.  `EncodeToTrytes` does not panic and returns `2·len(src)` characters of the tryte
alphabet, which `DecodeTrytes` (without panicking) decodes to the original bytes with no error. -/
theorem b1t6_trytes_roundtrip (src : List UInt8) (hlen : src.length < 2 ^ 60) :
    ∃ y, Gen.B1T6.b1t6.EncodeToTrytes (bv src) = some y ∧
      y.length = 2 * src.length ∧
      (∀ c ∈ y, c = 57#8 ∨ (65 ≤ c.toNat ∧ c.toNat ≤ 90)) ∧
      Gen.B1T6.b1t6.DecodeTrytes y = some (bv src, none) := by
  refine ⟨bv (B1T6.encodeToTrytes src), C14.code_b1t6_encodeToTrytes src hlen, ?_, ?_, ?_⟩
  · rw [bv_length, encodeToTrytes_length]
  · intro c hc
    simp only [bv, List.mem_map] at hc
    obtain ⟨u, hu, rfl⟩ := hc
    exact isTryteChar_bv u (encodeToTrytes_chars src u hu)
  · have hc : ∀ c ∈ B1T6.encodeToTrytes src, 57 ≤ c.toNat ∧ c.toNat ≤ 90 := by
      intro c hc
      have h := isTryteChar_bv c (encodeToTrytes_chars src c hc)
      rcases h with h | h
      · have : c.toNat = 57 := by
          have := congrArg BitVec.toNat h
          simpa using this
        omega
      · have h1 : c.toBitVec.toNat = c.toNat := rfl
        omega
    have h := (C14.code_b1t6_decodeTrytes (B1T6.encodeToTrytes src)
      (by rw [encodeToTrytes_length]; omega) hc).1
    rw [Props.C14.b1t6_decodeTrytes_encode] at h
    exact h

/-- 3. THE DECODER ACCEPTS ONLY CODE WORDS, at code level.  On balanced trits `t`, whatever the output buffer `out`:
if `Decode` returns (no panic) with no error, count `n` and buffer `res`, then `n = len(t) / 6` exactly
(`6·n = len(t)`), and re-encoding the `n` decoded bytes `res[:n]` with the generated `Encode` into any buffer of `len(t)`
entries writes `len(t)` trits and reproduces `t` exactly.  (No hypothesis that `out` is long enough is needed: when it is too
short `Decode` panics, so the premise fails.) -/
theorem b1t6_decode_accepts_only_codewords (t : List (BitVec 8))
    (hv : ∀ x ∈ t, x = BitVec.ofInt 8 (-1) ∨ x = 0#8 ∨ x = 1#8) (hlen : t.length < 2 ^ 62)
    (out : List (BitVec 8)) (n : BitVec 64) (res : List (BitVec 8))
    (h : Gen.B1T6.b1t6.Decode out t = some (n, none, res)) :
    6 * n.toNat = t.length ∧ n.toNat ≤ out.length ∧ res.length = out.length ∧
    ∀ buf : List (BitVec 8), buf.length = t.length →
      Gen.B1T6.b1t6.Encode buf (res.take n.toNat) = some (BitVec.ofNat 64 t.length, t) := by
  have hv' := validTrits_of_Trits t hv
  obtain ⟨h1, h2, h3, _, h5⟩ := accepts_only_codewords 6 (by decide) _ _ B1T6.decode B1T6.encode B1T6Code.errOf t (by omega)
    (fun out => (C14.code_b1t6_decode out t (by omega)).1 hv')
    (fun buf bs hb => (C14.code_b1t6_encode buf bs (by omega)).1) b1t6_errOf_none
    (fun bs => (Props.C14.b1t6_decode_ok_iff (trits t) hv' bs).1) Props.C14.b1t6_encode_length out n res h
  exact ⟨h1, h2, h3, h5⟩

/-! ### b1t8 -/

theorem b1t8_encode_length (bs : List UInt8) : (B1T8.encode bs).length = 8 * bs.length := by
  induction bs with
  | nil => rfl
  | cons b bs ih =>
    rw [Proofs.B1T8.encode_cons, List.length_append, ih]
    simp only [B1T8.encodeByte, List.length_cons, List.length_nil]; omega

theorem b1t8_encode_bits (bs : List UInt8) : Bits (ofTrits (B1T8.encode bs)) := by
  intro x hx
  obtain ⟨v, hv, rfl⟩ := List.mem_map.mp hx
  rcases B1T8Code.encode_bits bs v hv with rfl | rfl
  · exact Or.inl rfl
  · exact Or.inr rfl

/-- 4a. b1t8 ROUND TRIP OF THE CODE.  `Encode` into a buffer of exactly `EncodedLen` entries does not panic, reports
`8·len(src)` trits, fills the buffer with 0/1 trits, and `Decode` of that buffer into any buffer of `len(src)` bytes does not
panic, reports `len(src)` bytes, no error, and returns the original bytes. -/
theorem b1t8_roundtrip (src : List UInt8) (hlen : src.length < 2 ^ 60) (dst : List (BitVec 8))
    (hdst : dst.length = 8 * src.length) :
    ∃ t, Gen.B1T6.b1t8.Encode dst (bv src) = some (BitVec.ofNat 64 (8 * src.length), t) ∧
      (∀ x ∈ t, x = 0#8 ∨ x = 1#8) ∧
      ∀ out : List (BitVec 8), out.length = src.length →
        Gen.B1T6.b1t8.Decode out t = some (BitVec.ofNat 64 src.length, none, bv src) := by
  refine ⟨ofTrits (B1T8.encode src), ?_, b1t8_encode_bits src, ?_⟩
  · rw [(C14.code_b1t8_encode dst src).1 (by omega), append_drop_all _ _ _ (by omega)]
  · intro out hout
    have htl : (ofTrits (B1T8.encode src)).length < 2 ^ 63 := by
      rw [ofTrits_length, b1t8_encode_length]; omega
    have h := (C14.code_b1t8_decode out (ofTrits (B1T8.encode src)) htl).1
    rw [B1T8Code.trits_ofTrits_encode, Props.C14.b1t8_decode_encode] at h
    have h' := h (by simp only; omega)
    simp only [B1T8Code.errOf] at h'
    rw [h', append_drop_all _ _ _ (by omega)]

/-- 4b. b1t8 ACCEPTANCE = CODE WORDS, at code level, for ALL `int8` input (no validity hypothesis) and whatever the
output buffer: if `Decode` returns with no error, count `n` and buffer `res`, then `8·n = len(t)` and re-encoding `res[:n]`
with the generated `Encode` into any buffer of `len(t)` entries reproduces `t` exactly (in particular `t` holds only 0/1). -/
theorem b1t8_decode_accepts_only_codewords (t : List (BitVec 8)) (hlen : t.length < 2 ^ 63)
    (out : List (BitVec 8)) (n : BitVec 64) (res : List (BitVec 8))
    (h : Gen.B1T6.b1t8.Decode out t = some (n, none, res)) :
    8 * n.toNat = t.length ∧ n.toNat ≤ out.length ∧ res.length = out.length ∧
    (∀ x ∈ t, x = 0#8 ∨ x = 1#8) ∧
    ∀ buf : List (BitVec 8), buf.length = t.length →
      Gen.B1T6.b1t8.Encode buf (res.take n.toNat) = some (BitVec.ofNat 64 t.length, t) := by
  obtain ⟨h1, h2, h3, ⟨bs, ht⟩, h5⟩ := accepts_only_codewords 8 (by decide) _ _ B1T8.decode B1T8.encode B1T8Code.errOf t hlen
    (fun out => C14.code_b1t8_decode out t hlen) (fun buf bs _ => (C14.code_b1t8_encode buf bs).1) b1t8_errOf_none
    (fun bs => (Props.C14.b1t8_decode_ok_iff (trits t) bs).1) b1t8_encode_length out n res h
  exact ⟨h1, h2, h3, ht ▸ b1t8_encode_bits bs, h5⟩

/-! ### non-vacuity: the generated code evaluated on concrete input -/

/-- 1 on `src = [0, 255, 128]` (`dst` = 18 entries of garbage) -/
example :
    Gen.B1T6.b1t6.Encode (List.replicate 18 7#8) (bv [0, 255, 128]) =
      some (18#64, [0, 0, 0, 0, 0, 0, -1, 0, 0, 0, 0, 0, 1, -1, 1, 1, 1, -1].map (BitVec.ofInt 8)) ∧
    Gen.B1T6.b1t6.Decode (List.replicate 3 7#8)
        ([0, 0, 0, 0, 0, 0, -1, 0, 0, 0, 0, 0, 1, -1, 1, 1, 1, -1].map (BitVec.ofInt 8)) =
      some (3#64, none, bv [0, 255, 128]) := by decide

/-- 2 on `src = [0, 255, 128]`: the trytes are `"99Z9GV"` -/
example :
    Gen.B1T6.b1t6.EncodeToTrytes (bv [0, 255, 128]) = some [57#8, 57#8, 90#8, 57#8, 71#8, 86#8] ∧
    Gen.B1T6.b1t6.DecodeTrytes [57#8, 57#8, 90#8, 57#8, 71#8, 86#8] = some (bv [0, 255, 128], none) := by decide

/-- 3: a non-code word is rejected (premise of 3 fails with an error), a code word is accepted and re-encodes to itself -/
example :
    Gen.B1T6.b1t6.Decode [7#8] [1#8, 1#8, 1#8, 1#8, 1#8, 1#8] = some (0#64, some "ErrInvalidTrits", [7#8]) ∧
    Gen.B1T6.b1t6.Decode [7#8, 7#8] ([1, -1, 1, 1, 1, -1].map (BitVec.ofInt 8)) = some (1#64, none, [128#8, 7#8]) ∧
    Gen.B1T6.b1t6.Encode (List.replicate 6 7#8) ([128#8, 7#8].take 1) =
      some (6#64, [1, -1, 1, 1, 1, -1].map (BitVec.ofInt 8)) := by decide

/-- 4a on `src = [0, 255, 128]` -/
example :
    Gen.B1T6.b1t8.Encode (List.replicate 24 7#8) (bv [0, 255, 128]) =
      some (24#64, [0,0,0,0,0,0,0,0, 1,1,1,1,1,1,1,1, 0,0,0,0,0,0,0,1]) ∧
    Gen.B1T6.b1t8.Decode (List.replicate 3 7#8) [0,0,0,0,0,0,0,0, 1,1,1,1,1,1,1,1, 0,0,0,0,0,0,0,1] =
      some (3#64, none, bv [0, 255, 128]) := by decide

/-- 4b: an `int8` outside {0, 1} is rejected; a code word is accepted and re-encodes to itself -/
example :
    Gen.B1T6.b1t8.Decode [7#8] [0,0,0,0,0,0,0,255#8] = some (0#64, some "ErrInvalidTrit", [7#8]) ∧
    Gen.B1T6.b1t8.Decode [7#8, 7#8] [0,0,0,0,0,0,0,1] = some (1#64, none, [128#8, 7#8]) ∧
    Gen.B1T6.b1t8.Encode (List.replicate 8 7#8) ([128#8, 7#8].take 1) = some (8#64, [0,0,0,0,0,0,0,1]) := by decide

/-- the hypotheses of the theorems are satisfiable: the theorems applied to these instances -/
example := b1t6_roundtrip [0, 255, 128] (by decide) (List.replicate 18 7#8) rfl
example := b1t6_trytes_roundtrip [0, 255, 128] (by decide)
example := b1t6_decode_accepts_only_codewords ([1, -1, 1, 1, 1, -1].map (BitVec.ofInt 8))
  (Trits_ofTrits [1, -1, 1, 1, 1, -1] (by unfold B1T6.ValidTrits; decide)) (by decide) [7#8, 7#8] 1#64 [128#8, 7#8] (by decide)
example := b1t8_roundtrip [0, 255, 128] (by decide) (List.replicate 24 7#8) rfl
example := b1t8_decode_accepts_only_codewords [0,0,0,0,0,0,0,1] (by decide) [7#8, 7#8] 1#64 [128#8, 7#8] (by decide)

end Iota.Tie.E2E.Codec
