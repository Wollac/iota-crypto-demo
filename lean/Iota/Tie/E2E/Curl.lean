/-
End-to-end statements for pkg/curl: the GENERATED code (`Iota.Gen.Curl.code.*`, regenerated from the Go source) on one
side, the single-lane SPECIFICATION sponge (`Iota.Spec.CurlP.Sponge`) on the other.  The model (`Iota/Model/Curl.lean`)
appears in the proofs only: code = model is `Iota/Tie/Curl.lean` (`code_reset`, `code_absorb`, `code_squeeze`,
`code_transform_wrapper`), model = specification is C06 (`Iota/Props/C06.lean`; here through the simulation steps
`sim_init`, `absorb_sim`, `squeeze_sim` behind `history_simulation`).

* `hash_oneshot`: `Reset`, `Absorb(src, n)`, `Squeeze(dst, m)` through the generated code, with the model's `transform`
  as the permutation parameter (`trM`): no panic, no error, and row `j` of the output is what the specification sponge
  produces from lane `j`'s input alone.
* `hash_oneshot_generated`: the same with the parameter instantiated by the GENERATED `transformGeneric` (two zeroed
  scratch planes) — the whole portable sponge is generated code.  Route: `Absorb` / `Squeeze` apply their parameter only to
  the two state lists, which stay of length 729 (`absorb_param`, `squeeze_param`: any two parameters that agree on planes
  give the same result, for ALL arguments), and on planes the generated permutation is `trM` (`code_transform_wrapper`).
* `absorb_rejects_*`, `squeeze_rejects_*`: returned errors leave the state (and `dst`) untouched, for ANY lists, any
  direction word and any parameter — no model involved.
* non-vacuity: the hypotheses of the two main theorems hold for one lane of 243 zero trits (nothing is evaluated).

Hypotheses that are weaker than the obvious ones (so the theorems are stronger): lanes need at least `n` trits
(not exactly `n`); the trits may be any `int8` — the specification sponge sign-normalises its input (`normTrit`), which is
the identity on {-1, 0, 1} (`normTrit_trit`); `n`, `m` only need to be non-negative as `int` (`toNat < 2^63`); `s = 0`
is allowed (empty rows, the direction word stays 0).
-/
import Iota.Tie.Curl
import Iota.Props.C06

namespace Iota.Tie.E2E.Curl
open Iota Iota.Go
open Iota.Tie.CurlCodeSponge
open Iota.Tie.CurlCodeLanes (P2)
open Iota.Spec.CurlP (Sponge)
open Iota.Proofs.Curl (Sim sim_init absorb_sim squeeze_sim)

/-! ### 0. loop invariants of `forIn`; `normTrit` on trits -/

/-- an invariant of the body is an invariant of the loop -/
theorem forIn_pres {α ρ σ : Type} (P : σ → Prop) (l : List α) (f : σ → α → Flow ρ σ)
    (h : ∀ s, P s → ∀ a ∈ l, ∀ s', f s a = .run s' → P s') (s : σ) (hs : P s) (s' : σ)
    (hr : forIn l s f = .run s') : P s' := by
  induction l generalizing s with
  | nil => cases hr; exact hs
  | cons a l ih =>
    rw [forIn_cons] at hr
    obtain ⟨s1, h1, h2⟩ := bind_run_inv _ _ _ hr
    exact ih (fun s hs b hb => h s hs b (List.mem_cons_of_mem _ hb)) s1
      (h s hs a (List.mem_cons_self ..) s1 h1) h2

/-- the specification's sign-normalisation of absorbed trits is the identity on trits -/
theorem normTrit_trit (t : Int) (h : t = -1 ∨ t = 0 ∨ t = 1) : Spec.CurlP.normTrit t = t := by
  rcases h with rfl | rfl | rfl <;> rfl

/-! ### 1. the permutation parameter is only ever applied to planes -/

/-- the parameter `c.transform()` instantiated by the GENERATED permutation: `transformGeneric` on two zeroed scratch
planes as `to` and the state as `from`; the state becomes the scratch planes (the text of `Curl.transform` held in
`Tie.Curl.src`) -/
def trGen : TR := fun l h =>
  (Gen.Curl.code.transformGeneric (List.replicate 729 0#64) (List.replicate 729 0#64) l h).map (fun r => (r.1, r.2.1))

/-- a permutation parameter that agrees with `trM` on planes (lists that are the content of a 729-word array) -/
def OnPlanes (tr : TR) : Prop := ∀ l h : Curl.Plane, tr l.toList h.toList = trM l.toList h.toList

theorem trM_onPlanes : OnPlanes trM := fun _ _ => rfl

/-- `code_transform_wrapper`: on planes the generated permutation is `trM` -/
theorem trGen_onPlanes : OnPlanes trGen := fun l h =>
  (Tie.Curl.code_transform_wrapper { l := l, h := h, direction := .absorbing }).symm

/-- `trM` maps planes to planes (or panics) -/
theorem trM_planes (l h : Curl.Plane) :
    ∃ r : Option (Curl.Plane × Curl.Plane), trM l.toList h.toList = r.map emb2 := by
  refine ⟨(Curl.Curl.transform { l := l, h := h, direction := .absorbing }).map (fun c' => (c'.l, c'.h)), ?_⟩
  rw [trM_eq { l := l, h := h, direction := .absorbing }, Option.map_map]
  rfl

/-- the states of the block loops that are planes -/
def IsPlanes (s : P2) : Prop := ∃ p : Curl.Plane × Curl.Plane, s = emb2 p

theorem laneStepA_planes {ρ : Type} (src : List (List (BitVec 8))) (i j : W) (s s' : P2) (hs : IsPlanes s)
    (h : laneStepA (ρ := ρ) src i s j = .run s') : IsPlanes s' := by
  obtain ⟨p, rfl⟩ := hs
  simp only [laneStepA, emb2, CurlCodeLanes.in_eq] at h
  split at h
  · cases h
  · split at h
    · simp only [call, Flow.bind_run] at h
      injection h with h
      exact ⟨Curl.inLane p.1 p.2 _ _, h.symm⟩
    · cases h

/-- the tail of a block of `Absorb`: the call of the parameter on the planes the lane loop produced -/
theorem tailA_param {ρ : Type} (tr : TR) (htr : OnPlanes tr) (x : Flow ρ P2) (hx : ∀ s, x = .run s → IsPlanes s) :
    (Flow.bind x fun st_5 => Flow.bind (Go.call (tr st_5.1 st_5.2)) fun st_7 => Flow.run (st_7.1, st_7.2)) =
      (Flow.bind x fun st_5 => Flow.bind (Go.call (trM st_5.1 st_5.2)) fun st_7 => Flow.run (st_7.1, st_7.2)) ∧
    ∀ s' : P2, (Flow.bind x fun st_5 => Flow.bind (Go.call (ρ := ρ) (trM st_5.1 st_5.2)) fun st_7 =>
      Flow.run (st_7.1, st_7.2)) = .run s' → IsPlanes s' := by
  cases x with
  | done r => exact ⟨rfl, fun s' h => by cases h⟩
  | panic => exact ⟨rfl, fun s' h => by cases h⟩
  | run s =>
    obtain ⟨p, rfl⟩ := hx s rfl
    simp only [Flow.bind_run, emb2]
    rw [htr]
    refine ⟨rfl, ?_⟩
    obtain ⟨r, hr⟩ := trM_planes p.1 p.2
    rw [hr]
    intro s' h
    cases r with
    | none => cases h
    | some q => cases h; exact ⟨q, rfl⟩

theorem blockA_param {ρ : Type} (tr : TR) (htr : OnPlanes tr) (src : List (List (BitVec 8)))
    (p : Curl.Plane × Curl.Plane) (i : W) :
    blockA (ρ := ρ) tr src (emb2 p) i = blockA trM src (emb2 p) i ∧
    ∀ s', blockA (ρ := ρ) trM src (emb2 p) i = .run s' → IsPlanes s' := by
  unfold blockA
  simp only [emb2]
  rw [rate_loop]
  simp only [Flow.bind_run]
  exact tailA_param tr htr _ (fun s hs =>
    forIn_pres IsPlanes _ _ (fun s hs a _ s' h => laneStepA_planes src i a s s' hs h) _ ⟨(_, _), rfl⟩ s hs)

/-- **`Absorb` depends on its permutation parameter only through the parameter's values on planes**: all arguments, also
those that are rejected or panic -/
theorem absorb_param (tr : TR) (htr : OnPlanes tr) (l h : Curl.Plane) (d : W) (src : List (List (BitVec 8))) (tc : W) :
    Gen.Curl.code.Curl_Absorb tr l.toList h.toList d src tc =
      Gen.Curl.code.Curl_Absorb trM l.toList h.toList d src tc := by
  rw [Curl_Absorb_unfold, Curl_Absorb_unfold]
  have hloop := forIn_congr_inv (ρ := AR) IsPlanes (forUp true false 0#64 tc 243) (blockA tr src) (blockA trM src)
    (fun s hs a _ => by obtain ⟨p, rfl⟩ := hs; exact blockA_param tr htr src p a) (l.toList, h.toList) ⟨(l, h), rfl⟩
  rw [hloop]

/-- the states of the block loop of `Squeeze` whose first two components are planes -/
def IsPlanesS (s : SSt) : Prop := ∃ p : Curl.Plane × Curl.Plane, s.1 = p.1.toList ∧ s.2.1 = p.2.toList

theorem blockS_param {ρ : Type} (tr : TR) (htr : OnPlanes tr) (s : SSt) (hs : IsPlanesS s) (i : W) :
    blockS (ρ := ρ) tr s i = blockS trM s i ∧ ∀ s', blockS (ρ := ρ) trM s i = .run s' → IsPlanesS s' := by
  obtain ⟨l, h, d, dst⟩ := s
  obtain ⟨p, hl, hh⟩ := hs
  simp only at hl hh
  subst hl hh
  rw [blockS_unfold, blockS_unfold, htr]
  refine ⟨rfl, ?_⟩
  intro s' hrun
  obtain ⟨st3, h3, hrest⟩ := bind_run_inv _ _ _ hrun
  obtain ⟨dst', _, hfin⟩ := bind_run_inv _ _ _ hrest
  cases hfin
  by_cases hd : (d == 1#64) = true
  · rw [if_pos hd] at h3
    obtain ⟨r, hr⟩ := trM_planes p.1 p.2
    rw [hr] at h3
    cases r with
    | none => cases h3
    | some q => cases h3; exact ⟨q, rfl, rfl⟩
  · rw [if_neg hd] at h3
    cases h3
    exact ⟨p, rfl, rfl⟩

/-- **`Squeeze` depends on its permutation parameter only through the parameter's values on planes** -/
theorem squeeze_param (tr : TR) (htr : OnPlanes tr) (l h : Curl.Plane) (d : W) (dst : Rows) (tc : W) :
    Gen.Curl.code.Curl_Squeeze tr l.toList h.toList d dst tc =
      Gen.Curl.code.Curl_Squeeze trM l.toList h.toList d dst tc := by
  rw [Curl_Squeeze_unfold, Curl_Squeeze_unfold]
  have hloop : ∀ dst' : Rows,
      forIn (ρ := SR) (forUp true false 0#64 tc 243) (l.toList, h.toList, d, dst') (blockS tr) =
        forIn (forUp true false 0#64 tc 243) (l.toList, h.toList, d, dst') (blockS trM) := fun dst' =>
    forIn_congr_inv IsPlanesS _ (blockS tr) (blockS trM) (fun s hs a _ => blockS_param tr htr s hs a) _
      ⟨(l, h), rfl, rfl⟩
  simp only [hloop]

/-! ### 2. the one-shot hash -/

/-- the one-shot hash for any permutation parameter that agrees with `trM` on planes (the two instances below do not
mention the model) -/
theorem hash_oneshot_of (tr : TR) (htr : OnPlanes tr)
    (l0 h0 : List (BitVec 64)) (hl0 : l0.length = 729) (hh0 : h0.length = 729) (d0 : BitVec 64)
    (src dst : List (List (BitVec 8))) (n m : BitVec 64) (b s : Nat)
    (hk1 : 1 ≤ src.length) (hk64 : src.length ≤ 64) (hdst : dst.length = src.length)
    (hn : n.toNat = 243 * b) (hn63 : n.toNat < 2 ^ 63) (hm : m.toNat = 243 * s) (hm63 : m.toNat < 2 ^ 63)
    (hlen : ∀ lane ∈ src, n.toNat ≤ lane.length) :
    ∃ l1 h1 l2 h2 l3 h3 out,
      Gen.Curl.code.Curl_Reset l0 h0 d0 = some (l1, h1, 0#64) ∧
      Gen.Curl.code.Curl_Absorb tr l1 h1 0#64 src n = some (none, l2, h2) ∧
      Gen.Curl.code.Curl_Squeeze tr l2 h2 0#64 dst m =
        some (none, l3, h3, (if s = 0 then 0#64 else 1#64), out) ∧
      out.map tritsI = src.map (fun lane => ((Sponge.init.absorb (tritsI lane) b).squeeze s).2) := by
  -- Reset
  have hr := Tie.Curl.code_reset l0 h0 hl0 hh0 d0
  -- Absorb: code = model (tie), model simulates the 64 specification sponges (C06)
  obtain ⟨c1, hc1, hd1, hs1⟩ := absorb_sim Curl.init _ sim_init (src.map tritsI) n.toNat rfl
    (by simpa using hk1) (by simpa using hk64) (by omega)
    (by
      intro lane hl
      obtain ⟨x, hx, rfl⟩ := List.mem_map.mp hl
      simpa [tritsI] using hlen x hx)
  have ha : Gen.Curl.code.Curl_Absorb tr Curl.init.l.toList Curl.init.h.toList 0#64 src n =
      some (none, c1.l.toList, c1.h.toList) := by
    have := Tie.Curl.code_absorb Curl.init src (by omega) n ((toInt_nonneg_iff n).mpr hn63)
    rw [hc1] at this
    rw [absorb_param tr htr]
    exact this
  -- Squeeze
  obtain ⟨c2, out, hc2, hout, hd2, _⟩ := squeeze_sim c1 _ hs1 dst.length m.toNat (by omega) (by omega) (by omega)
  have hq := Tie.Curl.code_squeeze c1 dst (by omega) m ((toInt_nonneg_iff m).mpr hm63)
  have hsq : Gen.Curl.code.Curl_Squeeze tr c1.l.toList c1.h.toList 0#64 dst m =
      some (none, c2.l.toList, c2.h.toList, dirBV c2.direction, out.map (·.map (BitVec.ofInt 8))) := by
    have := hq.1
    rw [hc2, hd1] at this
    rw [squeeze_param tr htr]
    exact this
  have hdir : dirBV c2.direction = if s = 0 then 0#64 else 1#64 := by
    have e : m.toNat / 243 = s := by omega
    rw [hd2, e, hd1]
    split <;> rfl
  rw [hdir] at hsq
  refine ⟨_, _, _, _, _, _, _, hr, ha, hsq, ?_⟩
  rw [hq.2 c2 out hc2, hout, hdst]
  have eb : n.toNat / 243 = b := by omega
  have es : m.toNat / 243 = s := by omega
  rw [eb, es, ← List.length_map (as := src) tritsI,
    range_map_getD (src.map tritsI) [] (fun lane => ((Sponge.init.absorb lane b).squeeze s).2), List.map_map]
  rfl

/-- **one-shot hash through the generated code** (`Reset`, `Absorb(src, n)`, `Squeeze(dst, m)`), the permutation parameter
being the model's `transform` on lists (`trM`).  For every instance — any two 729-word arrays, any direction word —,
every batch `src` of 1 … 64 lanes with at least `n = 243·b` trits each (any `int8` values; the specification sign-normalises,
`normTrit_trit`), every `dst` with as many rows (their contents do not matter) and every `m = 243·s`: none of the three
calls panics, both errors are `nil`, the direction word ends as `SpongeSqueezing` (when `s ≠ 0`), and the rows returned,
read as integers, are — lane by lane — what the single-lane specification sponge squeezes after absorbing that lane's
`b` blocks alone. -/
theorem hash_oneshot
    (l0 h0 : List (BitVec 64)) (hl0 : l0.length = 729) (hh0 : h0.length = 729) (d0 : BitVec 64)
    (src dst : List (List (BitVec 8))) (n m : BitVec 64) (b s : Nat)
    (hk1 : 1 ≤ src.length) (hk64 : src.length ≤ 64) (hdst : dst.length = src.length)
    (hn : n.toNat = 243 * b) (hn63 : n.toNat < 2 ^ 63) (hm : m.toNat = 243 * s) (hm63 : m.toNat < 2 ^ 63)
    (hlen : ∀ lane ∈ src, n.toNat ≤ lane.length) :
    ∃ l1 h1 l2 h2 l3 h3 out,
      Gen.Curl.code.Curl_Reset l0 h0 d0 = some (l1, h1, 0#64) ∧
      Gen.Curl.code.Curl_Absorb trM l1 h1 0#64 src n = some (none, l2, h2) ∧
      Gen.Curl.code.Curl_Squeeze trM l2 h2 0#64 dst m =
        some (none, l3, h3, (if s = 0 then 0#64 else 1#64), out) ∧
      out.map tritsI = src.map (fun lane => ((Sponge.init.absorb (tritsI lane) b).squeeze s).2) :=
  hash_oneshot_of trM trM_onPlanes l0 h0 hl0 hh0 d0 src dst n m b s hk1 hk64 hdst hn hn63 hm hm63 hlen

/-- **the same with the GENERATED permutation as the parameter**: every function involved is regenerated from the Go source
(portable build; for amd64 C20 replaces `transformGeneric` by the assembly). -/
theorem hash_oneshot_generated
    (l0 h0 : List (BitVec 64)) (hl0 : l0.length = 729) (hh0 : h0.length = 729) (d0 : BitVec 64)
    (src dst : List (List (BitVec 8))) (n m : BitVec 64) (b s : Nat)
    (hk1 : 1 ≤ src.length) (hk64 : src.length ≤ 64) (hdst : dst.length = src.length)
    (hn : n.toNat = 243 * b) (hn63 : n.toNat < 2 ^ 63) (hm : m.toNat = 243 * s) (hm63 : m.toNat < 2 ^ 63)
    (hlen : ∀ lane ∈ src, n.toNat ≤ lane.length) :
    let tr : List (BitVec 64) → List (BitVec 64) → Option (List (BitVec 64) × List (BitVec 64)) := fun l h =>
      (Gen.Curl.code.transformGeneric (List.replicate 729 0#64) (List.replicate 729 0#64) l h).map
        (fun r => (r.1, r.2.1))
    ∃ l1 h1 l2 h2 l3 h3 out,
      Gen.Curl.code.Curl_Reset l0 h0 d0 = some (l1, h1, 0#64) ∧
      Gen.Curl.code.Curl_Absorb tr l1 h1 0#64 src n = some (none, l2, h2) ∧
      Gen.Curl.code.Curl_Squeeze tr l2 h2 0#64 dst m =
        some (none, l3, h3, (if s = 0 then 0#64 else 1#64), out) ∧
      out.map tritsI = src.map (fun lane => ((Sponge.init.absorb (tritsI lane) b).squeeze s).2) :=
  hash_oneshot_of trGen trGen_onPlanes l0 h0 hl0 hh0 d0 src dst n m b s hk1 hk64 hdst hn hn63 hm hm63 hlen

/-! ### 3. returned errors leave the state untouched — code level, any lists, any parameter -/

/-- `Absorb` with 0 or more than 64 lanes (`src` a Go slice: fewer than `2^63` elements): `ErrInvalidBatchSize`, whatever
`tritsCount` is; the two arrays are returned unchanged -/
theorem absorb_rejects_batch (tr : TR) (c_l c_h : List (BitVec 64)) (d : BitVec 64) (src : List (List (BitVec 8)))
    (tc : BitVec 64) (hsrc : src.length < 2 ^ 63) (h : src.length = 0 ∨ 64 < src.length) :
    Gen.Curl.code.Curl_Absorb tr c_l c_h d src tc = some (some "consts.ErrInvalidBatchSize", c_l, c_h) := by
  rw [Curl_Absorb_eq _ _ _ _ _ _ hsrc, if_pos (by omega)]

/-- `Absorb` with a `tritsCount` (any 64-bit `int`, Go's `%` = `Int.tmod`) that is not a multiple of 243:
`ErrInvalidTritsLength`, the two arrays unchanged -/
theorem absorb_rejects_length (tr : TR) (c_l c_h : List (BitVec 64)) (d : BitVec 64) (src : List (List (BitVec 8)))
    (tc : BitVec 64) (h1 : 1 ≤ src.length) (h64 : src.length ≤ 64) (hm : tc.toInt.tmod 243 ≠ 0) :
    Gen.Curl.code.Curl_Absorb tr c_l c_h d src tc = some (some "consts.ErrInvalidTritsLength", c_l, c_h) := by
  rw [Curl_Absorb_eq _ _ _ _ _ _ (by omega), if_neg (by omega), if_pos hm]

/-- `Squeeze` with 0 or more than 64 rows: `ErrInvalidBatchSize`; arrays, direction and `dst` unchanged -/
theorem squeeze_rejects_batch (tr : TR) (c_l c_h : List (BitVec 64)) (d : BitVec 64) (dst : List (List (BitVec 8)))
    (tc : BitVec 64) (hdst : dst.length < 2 ^ 63) (h : dst.length = 0 ∨ 64 < dst.length) :
    Gen.Curl.code.Curl_Squeeze tr c_l c_h d dst tc = some (some "consts.ErrInvalidBatchSize", c_l, c_h, d, dst) := by
  rw [Curl_Squeeze_eq _ _ _ _ _ _ hdst, if_pos (by omega)]

/-- `Squeeze` with a `tritsCount` that is not a multiple of 243: `ErrInvalidSqueezeLength`; arrays, direction and `dst`
unchanged -/
theorem squeeze_rejects_length (tr : TR) (c_l c_h : List (BitVec 64)) (d : BitVec 64) (dst : List (List (BitVec 8)))
    (tc : BitVec 64) (h1 : 1 ≤ dst.length) (h64 : dst.length ≤ 64) (hm : tc.toInt.tmod 243 ≠ 0) :
    Gen.Curl.code.Curl_Squeeze tr c_l c_h d dst tc =
      some (some "consts.ErrInvalidSqueezeLength", c_l, c_h, d, dst) := by
  rw [Curl_Squeeze_eq _ _ _ _ _ _ (by omega), if_neg (by omega), if_pos hm]

/-- for a non-negative `tritsCount` "not a multiple of 243" is the condition on the natural number -/
theorem not_multiple_nonneg (tc : BitVec 64) (h0 : tc.toNat < 2 ^ 63) (hm : tc.toNat % 243 ≠ 0) :
    tc.toInt.tmod 243 ≠ 0 := by
  rw [tmod_nonneg tc ((toInt_nonneg_iff tc).mpr h0)]
  omega

/-! ### 4. non-vacuity: one lane of 243 zero trits, one block squeezed (the sponge is not evaluated) -/

example :
    let tr : List (BitVec 64) → List (BitVec 64) → Option (List (BitVec 64) × List (BitVec 64)) := fun l h =>
      (Gen.Curl.code.transformGeneric (List.replicate 729 0#64) (List.replicate 729 0#64) l h).map
        (fun r => (r.1, r.2.1))
    ∃ l1 h1 l2 h2 l3 h3 out,
      Gen.Curl.code.Curl_Reset (List.replicate 729 0#64) (List.replicate 729 5#64) 7#64 = some (l1, h1, 0#64) ∧
      Gen.Curl.code.Curl_Absorb tr l1 h1 0#64 [List.replicate 243 0#8] 243#64 = some (none, l2, h2) ∧
      Gen.Curl.code.Curl_Squeeze tr l2 h2 0#64 [[]] 243#64 = some (none, l3, h3, 1#64, out) ∧
      out.map tritsI = [((Sponge.init.absorb (tritsI (List.replicate 243 0#8)) 1).squeeze 1).2] :=
  hash_oneshot_generated (List.replicate 729 0#64) (List.replicate 729 5#64) List.length_replicate
    List.length_replicate 7#64 [List.replicate 243 0#8] [[]] 243#64 243#64 1 1 (Nat.le_refl 1) (by decide) rfl
    rfl (by decide) rfl (by decide)
    (by
      intro lane hl
      rw [List.mem_singleton.mp hl, List.length_replicate]
      exact Nat.le_refl 243)

end Iota.Tie.E2E.Curl
