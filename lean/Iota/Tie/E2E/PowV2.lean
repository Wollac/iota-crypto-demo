/-
END-TO-END theorems for C12 about the GENERATED integer core of pkg/pow/v2 (`Iota/Gen/Pow.lean`, namespace `v2code`,
regenerated from worker.go / pow.go on every run) with NO model function in the statements:

* `sufficient_is_least_code` — for every data and every target t ≥ 1 whose product with the message length fits 64 bits the
  generated `sufficientTrailingZeros` returns (and does not panic) the LEAST s with 3^s ≥ (len+8)·t, and s ≤ 41;
* `overflow_panics_code` — when the product does not fit it panics (the documented `panic("pow: invalid target score")`);
* `targetHash_threshold_code` — the generated `targetHash` never panics and returns the exact threshold: a hash value h ≥ 1 is
  at most the target iff its difficulty ⌊3^243 / h⌋ strictly exceeds (len+8)·t — for EVERY 64-bit t, the product is formed in
  `big.Int`;
* `toInt_code` — on 243 balanced trits the generated `toInt` returns the little-endian base-3 value (digit 2 for trit −1)
  plus one, a number in [1, 3^243]; on any other length it panics.

Obtained from the code ties (`Tie/Pow`) and the property theorems (`Props/C12`).  `digitsVal` is the positional-numeral
specification of `Proofs/Pow/ToInt`.
-/
import Iota.Tie.Pow
import Iota.Props.C12

namespace Iota.Tie.E2E.PowV2
open Iota

theorem sufficient_is_least_code (data : List (BitVec 8)) (t : BitVec 64) (hlen : data.length < 2 ^ 62)
    (ht : 1 ≤ t.toNat) (hlx : (data.length + 8) * t.toNat < 2 ^ 64) :
    ∃ s : Nat, Gen.Pow.v2code.sufficientTrailingZeros data t = some (BitVec.ofNat 64 s) ∧ s ≤ 41 ∧
      3 ^ s ≥ (data.length + 8) * t.toNat ∧ ∀ s', s' < s → 3 ^ s' < (data.length + 8) * t.toNat := by
  have h1 : 1 ≤ (data.length + 8) * t.toNat := Nat.mul_pos (by omega) ht
  have hp := Props.C12.sufficient_is_least ((data.length + 8) * t.toNat) h1 hlx
  exact ⟨_, Tie.Pow.code_sufficientTrailingZeros_v2 data t hlen hlx, hp.2.2.1, hp.1, hp.2.1⟩

theorem overflow_panics_code (data : List (BitVec 8)) (t : BitVec 64) (hlen : data.length < 2 ^ 62)
    (hov : 2 ^ 64 ≤ (data.length + 8) * t.toNat) :
    Gen.Pow.v2code.sufficientTrailingZeros data t = none :=
  Tie.Pow.code_sufficientTrailingZeros_v2_panic data t hlen hov

theorem targetHash_threshold_code (data : List (BitVec 8)) (t : BitVec 64) (hlen : data.length < 2 ^ 62) :
    ∃ T : Nat, Gen.Pow.v2code.targetHash data t = some (T : Int) ∧
      ∀ h : Nat, 1 ≤ h → (h ≤ T ↔ (data.length + 8) * t.toNat < 3 ^ 243 / h) := by
  refine ⟨Pow.targetHash ((data.length + 8) * t.toNat), Tie.Pow.code_targetHash_v2 data t hlen, ?_⟩
  intro h hh
  have hM : Pow.maxHash = 3 ^ 243 := Props.C12.constants.1
  unfold Pow.targetHash
  rw [hM]
  generalize (data.length + 8) * t.toNat = lx
  rw [Nat.le_div_iff_mul_le (by omega : 0 < lx + 1), Nat.lt_iff_add_one_le, Nat.le_div_iff_mul_le (by omega : 0 < h),
    Nat.mul_comm]

theorem toInt_code (trits : List (BitVec 8)) (hlen : trits.length = 243)
    (htr : ∀ t ∈ trits, t = BitVec.ofInt 8 (-1) ∨ t = 0#8 ∨ t = 1#8) :
    ∃ v : Nat, Gen.Pow.v2code.toInt trits = some (v : Int) ∧
      v = Proofs.Pow.digitsVal (trits.map BitVec.toInt) + 1 ∧ 1 ≤ v ∧ v ≤ 3 ^ 243 := by
  have hl : (trits.map BitVec.toInt).length = 243 := by simpa using hlen
  have hv : ∀ x ∈ trits.map BitVec.toInt, x = -1 ∨ x = 0 ∨ x = 1 := by
    intro x hx
    obtain ⟨b, hb, rfl⟩ := List.mem_map.mp hx
    rcases htr b hb with h | h | h <;> subst h <;> decide
  have hp := Props.C12.toInt_is_base3_plus_one (trits.map BitVec.toInt) hl hv
  exact ⟨_, Tie.Pow.code_toInt_v2 trits hlen htr, hp.1, hp.2.1, hp.2.2.1⟩

theorem toInt_wrong_length_panics_code (trits : List (BitVec 8)) (hlen : trits.length ≠ 243) (hlt : trits.length < 2 ^ 64) :
    Gen.Pow.v2code.toInt trits = none := Tie.Pow.code_toInt_v2_panic trits hlen hlt

/-! ### non-vacuity: the generated code evaluated on concrete inputs -/
example : Gen.Pow.v2code.sufficientTrailingZeros [] 1#64 = some 2#64 := by decide +kernel
example : Gen.Pow.v2code.sufficientTrailingZeros [0#8, 0#8] 4000#64 = some 10#64 := by decide +kernel
example : Gen.Pow.v2code.sufficientTrailingZeros [] (BitVec.ofNat 64 (2 ^ 61)) = none := by decide +kernel
example : Gen.Pow.v2code.toInt (List.replicate 243 0#8) = some 1 := Tie.PowV2Code.toInt_zero

end Iota.Tie.E2E.PowV2
