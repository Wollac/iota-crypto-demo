/-
END-TO-END theorems for pkg/bip39: the C03 properties (`Iota/Props/C03.lean`: `MnemonicToEntropy` inverts
`EntropyToMnemonic` for every valid entropy; every accepted sentence re-encodes to itself; wrong sizes are rejected with the
documented error) stated about the GENERATED `Gen.Bip39Code.big.EntropyToMnemonic` / `MnemonicToEntropy`
(`Iota/Gen/Bip39Code.lean`, regenerated from bip39.go and utils.go on every run), obtained by combining the code tie
`Tie.Bip39BigCode` (generated code = model, for all inputs, panic and error outcomes included) with the property theorems
about the model.  No model function occurs in the statements.

Parameters of the generated code: `sum` = `sha256.Sum256` (any function with 32-byte output: `hsum`), and the methods
`contains`, `word`, `index` of the current word list; `Externs W contains word index` says they are the methods of a list
`W` of 2048 words, which for the round trips must be distinct (`W.Nodup`) — true of both official lists
(`Props.C03.builtin_lists_ok`).  `bv` / `bvs` are the bijections between the byte / word types of the specification and of
the translated code; `none` as a result would be a Go panic.
-/
import Iota.Props.C03
import Iota.Tie.Bip39BigCode

namespace Iota.Tie.E2E.Bip39
open Iota Iota.Bip39
open Iota.Tie.Bech32Code (bv bv_inj Hof Hof_spec Hof_length)
open Iota.Tie.Bip39BigCode (Externs bvs encWords encBytes code_entropyToMnemonic code_mnemonicToEntropy)
open Iota.Gen.Bip39Code

theorem Hof_length_32 (sum : List (BitVec 8) → List (BitVec 8)) (hsum : ∀ x, (sum x).length = 32) (x : Bytes) :
    (Hof sum x).length = 32 := (Hof_length sum x).trans (hsum _)

/-- **Round trip on the generated code: for every entropy of 16, 20, …, 64 bytes the generated `EntropyToMnemonic` returns a
sentence and no error, and the generated `MnemonicToEntropy` of that sentence returns the entropy and no error; neither
panics.** -/
theorem decode_encode_code {W : List Word} {contains : List (BitVec 8) → Bool} {word : BitVec 64 → Option (List (BitVec 8))}
    {index : List (BitVec 8) → Option (BitVec 64)} (E : Externs W contains word index) (hN : W.Nodup)
    (sum : List (BitVec 8) → List (BitVec 8)) (hsum : ∀ x, (sum x).length = 32)
    (e : Bytes) (hv : Proofs.Bip39.ValidLen e.length) :
    ∃ ws : List Word, big.EntropyToMnemonic sum word (bv e) = some (bvs ws, none) ∧
      big.MnemonicToEntropy sum contains index (bvs ws) = some (bv e, none) := by
  have hH := Hof_spec sum
  have hlen : e.length < 2 ^ 59 := by
    have := hv; unfold Proofs.Bip39.ValidLen at this; omega
  obtain ⟨ws, henc⟩ : ∃ ws, entropyToMnemonic (Hof sum) W e = .ok ws := ⟨_, Props.C03.encode_is_bip39 (Hof sum) W (Hof_length_32 sum hsum) e hv⟩
  have hdec := Props.C03.decode_encode (Hof sum) W (Hof_length_32 sum hsum) E.length hN e hv ws henc
  have hcount : ws.length < 2 ^ 58 := by
    have := ((Props.C03.decode_ok_iff (Hof sum) W (Hof_length_32 sum hsum) E.length hN ws e).mp hdec).1
    unfold Proofs.Bip39.ValidCount at this; omega
  refine ⟨ws, ?_, ?_⟩
  · rw [code_entropyToMnemonic E sum (Hof sum) hH e hlen, henc]; rfl
  · rw [code_mnemonicToEntropy E sum (Hof sum) hH ws hcount, hdec]; rfl

/-- **Canonicity on the generated code: whatever word sequence the generated `MnemonicToEntropy` accepts, the generated
`EntropyToMnemonic` of the returned entropy gives back exactly that sequence.** -/
theorem encode_decode_code {W : List Word} {contains : List (BitVec 8) → Bool} {word : BitVec 64 → Option (List (BitVec 8))}
    {index : List (BitVec 8) → Option (BitVec 64)} (E : Externs W contains word index) (hN : W.Nodup)
    (sum : List (BitVec 8) → List (BitVec 8)) (hsum : ∀ x, (sum x).length = 32)
    (ws : List Word) (hws : ws.length < 2 ^ 58) (e : Bytes)
    (hacc : big.MnemonicToEntropy sum contains index (bvs ws) = some (bv e, none)) :
    big.EntropyToMnemonic sum word (bv e) = some (bvs ws, none) := by
  have hH := Hof_spec sum
  rw [code_mnemonicToEntropy E sum (Hof sum) hH ws hws] at hacc
  have hdec : mnemonicToEntropy (Hof sum) W ws = .ok e := by
    cases hm : mnemonicToEntropy (Hof sum) W ws with
    | error err => rw [hm] at hacc; cases err <;> simp [encBytes, Tie.Bip39BigCode.errName] at hacc
    | ok b =>
      rw [hm] at hacc
      have : bv b = bv e := by simpa [encBytes] using hacc
      rw [bv_inj this]
  have henc := Props.C03.encode_decode (Hof sum) W (Hof_length_32 sum hsum) E.length hN ws e hdec
  have hv := ((Props.C03.decode_ok_iff (Hof sum) W (Hof_length_32 sum hsum) E.length hN ws e).mp hdec).2.2.1
  have hlen : e.length < 2 ^ 59 := by unfold Proofs.Bip39.ValidLen at hv; omega
  rw [code_entropyToMnemonic E sum (Hof sum) hH e hlen, henc]; rfl

/-- **Neither generated function panics, whatever the input** (entropy shorter than 2^59 bytes, fewer than 2^58 words). -/
theorem never_panics_code {W : List Word} {contains : List (BitVec 8) → Bool} {word : BitVec 64 → Option (List (BitVec 8))}
    {index : List (BitVec 8) → Option (BitVec 64)} (E : Externs W contains word index)
    (sum : List (BitVec 8) → List (BitVec 8)) (e : Bytes) (he : e.length < 2 ^ 59) (ws : List Word) (hws : ws.length < 2 ^ 58) :
    big.EntropyToMnemonic sum word (bv e) ≠ none ∧ big.MnemonicToEntropy sum contains index (bvs ws) ≠ none :=
  ⟨by rw [code_entropyToMnemonic E sum (Hof sum) (Hof_spec sum) e he]; exact Option.some_ne_none _,
   by rw [code_mnemonicToEntropy E sum (Hof sum) (Hof_spec sum) ws hws]; exact Option.some_ne_none _⟩

/-- **Other entropy sizes are rejected by the generated `EntropyToMnemonic` with `ErrInvalidEntropySize`.** -/
theorem encode_bad_size_code {W : List Word} {contains : List (BitVec 8) → Bool} {word : BitVec 64 → Option (List (BitVec 8))}
    {index : List (BitVec 8) → Option (BitVec 64)} (E : Externs W contains word index)
    (sum : List (BitVec 8) → List (BitVec 8)) (e : Bytes) (he : e.length < 2 ^ 59) (hv : ¬ Proofs.Bip39.ValidLen e.length) :
    big.EntropyToMnemonic sum word (bv e) = some ([], some "ErrInvalidEntropySize") := by
  rw [code_entropyToMnemonic E sum (Hof sum) (Hof_spec sum) e he, Props.C03.encode_bad_size (Hof sum) W e hv]; rfl

end Iota.Tie.E2E.Bip39
