/-
END-TO-END theorems for pkg/bech32: properties of the GENERATED code (`Iota/Gen/Bech32.lean`, regenerated from the Go
source: checksum.go, internal/base32, chars.go), obtained by combining the code ties of `Iota/Tie/Bech32.lean`
(generated code = hand-written model, for all inputs) with the property theorems about the model (C04, C05, C16).

No main theorem below (the ones with a bold doc comment) mentions a model function; only the transport lemmas do.  The
byte strings are `List (BitVec 8)` (what the translated code works on), a 5-bit symbol is a byte `x` with
`x.toNat < 32`, `none` is a Go panic.  The only definitions of this file that occur in the main statements are `hamming`
and `DiffWithinLast` on `List (BitVec 8)` (the ones of `Iota.Proofs.BCH`, on the other byte type).  Every
`List (BitVec 8)` is `bv l` for exactly one `l : List UInt8` (`bv_un`, `un_bv`), so the forms "through `bv`" are
instances; they are written out for sections 1 and 2 (`…_bv`).
-/
import Iota.Tie.Bech32
import Iota.Props.C04
import Iota.Props.C05
import Iota.Props.C16

namespace Iota.Tie.E2E.Bech32
open Iota
open Iota.Tie.Bech32Code (bv bv_length bv_ofBitVec ofBitVec_bv bv_append)

/-! ### transport between the two byte types -/

/-- bytes of the translated code as bytes of the model (inverse of `bv`) -/
def un (l : List (BitVec 8)) : List UInt8 := l.map UInt8.ofBitVec

theorem bv_un (l : List (BitVec 8)) : bv (un l) = l := bv_ofBitVec l
theorem un_bv (l : List UInt8) : un (bv l) = l := ofBitVec_bv l
theorem un_append (a b : List (BitVec 8)) : un (a ++ b) = un a ++ un b := List.map_append
theorem un_length (l : List (BitVec 8)) : (un l).length = l.length := List.length_map _
theorem un_inj {a b : List (BitVec 8)} (h : un a = un b) : a = b := by rw [← bv_un a, ← bv_un b, h]

theorem un_lt {l : List (BitVec 8)} (h : ∀ x ∈ l, x.toNat < 32) : ∀ x ∈ un l, x.toNat < 32 :=
  List.forall_mem_map.mpr h
theorem bv_lt {l : List UInt8} (h : ∀ x ∈ l, x.toNat < 32) : ∀ x ∈ bv l, x.toNat < 32 :=
  List.forall_mem_map.mpr h
theorem lt_of_un {l : List (BitVec 8)} (h : ∀ x ∈ un l, x.toNat < 32) : ∀ x ∈ l, x.toNat < 32 := by
  have := bv_lt h
  rwa [bv_un] at this

/-- the code ties, for arbitrary inputs of the translated code -/
theorem tie_hrpExpand (s : List (BitVec 8)) : un (Gen.Bech32.bech32HrpExpand s) = Bech32.hrpExpand (un s) :=
  Tie.Bech32Code.hrpExpand_eq' s
theorem tie_createChecksum (hrp data : List (BitVec 8)) :
    Gen.Bech32.bech32CreateChecksum hrp data = bv (Bech32.createChecksum (un hrp) (un data)) :=
  (bv_un _).symm.trans (congrArg bv (Tie.Bech32Code.createChecksum_eq' hrp data))
theorem tie_verifyChecksum (hrp data : List (BitVec 8)) :
    Gen.Bech32.bech32VerifyChecksum hrp data = Bech32.verifyChecksum (un hrp) (un data) :=
  Tie.Bech32Code.verifyChecksum_eq' hrp data

theorem verify_iff_polymod (hrp data : List UInt8) :
    Bech32.verifyChecksum hrp data = true ↔ Bech32.polymod (Bech32.hrpExpand hrp ++ data) = 1 := by
  unfold Bech32.verifyChecksum
  exact beq_iff_eq

/-! ### 1. the checksum the code creates is accepted by the code (C05) -/

/-- **`bech32VerifyChecksum(hrp, append(data, bech32CreateChecksum(hrp, data)...))` is `true`**, for ALL byte strings
`hrp`, `data` (not only 5-bit symbols, not only printable prefixes, any length). -/
theorem created_checksum_verifies (hrp data : List (BitVec 8)) :
    Gen.Bech32.bech32VerifyChecksum hrp (data ++ Gen.Bech32.bech32CreateChecksum hrp data) = true := by
  rw [tie_verifyChecksum, un_append, tie_createChecksum, un_bv, verify_iff_polymod]
  exact Props.C05.checksum_verifies (un hrp) (un data)

/-- the created checksum consists of exactly six 5-bit symbols — for all byte strings `hrp`, `data` (no hypothesis on
the data symbols is needed: the symbols are six 5-bit fields of a value below 2^30). -/
theorem created_checksum_shape (hrp data : List (BitVec 8)) :
    (Gen.Bech32.bech32CreateChecksum hrp data).length = 6 ∧
    ∀ c ∈ Gen.Bech32.bech32CreateChecksum hrp data, c.toNat < 32 := by
  obtain ⟨h1, h2⟩ := Proofs.Bech32.createChecksum_spec (un hrp) (un data)
  rw [tie_createChecksum]
  exact ⟨by rw [bv_length, h1], bv_lt h2⟩

theorem created_word_length (hrp data : List (BitVec 8)) :
    (data ++ Gen.Bech32.bech32CreateChecksum hrp data).length = data.length + 6 := by
  rw [List.length_append, (created_checksum_shape hrp data).1]

theorem created_word_lt (hrp data : List (BitVec 8)) (hd : ∀ x ∈ data, x.toNat < 32) :
    ∀ x ∈ data ++ Gen.Bech32.bech32CreateChecksum hrp data, x.toNat < 32 := by
  intro x hx
  rcases List.mem_append.mp hx with h | h
  · exact hd x h
  · exact (created_checksum_shape hrp data).2 x h

/-- **uniqueness**: the only six 5-bit symbols that make the code's verification succeed are the ones the code
creates. -/
theorem verifying_checksum_unique (hrp data cs : List (BitVec 8)) (hlen : cs.length = 6)
    (hlt : ∀ c ∈ cs, c.toNat < 32)
    (hv : Gen.Bech32.bech32VerifyChecksum hrp (data ++ cs) = true) :
    cs = Gen.Bech32.bech32CreateChecksum hrp data := by
  rw [tie_verifyChecksum, un_append, verify_iff_polymod] at hv
  have := Props.C05.checksum_is_unique (un hrp) (un data) (un cs) (by rw [un_length, hlen]) (un_lt hlt) hv
  rw [tie_createChecksum, ← this, bv_un]

/-- the same through `bv`, for byte strings of the model's type -/
theorem created_checksum_verifies_bv (hrp data : List UInt8) :
    Gen.Bech32.bech32VerifyChecksum (bv hrp) (bv data ++ Gen.Bech32.bech32CreateChecksum (bv hrp) (bv data)) = true ∧
    (Gen.Bech32.bech32CreateChecksum (bv hrp) (bv data)).length = 6 ∧
    ∀ c ∈ Gen.Bech32.bech32CreateChecksum (bv hrp) (bv data), c.toNat < 32 :=
  ⟨created_checksum_verifies _ _, created_checksum_shape _ _⟩

/-! ### 2. error detection by the code (C16) -/

/-- number of positions in which two words differ (`Iota.Proofs.BCH.hamming` on the code's byte type) -/
def hamming : List (BitVec 8) → List (BitVec 8) → Nat
  | a :: as, b :: bs => (if a = b then 0 else 1) + hamming as bs
  | _, _ => 0

/-- every position where the words differ is among the last `n` positions of `v` -/
def DiffWithinLast (n : Nat) (v v' : List (BitVec 8)) : Prop :=
  ∀ i, i < v.length → v[i]? ≠ v'[i]? → v.length ≤ i + n

theorem hamming_un (a b : List (BitVec 8)) : Proofs.BCH.hamming (un a) (un b) = hamming a b := by
  induction a generalizing b with
  | nil => cases b <;> rfl
  | cons x xs ih =>
    cases b with
    | nil => rfl
    | cons y ys =>
      show (if UInt8.ofBitVec x = UInt8.ofBitVec y then 0 else 1) + Proofs.BCH.hamming (un xs) (un ys) = _
      rw [ih ys, hamming]
      by_cases h : x = y
      · simp [h]
      · have : UInt8.ofBitVec x ≠ UInt8.ofBitVec y := fun e => h (congrArg UInt8.toBitVec e)
        simp [h, this]

theorem diffWithinLast_un {n : Nat} {v v' : List (BitVec 8)} (h : DiffWithinLast n v v') :
    Proofs.BCH.DiffWithinLast n (un v) (un v') := by
  intro i hi hne
  rw [un_length] at hi ⊢
  apply h i hi
  intro e
  apply hne
  simp only [un, List.getElem?_map, e]

theorem hamming_common_prefix (p a b : List (BitVec 8)) : hamming (p ++ a) (p ++ b) = hamming a b := by
  induction p with
  | nil => rfl
  | cons x xs ih => simp [hamming, ih]

theorem diffWithinLast_common_prefix {n : Nat} (p : List (BitVec 8)) {a b : List (BitVec 8)}
    (h : DiffWithinLast n a b) : DiffWithinLast n (p ++ a) (p ++ b) := by
  intro i hi hne
  by_cases hip : i < p.length
  · rw [List.getElem?_append_left hip, List.getElem?_append_left hip] at hne
    exact absurd rfl hne
  · have hle : p.length ≤ i := by omega
    rw [List.getElem?_append_right hle, List.getElem?_append_right hle] at hne
    rw [List.length_append] at hi ⊢
    have := h (i - p.length) (by omega) hne
    omega

theorem diffWithinLast_of_length {n : Nat} {a b : List (BitVec 8)} (h : a.length ≤ n) : DiffWithinLast n a b := by
  intro i _ _; omega

theorem hrpExpand_lt (hrp : List UInt8) : ∀ x ∈ Bech32.hrpExpand hrp, x.toNat < 32 := by
  intro x hx
  simp only [Bech32.hrpExpand, List.mem_append, List.mem_map, List.mem_cons, List.not_mem_nil, or_false] at hx
  rcases hx with (⟨c, _, rfl⟩ | rfl) | ⟨c, _, rfl⟩
  · rw [Proofs.Base32.p_shr5]; have := c.toNat_lt; omega
  · decide
  · rw [Proofs.Base32.p_m31]; omega

/-- **BCH distance, on the code, in full generality** (transport of `Props.C16.checksum_distance`): `v` and `v'` are
the words the code's verification runs `bech32Polymod` on — the expanded prefix followed by the data-and-checksum
symbols.  If `v` verifies, `v'` has the same length and differs from it in 1…4 positions, all among the last 89, then
`v'` does not verify.  The prefixes may differ too (a changed prefix character changes up to two positions of `v`). -/
theorem verify_distance (hrp hrp' w w' : List (BitVec 8))
    (hw : ∀ x ∈ w, x.toNat < 32) (hw' : ∀ x ∈ w', x.toNat < 32)
    (hlen : (Gen.Bech32.bech32HrpExpand hrp ++ w).length = (Gen.Bech32.bech32HrpExpand hrp' ++ w').length)
    (h1 : 1 ≤ hamming (Gen.Bech32.bech32HrpExpand hrp ++ w) (Gen.Bech32.bech32HrpExpand hrp' ++ w'))
    (h4 : hamming (Gen.Bech32.bech32HrpExpand hrp ++ w) (Gen.Bech32.bech32HrpExpand hrp' ++ w') ≤ 4)
    (hwin : DiffWithinLast 89 (Gen.Bech32.bech32HrpExpand hrp ++ w) (Gen.Bech32.bech32HrpExpand hrp' ++ w'))
    (hv : Gen.Bech32.bech32VerifyChecksum hrp w = true) :
    Gen.Bech32.bech32VerifyChecksum hrp' w' = false := by
  rw [tie_verifyChecksum, verify_iff_polymod] at hv
  rw [tie_verifyChecksum, ← Bool.not_eq_true, verify_iff_polymod]
  have e : ∀ h x : List (BitVec 8), un (Gen.Bech32.bech32HrpExpand h ++ x) = Bech32.hrpExpand (un h) ++ un x :=
    fun h x => by rw [un_append, tie_hrpExpand]
  have lt : ∀ (h : List UInt8) (x : List (BitVec 8)), (∀ y ∈ x, y.toNat < 32) →
      ∀ y ∈ Bech32.hrpExpand h ++ un x, y.toNat < 32 := by
    intro h x hx y hy
    rcases List.mem_append.mp hy with hy | hy
    · exact hrpExpand_lt h y hy
    · exact un_lt hx y hy
  have hh := hamming_un (Gen.Bech32.bech32HrpExpand hrp ++ w) (Gen.Bech32.bech32HrpExpand hrp' ++ w')
  have hd := diffWithinLast_un hwin
  have hl := congrArg List.length (e hrp w)
  have hl' := congrArg List.length (e hrp' w')
  rw [un_length] at hl hl'
  rw [e, e] at hh hd
  exact Props.C16.checksum_distance _ _ (by rw [← hl, ← hl', hlen]) (lt _ w hw) (lt _ w' hw')
    (by rw [hh]; exact h1) (by rw [hh]; exact h4) hd hv

/-- the same prefix: only the symbols after it count; the differing positions lie within the last 89 of `w` (`w` itself
may be longer than that). -/
theorem verify_detects_errors (hrp w w' : List (BitVec 8))
    (hw : ∀ x ∈ w, x.toNat < 32) (hw' : ∀ x ∈ w', x.toNat < 32) (hlen : w.length = w'.length)
    (h1 : 1 ≤ hamming w w') (h4 : hamming w w' ≤ 4) (hwin : DiffWithinLast 89 w w')
    (hv : Gen.Bech32.bech32VerifyChecksum hrp w = true) :
    Gen.Bech32.bech32VerifyChecksum hrp w' = false :=
  verify_distance hrp hrp w w' hw hw' (by rw [List.length_append, List.length_append, hlen])
    (by rw [hamming_common_prefix]; exact h1) (by rw [hamming_common_prefix]; exact h4)
    (diffWithinLast_common_prefix _ hwin) hv

/-- the word `data ++ bech32CreateChecksum(hrp, data)` built by the code from 5-bit symbols (any prefix — it is common to
both words), with one to four symbols among its last 89 replaced by other 5-bit symbols, is rejected by the code's
`bech32VerifyChecksum`. -/
theorem created_word_errors_detected_window (hrp data w' : List (BitVec 8))
    (hd : ∀ x ∈ data, x.toNat < 32) (hw' : ∀ x ∈ w', x.toNat < 32) (hlen : w'.length = data.length + 6)
    (hwin : DiffWithinLast 89 (data ++ Gen.Bech32.bech32CreateChecksum hrp data) w')
    (h1 : 1 ≤ hamming (data ++ Gen.Bech32.bech32CreateChecksum hrp data) w')
    (h4 : hamming (data ++ Gen.Bech32.bech32CreateChecksum hrp data) w' ≤ 4) :
    Gen.Bech32.bech32VerifyChecksum hrp w' = false :=
  verify_detects_errors hrp _ w' (created_word_lt hrp data hd) hw' ((created_word_length hrp data).trans hlen.symm)
    h1 h4 hwin (created_checksum_verifies hrp data)

/-- **C16 on the code**: the word `data ++ bech32CreateChecksum(hrp, data)` built by the code from 5-bit symbols, at
most 89 symbols long (checksum included: 83 data symbols), with one to four symbols replaced by other 5-bit symbols, is
rejected by the code's `bech32VerifyChecksum`: all its positions are among the last 89. -/
theorem created_word_errors_detected (hrp data w' : List (BitVec 8))
    (hd : ∀ x ∈ data, x.toNat < 32) (hw' : ∀ x ∈ w', x.toNat < 32)
    (hlen : w'.length = data.length + 6) (h89 : data.length + 6 ≤ 89)
    (h1 : 1 ≤ hamming (data ++ Gen.Bech32.bech32CreateChecksum hrp data) w')
    (h4 : hamming (data ++ Gen.Bech32.bech32CreateChecksum hrp data) w' ≤ 4) :
    Gen.Bech32.bech32VerifyChecksum hrp w' = false :=
  created_word_errors_detected_window hrp data w' hd hw' hlen
    (diffWithinLast_of_length (by rw [created_word_length]; exact h89)) h1 h4

/-- through `bv` -/
theorem created_word_errors_detected_bv (hrp data w' : List UInt8)
    (hd : ∀ x ∈ data, x.toNat < 32) (hw' : ∀ x ∈ w', x.toNat < 32)
    (hlen : w'.length = data.length + 6) (h89 : data.length + 6 ≤ 89)
    (h1 : 1 ≤ hamming (bv data ++ Gen.Bech32.bech32CreateChecksum (bv hrp) (bv data)) (bv w'))
    (h4 : hamming (bv data ++ Gen.Bech32.bech32CreateChecksum (bv hrp) (bv data)) (bv w') ≤ 4) :
    Gen.Bech32.bech32VerifyChecksum (bv hrp) (bv w') = false :=
  created_word_errors_detected (bv hrp) (bv data) (bv w') (bv_lt hd) (bv_lt hw')
    (by rw [bv_length, bv_length, hlen]) (by rw [bv_length]; exact h89) h1 h4

/-! ### 3. base32: the code's `Decode` inverts the code's `Encode` (C04 / C05) -/

open Iota.Bech32 (encodedLen decodedLen b32Encode b32Decode) in
theorem decodedLen_encodedLen (n : Nat) : decodedLen (encodedLen n) = n := by
  unfold decodedLen encodedLen; omega

open Iota.Bech32 (encodedLen decodedLen b32Encode b32Decode) in
/-- `EncodedLen` / `DecodedLen (EncodedLen …)` of the code on a length below 2^60 (beyond, `n*8 + 4` overflows) -/
theorem lens (n : Nat) (h : n < 2 ^ 60) :
    (Gen.Bech32.base32.EncodedLen (BitVec.ofNat 64 n)).toNat = encodedLen n ∧
    (Gen.Bech32.base32.DecodedLen (Gen.Bech32.base32.EncodedLen (BitVec.ofNat 64 n))).toNat = n := by
  have he : encodedLen n * 5 < 2 ^ 63 := by unfold encodedLen; omega
  rw [Tie.Base32Code.EncodedLen_eq n h, Tie.Base32Code.DecodedLen_eq _ he, decodedLen_encodedLen,
    Go.toNat_ofNat_lt _ (by omega), Go.toNat_ofNat_lt _ (by omega)]
  exact ⟨rfl, rfl⟩

/-- the code's length functions are inverse where it matters: a buffer of `DecodedLen(EncodedLen(n))` bytes is a
buffer of `n` bytes -/
theorem DecodedLen_EncodedLen (n : Nat) (h : n < 2 ^ 60) :
    Gen.Bech32.base32.DecodedLen (Gen.Bech32.base32.EncodedLen (BitVec.ofNat 64 n)) = BitVec.ofNat 64 n := by
  apply BitVec.eq_of_toNat_eq
  rw [(lens n h).2, Go.toNat_ofNat_lt _ (by omega)]

open Iota.Bech32 (encodedLen decodedLen b32Encode b32Decode) in
/-- **round trip of the code**: for every byte string `src` (`len(src) < 2^60`), `Encode` into a destination of exactly
`EncodedLen(len(src))` entries (whatever it holds) does not panic, returns `EncodedLen(len(src))`, and fills the
destination with 5-bit symbols `syms`; `Decode` of these into a destination of exactly `DecodedLen(EncodedLen(len(src)))`
entries — that is `DecodedLen(len(syms))`, and `len(src)` by `lens` — does not panic and returns `(len(src), nil)` with
the destination equal to `src`. -/
theorem base32_round_trip (src dst : List (BitVec 8)) (hlen : src.length < 2 ^ 60)
    (hdst : dst.length = (Gen.Bech32.base32.EncodedLen (BitVec.ofNat 64 src.length)).toNat) :
    ∃ syms : List (BitVec 8),
      Gen.Bech32.base32.Encode dst src = some (Gen.Bech32.base32.EncodedLen (BitVec.ofNat 64 src.length), syms) ∧
      syms.length = dst.length ∧ (∀ s ∈ syms, s.toNat < 32) ∧
      BitVec.ofNat 64 syms.length = Gen.Bech32.base32.EncodedLen (BitVec.ofNat 64 src.length) ∧
      ∀ dst' : List (BitVec 8),
        dst'.length = (Gen.Bech32.base32.DecodedLen
          (Gen.Bech32.base32.EncodedLen (BitVec.ofNat 64 src.length))).toNat →
        Gen.Bech32.base32.Decode dst' syms = some (BitVec.ofNat 64 src.length, none, src) := by
  obtain ⟨hE, hD⟩ := lens src.length hlen
  have hsl : (un src).length = src.length := un_length src
  rw [hE] at hdst
  have henc := Tie.Base32Code.encode_exact dst (un src) (by rw [hsl]; exact hlen) (by rw [hsl]; exact hdst)
  rw [bv_un, hsl, ← Tie.Base32Code.EncodedLen_eq _ hlen] at henc
  have hl2 : (b32Encode (un src)).length = encodedLen src.length := by
    rw [Proofs.Base32.b32Encode_length, hsl]
  have hsyms : (bv (b32Encode (un src))).length = encodedLen src.length := (bv_length _).trans hl2
  refine ⟨bv (b32Encode (un src)), henc, by rw [hsyms, hdst], bv_lt (Proofs.Base32.b32Encode_lt _),
    by rw [hsyms, Tie.Base32Code.EncodedLen_eq _ hlen], ?_⟩
  intro dst' hdst'
  rw [hD] at hdst'
  have hdec := Tie.Base32Code.decode_exact dst' (b32Encode (un src)) (un src)
    (by rw [hl2]; unfold encodedLen; omega) (by rw [hl2, decodedLen_encodedLen]; exact hdst')
    ((Props.C04.base32_decode_ok_iff _ _ (Proofs.Base32.b32Encode_lt _)).mpr rfl)
  rwa [bv_un, hsl] at hdec

open Iota.Bech32 (encodedLen decodedLen b32Encode b32Decode) in
/-- **`Decode` accepts exactly the outputs of `Encode`** (code level): if the code's `Decode` of 5-bit symbols `syms`
into a destination of `DecodedLen(len(syms))` entries returns the error `nil`, then the destination holds bytes that the
code's `Encode` maps back to exactly `syms`. -/
theorem base32_accepted_is_encoding (syms dst buf : List (BitVec 8)) (w : BitVec 64)
    (hlt : ∀ s ∈ syms, s.toNat < 32) (hlen : syms.length < 2 ^ 60)
    (hdst : dst.length = (Gen.Bech32.base32.DecodedLen (BitVec.ofNat 64 syms.length)).toNat)
    (h : Gen.Bech32.base32.Decode dst syms = some (w, none, buf)) :
    w = BitVec.ofNat 64 buf.length ∧ buf.length = dst.length ∧
    ∀ dst' : List (BitVec 8), dst'.length = syms.length →
      Gen.Bech32.base32.Encode dst' buf = some (BitVec.ofNat 64 syms.length, syms) := by
  have hsl : (un syms).length = syms.length := un_length syms
  rw [Tie.Base32Code.DecodedLen_eq _ (by omega), Go.toNat_ofNat_lt _
    (by unfold decodedLen; omega)] at hdst
  rw [← bv_un syms] at h
  obtain ⟨bytes, hm, hw, hbuf⟩ := Tie.Base32Code.ok_of_decode dst (un syms) (by rw [hsl]; omega) w buf h
  have hbl : bytes.length = dst.length := by
    rw [Tie.Base32Code.length_ok _ _ hm, hsl, hdst]
  rw [hbl, List.drop_length, List.append_nil] at hbuf
  have hsy : un syms = b32Encode bytes := (Props.C04.base32_decode_ok_iff _ _ (un_lt hlt)).mp hm
  have hel : encodedLen bytes.length = syms.length := by
    rw [← Proofs.Base32.b32Encode_length, ← hsy, hsl]
  have hbb : bytes.length < 2 ^ 60 := by
    rw [hbl, hdst]; unfold decodedLen; omega
  refine ⟨by rw [hw, hbuf, bv_length], by rw [hbuf, bv_length, hbl], ?_⟩
  intro dst' hdst'
  have := Tie.Base32Code.encode_exact dst' bytes hbb (by rw [hel, hdst'])
  rw [hel, ← hsy, bv_un, ← hbuf] at this
  exact this

/-! ### 4. charset: the code's `decode` inverts the code's `encode` on 5-bit symbols -/

/-- the tables the code's `newEncoding` builds from the alphabet in the source are those of the code ties -/
theorem tables_eq {enc dec : List (BitVec 8)}
    (hnew : Gen.Bech32.chars.newEncoding (Gen.Bech32.charset.map (BitVec.ofNat 8)) = some (enc, dec)) :
    enc = Tie.Bech32CharsCode.encTable ∧ dec = Tie.Bech32CharsCode.decTable :=
  Prod.mk.inj (Option.some.inj (hnew.symm.trans Tie.Bech32.code_newEncoding.1))

/-- **round trip of the code**: with the two tables `enc`, `decMap` that the code's `newEncoding` builds from the
alphabet in the source (`var charset = newEncoding("qpzry9x8gf2tvdw0s3jn54khce6mua7l")`, the literal being
`Gen.Bech32.charset`), `encode` of 5-bit symbols does not panic and `decode` of the result returns the symbols and the
error `nil`. -/
theorem charset_round_trip (enc dec : List (BitVec 8))
    (hnew : Gen.Bech32.chars.newEncoding (Gen.Bech32.charset.map (BitVec.ofNat 8)) = some (enc, dec))
    (syms : List (BitVec 8)) (hlen : syms.length < 2 ^ 63) (hlt : ∀ s ∈ syms, s.toNat < 32) :
    ∃ chars : List (BitVec 8),
      Gen.Bech32.chars.encoding_encode enc syms = some chars ∧ chars.length = syms.length ∧
      Gen.Bech32.chars.encoding_decode dec chars = some (syms, none) := by
  obtain ⟨rfl, rfl⟩ := tables_eq hnew
  have hsl : (un syms).length = syms.length := un_length syms
  have hall : (un syms).all (fun s => decide (s.toNat < 32)) = true := by
    rw [List.all_eq_true]; intro s hs; exact decide_eq_true (un_lt hlt s hs)
  have henc := Tie.Bech32.code_charsetEncode (un syms) (by rw [hsl]; exact hlen)
  rw [bv_un, if_pos hall] at henc
  have hcl : (Bech32.charsetEncode (un syms)).length = syms.length := by
    rw [Bech32.charsetEncode, List.length_map, hsl]
  have hdec := Tie.Bech32.code_charsetDecode (Bech32.charsetEncode (un syms)) (by rw [hcl]; exact hlen)
  rw [Proofs.Bech32.charsetDecode_encode _ (un_lt hlt)] at hdec
  refine ⟨_, henc, by rw [bv_length, hcl], ?_⟩
  rw [hdec]
  show some (bv (un syms), none) = _
  rw [bv_un]

/-- the generated `newEncoding` does return tables for that alphabet (the hypothesis above is not vacuous) -/
theorem charset_tables_exist :
    ∃ enc dec, Gen.Bech32.chars.newEncoding (Gen.Bech32.charset.map (BitVec.ofNat 8)) = some (enc, dec) :=
  ⟨_, _, Tie.Bech32.code_newEncoding.1⟩

/-- **conversely**: whatever the code's `decode` accepts (error `nil`) consists of 5-bit symbols that the code's
`encode` maps back to the input — the two maps are inverse bijections between charset strings and symbol strings. -/
theorem charset_accepted_is_encoding (enc dec : List (BitVec 8))
    (hnew : Gen.Bech32.chars.newEncoding (Gen.Bech32.charset.map (BitVec.ofNat 8)) = some (enc, dec))
    (chars syms : List (BitVec 8)) (hlen : chars.length < 2 ^ 63)
    (h : Gen.Bech32.chars.encoding_decode dec chars = some (syms, none)) :
    (∀ s ∈ syms, s.toNat < 32) ∧ syms.length = chars.length ∧
    Gen.Bech32.chars.encoding_encode enc syms = some chars := by
  obtain ⟨rfl, rfl⟩ := tables_eq hnew
  have hcl : (un chars).length = chars.length := un_length chars
  have hdec := Tie.Bech32.code_charsetDecode (un chars) (by rw [hcl]; exact hlen)
  rw [bv_un, h] at hdec
  cases hm : Bech32.charsetDecode (un chars) with
  | error n => rw [hm] at hdec; simp at hdec
  | ok ds =>
    rw [hm] at hdec
    have hs : syms = bv ds := (Prod.mk.inj (Option.some.inj hdec)).1
    obtain ⟨hce, hdl⟩ := Proofs.Bech32.charsetDecode_ok _ _ hm
    have hlen' : ds.length = chars.length := by
      rw [← hcl, hce, Bech32.charsetEncode, List.length_map]
    have hall : ds.all (fun s => decide (s.toNat < 32)) = true := by
      rw [List.all_eq_true]; intro s hs; exact decide_eq_true (hdl s hs)
    have henc := Tie.Bech32.code_charsetEncode ds (by rw [hlen']; exact hlen)
    rw [if_pos hall, ← hce, bv_un] at henc
    subst hs
    exact ⟨bv_lt hdl, by rw [bv_length, hlen'], henc⟩

/-! ### 5. non-vacuity: the generated functions evaluated on concrete inputs -/

-- 1. hrp "a", data [1, 2, 3]: the six symbols the code creates, and the code accepts them
example : Gen.Bech32.bech32CreateChecksum [97#8] [1#8, 2#8, 3#8] = [31#8, 5#8, 28#8, 4#8, 0#8, 10#8] := by decide +kernel
example : Gen.Bech32.bech32VerifyChecksum [97#8]
    ([1#8, 2#8, 3#8] ++ Gen.Bech32.bech32CreateChecksum [97#8] [1#8, 2#8, 3#8]) = true := by decide +kernel
-- 2. one symbol of that word changed (3 → 4): the hypotheses of `created_word_errors_detected` hold, the code rejects
example : hamming ([1#8, 2#8, 3#8] ++ Gen.Bech32.bech32CreateChecksum [97#8] [1#8, 2#8, 3#8])
    [1#8, 2#8, 4#8, 31#8, 5#8, 28#8, 4#8, 0#8, 10#8] = 1 := by decide +kernel
example : Gen.Bech32.bech32VerifyChecksum [97#8] [1#8, 2#8, 4#8, 31#8, 5#8, 28#8, 4#8, 0#8, 10#8] = false := by decide +kernel
-- 3. base32: 0xFF → [31, 28] → 0xFF; "ab" (2 bytes → 4 symbols → 2 bytes)
example : Gen.Bech32.base32.EncodedLen 1#64 = 2#64 ∧ Gen.Bech32.base32.DecodedLen 2#64 = 1#64 := by decide
example : Gen.Bech32.base32.Encode [0#8, 0#8] [255#8] = some (2#64, [31#8, 28#8]) := by decide
example : Gen.Bech32.base32.Decode [0#8] [31#8, 28#8] = some (1#64, none, [255#8]) := by decide
example : Gen.Bech32.base32.Encode [9#8, 9#8, 9#8, 9#8] [97#8, 98#8] = some (4#64, [12#8, 5#8, 17#8, 0#8]) := by decide
example : Gen.Bech32.base32.Decode [7#8, 7#8] [12#8, 5#8, 17#8, 0#8] = some (2#64, none, [97#8, 98#8]) := by decide
-- non-zero padding is refused by the code: [31, 29] is not an output of `Encode`
example : Gen.Bech32.base32.Decode [0#8] [31#8, 29#8] = some (1#64, some ("ErrNonZeroPadding", 1#64), [255#8]) := by
  decide
-- 4. charset: symbols [0, 1, 31] ↦ "qpl" ↦ [0, 1, 31], with the tables of the generated `newEncoding`
example : (Gen.Bech32.chars.newEncoding (Gen.Bech32.charset.map (BitVec.ofNat 8))).isSome = true := by decide +kernel
example : (Gen.Bech32.chars.newEncoding (Gen.Bech32.charset.map (BitVec.ofNat 8))).bind
    (fun t => Gen.Bech32.chars.encoding_encode t.1 [0#8, 1#8, 31#8]) = some [113#8, 112#8, 108#8] := by decide +kernel
example : (Gen.Bech32.chars.newEncoding (Gen.Bech32.charset.map (BitVec.ofNat 8))).bind
    (fun t => Gen.Bech32.chars.encoding_decode t.2 [113#8, 112#8, 108#8]) = some ([0#8, 1#8, 31#8], none) := by
  rw [show Gen.Bech32.charset.map (BitVec.ofNat 8) = Tie.Bech32CharsCode.srcCharset from rfl, Tie.Bech32.code_newEncoding.1]
  decide +kernel

/-- the bound on the symbols of a concrete word, by evaluation of `List.all` (deciding the `∀ x ∈ …` form is slow) -/
theorem lt32_of_all {l : List (BitVec 8)} (h : l.all (fun x => decide (x.toNat < 32)) = true) : ∀ x ∈ l, x.toNat < 32 :=
  fun x hx => of_decide_eq_true (List.all_eq_true.mp h x hx)

-- the theorems instantiated: their hypotheses are satisfiable
example : Gen.Bech32.bech32VerifyChecksum [97#8] [1#8, 2#8, 4#8, 31#8, 5#8, 28#8, 4#8, 0#8, 10#8] = false :=
  created_word_errors_detected [97#8] [1#8, 2#8, 3#8] _ (lt32_of_all (by decide)) (lt32_of_all (by decide)) (by decide)
    (by decide) (by decide +kernel) (by decide +kernel)
example : ∃ syms, Gen.Bech32.base32.Encode [9#8, 9#8, 9#8, 9#8] [97#8, 98#8] = some (4#64, syms) ∧
    Gen.Bech32.base32.Decode [7#8, 7#8] syms = some (2#64, none, [97#8, 98#8]) := by
  obtain ⟨syms, h1, _, _, _, h2⟩ := base32_round_trip [97#8, 98#8] [9#8, 9#8, 9#8, 9#8] (by decide) (by decide)
  exact ⟨syms, h1, h2 [7#8, 7#8] (by decide)⟩
example : ∃ enc dec chars, Gen.Bech32.chars.newEncoding (Gen.Bech32.charset.map (BitVec.ofNat 8)) = some (enc, dec) ∧
    Gen.Bech32.chars.encoding_encode enc [0#8, 1#8, 31#8] = some chars ∧
    Gen.Bech32.chars.encoding_decode dec chars = some ([0#8, 1#8, 31#8], none) := by
  obtain ⟨enc, dec, h⟩ := charset_tables_exist
  obtain ⟨chars, h1, _, h2⟩ := charset_round_trip enc dec h [0#8, 1#8, 31#8] (by decide) (lt32_of_all (by decide))
  exact ⟨enc, dec, chars, h, h1, h2⟩


end Iota.Tie.E2E.Bech32
