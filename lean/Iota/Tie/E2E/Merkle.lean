/-
END-TO-END theorems for pkg/merkle: the C15 properties (`Iota/Props/C15.lean`: the tree hash is RFC 6962's MTH, equals the
level-by-level construction, every audit path verifies, the first marshaling error is returned) stated about the GENERATED
`Gen.Merkle.code.Hasher_Hash` / `Hasher_EmptyRoot` (`Iota/Gen/Merkle.lean`, regenerated from merkle.go on every run),
obtained by combining the code tie `Tie.MerkleCode.Hash_eq` (generated code = hand-written model, for all inputs) with the
property theorems about the model.

The main theorems (the ones with a bold doc comment) mention the generated functions, the hash function `hash_sum` of the
`Hasher` as the translation sees it (bytes written ↦ digest `Sum(nil)` returns), `bv` (the bijection `List UInt8 ≃
List (BitVec 8)` between the byte type of the specifications and the one of the translated code) and the notions of the
specifications — `IsMTH`, `bottomUp`, `auditPath`, `verifyPath`, `firstError` — taken at the hash function
`HOf hash_sum`, which is `hash_sum` on the byte type of the specifications.  None mentions the model's `Merkle.hash`.
(`H_unique`: `HOf hash_sum` is the only `H` with `hH : ∀ x, hash_sum (bv x) = bv (H x)`, the hypothesis of the code tie.)

A leaf is the pair `(bytes, error)` its `MarshalBinary` returns; successfully marshaled leaves `D : List Bytes` are
`okLeaves D = D.map fun b => (bv b, none)`.  The result `none` is a Go run-time panic or exhausted fuel, `some (root, none)` a
root hash, `some ([], some e)` the error `e`.  `fuel` bounds the depth of the recursion of the translated function; any
`fuel > len(data)` is enough (`Tie.MerkleCode.Hash_fuel_irrelevant`: the result does not depend on it).  `len < 2^63` is the
range of Go's `int`.
-/
import Iota.Props.C15
import Iota.Tie.MerkleCode

namespace Iota.Tie.E2E.Merkle
open Iota
open Iota.Merkle (Bytes)
open Iota.Spec.Merkle (IsMTH firstError)
open Iota.Spec.MerkleTree (bottomUp auditPath verifyPath)
open Iota.Tie.Bech32Code (bv bv_inj Hof_spec Hof_unique)
open Iota.Tie.MerkleCode (un decLeaf enc Hash_eq Hash_enc)
open Iota.Gen.Merkle

/-- `hash_sum` on the byte type of the specifications -/
def HOf (hash_sum : List (BitVec 8) → List (BitVec 8)) : Bytes → Bytes := fun x => un (hash_sum (bv x))

theorem hH_HOf (hash_sum : List (BitVec 8) → List (BitVec 8)) (x : Bytes) : hash_sum (bv x) = bv (HOf hash_sum x) :=
  Hof_spec hash_sum x

/-- there is exactly one `H` that is `hash_sum` seen through `bv` -/
theorem H_unique (hash_sum : List (BitVec 8) → List (BitVec 8)) (H : Bytes → Bytes)
    (hH : ∀ x, hash_sum (bv x) = bv (H x)) : H = HOf hash_sum :=
  Hof_unique hash_sum H hH

/-- successfully marshaled leaves as the translated code sees them: `(bytes, nil)` -/
def okLeaves (D : List Bytes) : List (List (BitVec 8) × Option String) := D.map fun b => (bv b, none)

theorem okLeaves_eq (D : List Bytes) : okLeaves D = (D.map (Except.ok (ε := String))).map enc := by
  rw [List.map_map]; rfl

theorem length_okLeaves (D : List Bytes) : (okLeaves D).length = D.length := List.length_map _

theorem enc_eq_ok (x : Except String Bytes) (h : Bytes) : enc x = (bv h, none) ↔ x = .ok h := by
  cases x with
  | ok r =>
    constructor
    · intro e; rw [bv_inj (congrArg Prod.fst e : bv r = bv h)]
    · intro e; cases e; rfl
  | error e =>
    constructor
    · intro e'; cases (congrArg Prod.snd e' : some e = none)
    · intro e'; cases e'

/-- the first non-nil error of a list of leaves `(bytes, error)` in index order, in terms of the pairs alone -/
theorem firstError_decLeaf (data : List (List (BitVec 8) × Option String)) :
    firstError (data.map decLeaf) = data.findSome? (·.2) := by
  induction data with
  | nil => rfl
  | cons x xs ih =>
    obtain ⟨b, err⟩ := x
    cases err with
    | none => simpa [decLeaf, firstError] using ih
    | some e => simp [decLeaf, firstError]

/-! ### the code tie on successfully marshaled leaves -/

theorem hash_okLeaves (hash_sum : List (BitVec 8) → List (BitVec 8)) (D : List Bytes) (h63 : D.length < 2 ^ 63)
    (fuel : Nat) (hf : D.length < fuel) :
    code.Hasher_Hash hash_sum fuel (okLeaves D) = some (enc (Merkle.hash (HOf hash_sum) (D.map .ok))) := by
  rw [okLeaves_eq]
  exact Hash_enc hash_sum _ (hH_HOf hash_sum) fuel _ (by rwa [List.length_map]) (by rw [List.length_map]; omega) (by omega)

/-! ### 1. the result is RFC 6962's Merkle Tree Hash -/

section
variable (hash_sum : List (BitVec 8) → List (BitVec 8))

/-- **For leaves that marshal successfully to the byte strings `D`, the generated `Hasher.Hash` returns `(h, nil)` exactly
for the `h` that RFC 6962 §2.1 defines as the Merkle Tree Hash of `D` (for the hash function of the `Hasher`): for every
hash function and every number of leaves.** -/
theorem hash_is_MTH_code (D : List Bytes) (h63 : D.length < 2 ^ 63) (fuel : Nat) (hf : D.length < fuel) (h : Bytes) :
    code.Hasher_Hash hash_sum fuel (okLeaves D) = some (bv h, none) ↔ IsMTH (HOf hash_sum) D h := by
  rw [hash_okLeaves hash_sum D h63 fuel hf, ← Props.C15.hash_eq_MTH (ε := String) _ D (by omega) h, ← enc_eq_ok]
  exact ⟨fun e => Option.some.inj e, fun e => congrArg some e⟩

/-- **… and it always does return such an `h`: no panic, no error, the fuel suffices.** -/
theorem hash_returns_MTH_code (D : List Bytes) (h63 : D.length < 2 ^ 63) (fuel : Nat) (hf : D.length < fuel) :
    ∃ h, code.Hasher_Hash hash_sum fuel (okLeaves D) = some (bv h, none) ∧ IsMTH (HOf hash_sum) D h :=
  ⟨_, (hash_is_MTH_code hash_sum D h63 fuel hf _).mpr (Props.C15.bottomUp_isMTH _ D), Props.C15.bottomUp_isMTH _ D⟩

/-! ### 2. … which is what the level-by-level construction yields -/

/-- **The generated `Hasher.Hash` returns the root that the independent bottom-up construction computes (pair consecutive
nodes level by level, promote an unpaired last node; no split point anywhere).** -/
theorem hash_is_bottomUp_code (D : List Bytes) (h63 : D.length < 2 ^ 63) (fuel : Nat) (hf : D.length < fuel) :
    code.Hasher_Hash hash_sum fuel (okLeaves D) = some (bv (bottomUp (HOf hash_sum) D), none) := by
  rw [hash_okLeaves hash_sum D h63 fuel hf, Props.C15.hash_eq_bottomUp _ D (by omega)]
  rfl

/-! ### 3. … and what RFC 6962 audit paths verify against -/

/-- **The RFC 6962 §2.1.1 audit path of every leaf verifies, with the iterative verifier of RFC 9162 §2.1.3.2, against the
root the generated `Hasher.Hash` returns.** -/
theorem audit_path_verifies_code (D : List Bytes) (h63 : D.length < 2 ^ 63) (fuel : Nat) (hf : D.length < fuel)
    (root : Bytes) (hroot : code.Hasher_Hash hash_sum fuel (okLeaves D) = some (bv root, none))
    (m : Nat) (leaf : Bytes) (hm : D[m]? = some leaf) :
    verifyPath (HOf hash_sum) m D.length leaf (auditPath (HOf hash_sum) D m) = some root := by
  rw [hash_okLeaves hash_sum D h63 fuel hf] at hroot
  exact Props.C15.audit_path_verifies (ε := String) _ D (by omega) root
    ((enc_eq_ok _ _).mp (Option.some.inj hroot)) m leaf hm

/-- the same in one statement: there is a root, `Hash` returns it, every audit path verifies against it -/
theorem audit_paths_verify_code (D : List Bytes) (h63 : D.length < 2 ^ 63) (fuel : Nat) (hf : D.length < fuel) :
    ∃ root, code.Hasher_Hash hash_sum fuel (okLeaves D) = some (bv root, none) ∧
      ∀ m leaf, D[m]? = some leaf →
        verifyPath (HOf hash_sum) m D.length leaf (auditPath (HOf hash_sum) D m) = some root :=
  ⟨_, hash_is_bottomUp_code hash_sum D h63 fuel hf, fun m leaf hm =>
    audit_path_verifies_code hash_sum D h63 fuel hf _ (hash_is_bottomUp_code hash_sum D h63 fuel hf) m leaf hm⟩

/-! ### 4. errors (arbitrary leaves `(bytes, error)`) -/

/-- **If some leaf fails to marshal, the generated `Hasher.Hash` returns `(nil, e)` for the error `e` of the first such leaf
in index order** (`firstError_decLeaf`: that is `data.findSome? (·.2)`), **whatever bytes come with the errors.** -/
theorem first_error_returned_code (fuel : Nat) (data : List (List (BitVec 8) × Option String))
    (h63 : data.length < 2 ^ 63) (hf : data.length < fuel) (e : String)
    (he : firstError (data.map decLeaf) = some e) :
    code.Hasher_Hash hash_sum fuel data = some ([], some e) := by
  rw [Hash_eq hash_sum _ (hH_HOf hash_sum) fuel data h63 (by omega) (by omega),
    Props.C15.first_error_returned _ _ e he]
  rfl

/-- **… and if none fails, it returns a hash and no error.** -/
theorem no_error_ok_code (fuel : Nat) (data : List (List (BitVec 8) × Option String))
    (h63 : data.length < 2 ^ 63) (hf : data.length < fuel)
    (he : firstError (data.map decLeaf) = none) :
    ∃ r : Bytes, code.Hasher_Hash hash_sum fuel data = some (bv r, none) := by
  obtain ⟨r, hr⟩ := Props.C15.no_error_ok (HOf hash_sum) _ he
  exact ⟨r, by rw [Hash_eq hash_sum _ (hH_HOf hash_sum) fuel data h63 (by omega) (by omega), hr]; rfl⟩

/-! ### 5. the empty tree -/

/-- **`Hash` of no leaves is `(EmptyRoot(), nil)`, and `EmptyRoot()` is the hash of the empty string.** -/
theorem empty_root_code (fuel : Nat) (hf : 0 < fuel) :
    code.Hasher_Hash hash_sum fuel [] = some (code.Hasher_EmptyRoot hash_sum, none) ∧
    code.Hasher_EmptyRoot hash_sum = hash_sum [] := by
  obtain ⟨fuel, rfl⟩ : ∃ f, fuel = f + 1 := ⟨fuel - 1, by omega⟩
  exact ⟨rfl, rfl⟩

/-! ### 6. the result is a function of what the leaves marshal to -/

/-- **Two lists of leaves that marshal to the same bytes, resp. fail with the same errors, give the same result: the bytes
returned next to an error are irrelevant** (and so is the fuel). -/
theorem result_depends_only_on_leaves_code (fuel fuel' : Nat) (data data' : List (List (BitVec 8) × Option String))
    (h63 : data.length < 2 ^ 63) (hf : data.length < fuel) (hf' : data.length < fuel')
    (hd : data.map decLeaf = data'.map decLeaf) :
    code.Hasher_Hash hash_sum fuel data = code.Hasher_Hash hash_sum fuel' data' := by
  have hl : data'.length = data.length := by
    have := congrArg List.length hd
    rw [List.length_map, List.length_map] at this
    exact this.symm
  rw [Hash_eq hash_sum _ (hH_HOf hash_sum) fuel data h63 (by omega) (by omega),
    Hash_eq hash_sum _ (hH_HOf hash_sum) fuel' data' (by omega) (by omega) (by omega), hd]
end

/-! ### non-vacuity: the theorems instantiated at the toy hash function of `Tie.MerkleCode` (a string behind its length) -/

open Iota.Tie.MerkleCode (toy)

/-- what the generated code computes on three leaves is the bottom-up root, which is this string -/
example : code.Hasher_Hash toy 4 (okLeaves [[0xaa], [0xbb], [0xcc]]) = some (bv (bottomUp (HOf toy) [[0xaa], [0xbb], [0xcc]]), none) ∧
    bv (bottomUp (HOf toy) [[0xaa], [0xbb], [0xcc]]) =
      [0x0c#8, 0x01#8, 0x07#8, 0x01#8, 0x02#8, 0x00#8, 0xaa#8, 0x02#8, 0x00#8, 0xbb#8, 0x02#8, 0x00#8, 0xcc#8] :=
  ⟨hash_is_bottomUp_code toy _ (by decide) 4 (by decide), by decide +kernel⟩

/-- the audit path of leaf 2 of 3 verifies against the root the generated code returns -/
example : ∃ root, code.Hasher_Hash toy 4 (okLeaves [[0xaa], [0xbb], [0xcc]]) = some (bv root, none) ∧
    verifyPath (HOf toy) 2 3 [0xcc] (auditPath (HOf toy) [[0xaa], [0xbb], [0xcc]] 2) = some root := by
  obtain ⟨root, h, hv⟩ := audit_paths_verify_code toy [[0xaa], [0xbb], [0xcc]] (by decide) 4 (by decide)
  exact ⟨root, h, hv 2 [0xcc] rfl⟩

/-- the first error wins, the bytes next to it do not matter -/
example : code.Hasher_Hash toy 4 [([0xaa#8], none), ([0x01#8], some "E"), ([], some "F")] = some ([], some "E") :=
  first_error_returned_code toy 4 _ (by decide) (by decide) "E" rfl

example : code.Hasher_Hash toy 1 [] = some ([0x00#8], none) := (empty_root_code toy 1 (by decide)).1

end Iota.Tie.E2E.Merkle
