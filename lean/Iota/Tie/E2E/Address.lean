/-
END-TO-END theorems for pkg/bech32/address: the C19 properties of the network address format (`Iota/Props/C19.lean`:
`ParseBech32` of `Bech32` of an address returns it; what `ParseBech32` accepts has a known prefix, a known version, the
payload length of that version, and re-encodes to the lower-cased input) stated about the GENERATED
`Gen.AddressCode.address.Bech32` / `address.ParseBech32` (`Iota/Gen/AddressCode.lean`, regenerated from address.go on every
run, calling the generated `bech32.Encode` / `Decode` of `Iota/Gen/Bech32.lean`), obtained by combining the code tie
`Tie.AddressCode.code_bech32` / `code_parseBech32` (generated code = hand-written model, for all inputs) with the property
theorems about the model.

The theorems mention only the two generated functions, the values passed for their PARAMETERS — the two tables of the package
variable `charset` (`encTable`, `decTable`: what the generated `newEncoding` returns, `Tie/Bech32CharsCode`) and the library
functions `strings.ToLower` / `ToUpper` / `LastIndex` as any `E : Externs` (`Iota.Tie.Bech32ApiCode.Externs`: three assumptions) — and
`asciiLower`, the ASCII lower-casing of a byte string, defined here.  None mentions the model; only the proofs do.
An address is the pair (constructor index of its struct type in the closed interface `Address`: 0 = Ed25519Address,
1 = AliasAddress, 2 = NFTAddress; bytes of its hash array); a result `none` would be a Go run-time panic;
`some (p, some a, none)` is the prefix `p`, the address `a` and a nil error.  A string is the list of its bytes; the bound
`< 2^63` on its length is the one every Go string satisfies.
-/
import Iota.Props.C19
import Iota.Tie.AddressCode

namespace Iota.Tie.E2E.Address
open Iota Iota.Address
open Iota.Tie.Bech32Code (bv bv_length exists_bv)
open Iota.Tie.Bech32CharsCode (encTable decTable)
open Iota.Tie.Bech32ApiCode (Externs)
open Iota.Tie.AddressCode (code_bech32 code_parseBech32 code_parseBech32_never_panics kindTag encAddr encEnc encParse)
open Iota.Gen.AddressCode

/-- the length of the hash array of the `k`-th address type: `Ed25519Address{hash [32]byte}`, `AliasAddress{hash [20]byte}`,
`NFTAddress{hash [20]byte}` -/
def hashLen (k : Nat) : Nat := if k = 0 then 32 else 20

/-- ASCII lower-casing of a byte string (`A`–`Z` ↦ `a`–`z`, every other byte unchanged) -/
def asciiLower (s : List (BitVec 8)) : List (BitVec 8) :=
  s.map fun c => if 65 ≤ c.toNat ∧ c.toNat ≤ 90 then c + 32#8 else c

theorem asciiLower_byte (c : UInt8) :
    (Bech32.toLowerAscii c).toBitVec = (if 65 ≤ c.toBitVec.toNat ∧ c.toBitVec.toNat ≤ 90 then c.toBitVec + 32#8 else c.toBitVec) := by
  unfold Bech32.toLowerAscii Bech32.isUpperAscii
  by_cases h : 65 ≤ c.toBitVec.toNat ∧ c.toBitVec.toNat ≤ 90
  · have h' : 65 ≤ c.toNat ∧ c.toNat ≤ 90 := h
    rw [if_pos h, if_pos (by simp [h'.1, h'.2])]
    rfl
  · have h' : ¬ (65 ≤ c.toNat ∧ c.toNat ≤ 90) := h
    rw [if_neg h, if_neg (by simpa using h')]

theorem asciiLower_bv (s : List UInt8) : asciiLower (bv s) = bv (Bech32.lower s) := by
  simp only [asciiLower, bv, Bech32.lower, List.map_map]
  apply List.map_congr_left
  intro c _
  exact (asciiLower_byte c).symm

theorem kind_of_tag (k : Nat) (hk : k < 3) : ∃ kind : Kind, kindTag kind = k ∧ kind.hashLen = hashLen k := by
  have : k = 0 ∨ k = 1 ∨ k = 2 := by omega
  rcases this with rfl | rfl | rfl
  · exact ⟨.ed25519, rfl, rfl⟩
  · exact ⟨.alias, rfl, rfl⟩
  · exact ⟨.nft, rfl, rfl⟩

theorem tag_lt (kind : Kind) : kindTag kind < 3 ∧ kind.hashLen = hashLen (kindTag kind) := by
  cases kind <;> exact ⟨by decide, rfl⟩

/-- **round trip**: for each of the four network prefixes, each of the three address types and every hash of the length of
that type's array, the generated `Bech32` does not panic and returns a string and a nil error, and the generated
`ParseBech32` of that string returns the same prefix, the same address and a nil error -/
theorem parse_of_bech32_code (E : Externs) (p : Nat) (hp : p < 4) (k : Nat) (hk : k < 3) (h : List (BitVec 8))
    (hl : h.length = hashLen k) :
    ∃ s, address.Bech32 encTable E.toLower E.toUpper (BitVec.ofNat 64 p) (some (k, h)) = some (s, none) ∧
      address.ParseBech32 decTable E.lastIndex E.toLower E.toUpper s = some (BitVec.ofNat 64 p, some (k, h), none) := by
  obtain ⟨h', rfl, hl'⟩ := exists_bv h
  obtain ⟨kind, rfl, hkl⟩ := kind_of_tag k hk
  have hlen : (⟨kind, h'⟩ : Addr).hash.length = kind.hashLen := by rw [hkl, ← hl]; exact hl'
  obtain ⟨s, hs, hparse⟩ := Props.C19.parse_of_bech32 p hp ⟨kind, h'⟩ hlen
  have hvalid := (Props.C19.parse_strict s p ⟨kind, h'⟩ hparse).2.1
  refine ⟨bv s, ?_, ?_⟩
  · have := code_bech32 E p hp ⟨kind, h'⟩ hlen
    rw [hs] at this
    exact this
  · rw [code_parseBech32 E s (by have := hvalid.len; omega), hparse]
    rfl

/-- **strict**: whatever string the generated `ParseBech32` accepts (nil error) has one of the four prefixes and an address
of one of the three types whose hash has the length of that type's array, and the generated `Bech32` of that prefix and
address returns the lower-cased input -/
theorem parse_strict_code (E : Externs) (s : List (BitVec 8)) (hs : s.length < 2 ^ 63) (p : BitVec 64) (a : Go.Iface)
    (hparse : address.ParseBech32 decTable E.lastIndex E.toLower E.toUpper s = some (p, a, none)) :
    ∃ k h, a = some (k, h) ∧ p.toNat < 4 ∧ k < 3 ∧ h.length = hashLen k ∧
      address.Bech32 encTable E.toLower E.toUpper p (some (k, h)) = some (asciiLower s, none) := by
  obtain ⟨t, rfl, hl⟩ := exists_bv s
  rw [code_parseBech32 E t (by rw [hl]; exact hs)] at hparse
  cases hm : parseBech32 t with
  | error e =>
    rw [hm] at hparse
    cases e <;> simp [encParse, Iota.Tie.AddressCode.encParseErr, Go.errQualOpt, Iota.Tie.Bech32ApiCode.encErr] at hparse
  | ok r =>
    obtain ⟨q, addr⟩ := r
    rw [hm] at hparse
    simp only [encParse, Option.some.injEq, Prod.mk.injEq] at hparse
    obtain ⟨hp, ha, _⟩ := hparse
    obtain ⟨hq, _, hlen, hre⟩ := Props.C19.parse_strict t q addr hm
    obtain ⟨hk3, hkl⟩ := tag_lt addr.kind
    refine ⟨kindTag addr.kind, bv addr.hash, ha.symm, ?_, hk3, ?_, ?_⟩
    · rw [← hp, BitVec.toNat_ofNat, Nat.mod_eq_of_lt (by omega)]; exact hq
    · rw [bv_length, hlen, hkl]
    · have := code_bech32 E q hq addr hlen
      rw [hre] at this
      rw [← hp, asciiLower_bv]
      exact this

/-- **no panic**: the generated `ParseBech32` returns (a prefix and an address, or an error) for every string -/
theorem parse_never_panics_code (E : Externs) (s : List (BitVec 8)) (hs : s.length < 2 ^ 63) :
    address.ParseBech32 decTable E.lastIndex E.toLower E.toUpper s ≠ none := by
  obtain ⟨t, rfl, hl⟩ := exists_bv s
  exact code_parseBech32_never_panics E t (hl ▸ hs)

end Iota.Tie.E2E.Address
