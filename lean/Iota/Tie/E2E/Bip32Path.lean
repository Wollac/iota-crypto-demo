/-
END-TO-END theorems for pkg/bip32path: the C10 properties (`Iota/Props/C10.lean`: the printed form of a path parses back
to it, `ParsePath` succeeds exactly on the grammar of `Iota/Spec/Bip32Path.lean`, the indices are the decimal values of the
components plus 2^31 when marked) stated about the GENERATED `Gen.Bip32Path.code.ParsePath` / `code.Path_String`
(`Iota/Gen/Bip32Path.lean`, regenerated from path.go on every run), obtained by combining the code tie
`Tie.Bip32PathCode.ParsePath_enc` / `Path_String_eq` (generated code = hand-written model, for all inputs) with the property
theorems about the model.

The main theorems (the ones with a bold doc comment) mention the two generated functions — abbreviated `Parse E` and
`Print` —, the library functions `E : Externs` (`keyReg.FindStringSubmatch` and `strconv.ParseUint` as ASSUMED in
`Tie.Bip32PathCode.Externs`), `bv` (the bijection `List UInt8 ≃ List (BitVec 8)` between the byte type of the
specification and the one of the translated code) and the notions of the specification: `Grammar`, `Comp`, `joinSlash`.
None mentions the model's `parsePath` / `printPath`; only the inversion lemmas of the first section do.  A result `none`
would be a Go run-time panic (there is none: `parse_never_panics_code`), `some (q, none)` is the path `q` and a nil error,
`some ([], some e)` is a nil path and the error `e`.  No theorem needs a bound on the length of the string.
-/
import Iota.Props.C10
import Iota.Tie.Bip32PathCode

namespace Iota.Tie.E2E.Bip32Path
open Iota
open Iota.Bip32Path (Str chM chSlash)
open Iota.Spec.Bip32Path (Grammar Comp joinSlash)
open Iota.Tie.Bech32Code (bv)
open Iota.Tie.Bip32PathCode (Externs ParsePath_of_some ParsePath_of_none Path_String_eq)

/-! ### the two functions the statements are about -/

/-- the generated `bip32path.ParsePath(s)` with the library functions as assumed in `E`; `none` = panic, otherwise
`some (path, error)` -/
abbrev Parse (E : Externs) (s : List (BitVec 8)) : Option (List (BitVec 32) × Option String) :=
  Gen.Bip32Path.code.ParsePath E.findStringSubmatch E.parseUint s

/-- the generated `Path.String()` -/
abbrev Print (q : List (BitVec 32)) : List (BitVec 8) := Gen.Bip32Path.code.Path_String q

/-! ### inversion of the tie (the only place where the model functions occur) -/

theorem map_toNat_ofNat (p : List Nat) (hp : ∀ i ∈ p, i < 2 ^ 32) : (p.map (BitVec.ofNat 32)).map BitVec.toNat = p := by
  rw [List.map_map]
  exact (List.map_congr_left fun i hi => (BitVec.toNat_ofNat ..).trans (Nat.mod_eq_of_lt (hp i hi))).trans (List.map_id p)

theorem map_ofNat_toNat (q : List (BitVec 32)) : (q.map BitVec.toNat).map (BitVec.ofNat 32) = q := by
  rw [List.map_map]
  exact (List.map_congr_left fun x _ => (BitVec.ofNat_toNat 32 x).trans (BitVec.setWidth_eq x)).trans (List.map_id q)

theorem toNat_lt (q : List (BitVec 32)) : ∀ i ∈ q.map BitVec.toNat, i < 2 ^ 32 := by
  intro i hi
  obtain ⟨x, _, rfl⟩ := List.mem_map.mp hi
  exact x.isLt

theorem Parse_of_some (E : Externs) {s : Str} {p : List Nat} (h : Bip32Path.parsePath s = some p) :
    Parse E (bv s) = some (p.map (BitVec.ofNat 32), none) :=
  ParsePath_of_some E h

theorem Parse_of_none (E : Externs) {s : Str} (h : Bip32Path.parsePath s = none) :
    ∃ e, Parse E (bv s) = some ([], some e) :=
  ⟨_, ParsePath_of_none E h⟩

theorem Parse_ok_inv (E : Externs) {s : Str} {q : List (BitVec 32)} (h : Parse E (bv s) = some (q, none)) :
    Bip32Path.parsePath s = some (q.map BitVec.toNat) := by
  cases hp : Bip32Path.parsePath s with
  | none =>
    obtain ⟨e, he⟩ := Parse_of_none E hp
    rw [he] at h
    cases h
  | some p =>
    rw [Parse_of_some E hp] at h
    have hq : p.map (BitVec.ofNat 32) = q := by
      have := Option.some.inj h
      exact congrArg Prod.fst this
    rw [← hq, map_toNat_ofNat p (Props.C10.parsed_indices_32bit s p hp)]

theorem Print_eq (q : List (BitVec 32)) : Print q = bv (Bip32Path.printPath (q.map BitVec.toNat)) := by
  have := Path_String_eq (q.map BitVec.toNat) (toNat_lt q)
  rw [map_ofNat_toNat] at this
  exact this

/-! ### the end-to-end theorems -/

/-- **Round trip: for every list of 32-bit indices, the generated `ParsePath` applied to the string the generated
`Path.String` prints returns exactly that list, and no error.** -/
theorem parse_print_code (E : Externs) (q : List (BitVec 32)) : Parse E (Print q) = some (q, none) := by
  rw [Print_eq, Parse_of_some E (Props.C10.parse_print _ (toNat_lt q)), map_ofNat_toNat]

/-- **`Path.String` is injective**: two paths that print the same string are equal. -/
theorem print_injective_code (q q' : List (BitVec 32)) (h : Print q = Print q') : q = q' := by
  have E := Bip32PathCode.Externs.model
  have h1 := parse_print_code E q
  rw [h, parse_print_code E q'] at h1
  exact (congrArg Prod.fst (Option.some.inj h1)).symm

/-- **The generated `ParsePath` returns the path `q` and no error exactly for the strings of the grammar** — `""`, `"m"`,
or an optional `"m/"` followed by '/'-separated components `digit+ [H']?` whose digits are worth less than 2^31 — **and
then `q` is the list of the values of the components, 2^31 added for a marked one.** -/
theorem parse_iff_grammar_code (E : Externs) (s : Str) (q : List (BitVec 32)) :
    Parse E (bv s) = some (q, none) ↔ Grammar s (q.map BitVec.toNat) := by
  constructor
  · intro h
    exact (Props.C10.parse_iff_grammar s _).mp (Parse_ok_inv E h)
  · intro h
    have := Parse_of_some E ((Props.C10.parse_iff_grammar s _).mpr h)
    rw [map_ofNat_toNat] at this
    exact this

/-- **Every string is either accepted — with a path the grammar assigns to it — or rejected with an error and a nil path;
it is rejected exactly when the grammar assigns no path to it.**  (Never a panic, never a path together with an error.) -/
theorem parse_outcome_code (E : Externs) (s : Str) :
    (∃ q, Parse E (bv s) = some (q, none) ∧ Grammar s (q.map BitVec.toNat)) ∨
    ((∃ e, Parse E (bv s) = some ([], some e)) ∧ ∀ p, ¬ Grammar s p) := by
  cases hp : Bip32Path.parsePath s with
  | some p =>
    have h := Parse_of_some E hp
    exact Or.inl ⟨_, h, (parse_iff_grammar_code E s _).mp h⟩
  | none =>
    refine Or.inr ⟨Parse_of_none E hp, fun p hg => ?_⟩
    rw [(Props.C10.parse_iff_grammar s p).mpr hg] at hp
    cases hp

theorem parse_succeeds_iff_code (E : Externs) (s : Str) :
    (∃ q, Parse E (bv s) = some (q, none)) ↔ ∃ p, Grammar s p := by
  constructor
  · rintro ⟨q, h⟩
    exact ⟨_, (parse_iff_grammar_code E s q).mp h⟩
  · rintro ⟨p, hg⟩
    rcases parse_outcome_code E s with ⟨q, h, _⟩ | ⟨_, hn⟩
    · exact ⟨q, h⟩
    · exact absurd hg (hn p)

/-- the components behind a path of the grammar -/
theorem grammar_comps {s : Str} {p : List Nat} (h : Grammar s p) :
    ∃ cs : List Comp, (∀ c ∈ cs, c.WF) ∧ p = cs.map Comp.index ∧
      (s = [] ∨ s = [chM] ∨ s = joinSlash (cs.map Comp.text) ∨ s = chM :: chSlash :: joinSlash (cs.map Comp.text)) := by
  cases h with
  | empty => exact ⟨[], by simp, rfl, Or.inl rfl⟩
  | m => exact ⟨[], by simp, rfl, Or.inr (Or.inl rfl)⟩
  | bare cs _ hwf => exact ⟨cs, hwf, rfl, Or.inr (Or.inr (Or.inl rfl))⟩
  | rooted cs _ hwf => exact ⟨cs, hwf, rfl, Or.inr (Or.inr (Or.inr rfl))⟩

theorem comp_index_lt (c : Comp) (h : c.WF) : c.index < 2 ^ 32 := by
  have := h.2.2.1
  unfold Comp.index
  split <;> omega

/-- **The indices the generated `ParsePath` returns are, AS NUMBERS, the decimal values of the digits of the components,
plus 2^31 for a component marked `H` or `'`** — nothing is lost in `uint32(n)` or changed by `v |= hardened` —, **and
the top bit of an index is set exactly for a marked component.** -/
theorem parsed_indices_code (E : Externs) (s : Str) (q : List (BitVec 32)) (h : Parse E (bv s) = some (q, none)) :
    ∃ cs : List Comp, (∀ c ∈ cs, c.WF) ∧
      (s = [] ∨ s = [chM] ∨ s = joinSlash (cs.map Comp.text) ∨ s = chM :: chSlash :: joinSlash (cs.map Comp.text)) ∧
      q.map BitVec.toNat = cs.map Comp.index ∧
      q.map BitVec.msb = cs.map (fun c => c.marker.isSome) := by
  obtain ⟨cs, hwf, hp, hs⟩ := grammar_comps ((parse_iff_grammar_code E s q).mp h)
  refine ⟨cs, hwf, hs, hp, ?_⟩
  have hq : q = cs.map (fun c => BitVec.ofNat 32 c.index) := by
    rw [← map_ofNat_toNat q, hp, List.map_map]; rfl
  rw [hq, List.map_map]
  apply List.map_congr_left
  intro c hc
  have hd := (hwf c hc).2.2.1
  simp only [Function.comp, BitVec.msb_eq_decide, BitVec.toNat_ofNat, Nat.mod_eq_of_lt (comp_index_lt c (hwf c hc))]
  unfold Comp.index
  cases c.marker with
  | none => simp; omega
  | some m => simp

/-- **The generated `ParsePath` never panics** (for any string; `Tie.C10.code_parsePath_never_panics`: not even for
library functions that misbehave). -/
theorem parse_never_panics_code (E : Externs) (s : List (BitVec 8)) : Parse E s ≠ none :=
  Bip32PathCode.ParsePath_never_panics_any _ _ s

/-! ### the statements are not vacuous -/

-- "m/44'/0H/010" is accepted with [44 + 2^31, 2^31, 10]: the string is in the grammar
example : Grammar [109,47,52,52,39,47,48,72,47,48,49,48] ([2147483692#32, 2147483648#32, 10#32].map BitVec.toNat) :=
  (parse_iff_grammar_code Bip32PathCode.Externs.model _ _).mp (by decide +kernel)
-- "m/2147483648" is in no way in the grammar
example : ∀ p, ¬ Grammar [109,47,50,49,52,55,52,56,51,54,52,56] p := by
  rcases parse_outcome_code Bip32PathCode.Externs.model [109,47,50,49,52,55,52,56,51,54,52,56] with ⟨q, h, _⟩ | ⟨_, hn⟩
  · have h2 : Parse Bip32PathCode.Externs.model (bv [109,47,50,49,52,55,52,56,51,54,52,56]) = some ([], some "ErrRange") := by
      decide +kernel
    rw [h2] at h
    cases h
  · exact hn

end Iota.Tie.E2E.Bip32Path
