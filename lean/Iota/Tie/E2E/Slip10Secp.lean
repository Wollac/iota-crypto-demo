/-
END-TO-END theorem for C08 on secp256k1, with NO model function and NO curve assumption in the statement: the GENERATED
`PrivateKey.Shift` / `PublicKey.Shift` of pkg/slip10/elliptic/key.go (`Iota/Gen/EllipticKeyCode.lean`), with the
curve methods `ScalarBaseMult` and `Add` instantiated by the GENERATED secp256k1 code (`Iota/Gen/Secp256k1Code.lean`),
commute: for every private scalar 0 < k < N and every shift byte string, either both report ErrInvalidKey —
exactly when the shift is ≥ N or k + shift ≡ 0 (mod N) — or both succeed, and then the public key of the shifted private
key ([k']G computed by the generated `ScalarBaseMult`) is the shifted public key.

Obtained from: the code ties (`Tie/EllipticKeyCode`, `Tie/C17`), the C17 theorems (the generated curve code computes
Mathlib's group law), `Proofs/Secp/Slip10Instance` (`secpW`, `shift_commutes_secp256k1`: N prime, ord(G) = N).  The only
library assumption is the documented behaviour of `(*big.Int).ModInverse` (`ExternsSpec inv`).
-/
import Iota.Proofs.Secp.Slip10Instance
import Iota.Tie.EllipticKeyCode
import Iota.Tie.C17

namespace Iota.Tie.E2E.Slip10Secp
open Iota Iota.Secp256k1 Iota.Proofs.Secp WeierstrassCurve.Affine
open Iota.Gen.Secp256k1Code.btccurve
open Iota.Gen.EllipticKeyCode
open Iota.Tie.Bech32Code (bv)
open Iota.Tie.SecpCode (ExternsSpec)
open Iota.Slip10 (Bytes WKey wCurve)

/-- the curve methods as the generated key code receives them: the generated secp256k1 functions -/
def sbmGen (inv : Int → Int → Option Int) : List (BitVec 8) → Option (Int × Int) :=
  fun k => koblitzCurve_ScalarBaseMult inv P Gx Gy k
def addGen (inv : Int → Int → Option Int) : Int → Int → Int → Int → Option (Int × Int) :=
  fun x1 y1 x2 y2 => koblitzCurve_Add inv P x1 y1 x2 y2

/-- a result that denotes the point `Q` is `Q` in canonical coordinates -/
theorem ofPoint_of_toPoint {r : Option (Int × Int)} {Q : Curve.Point}
    (h : ∃ x y, r = some (x, y) ∧ toPoint (x, y) = some Q) : r = some (ofPoint Q) := by
  obtain ⟨x, y, hr, hQ⟩ := h
  have := toPoint_inj (x := (ofPoint Q).1) (y := (ofPoint Q).2) (toPoint_ofPoint Q) hQ
  rw [hr, ← this.1, ← this.2]

/-- **the assumption of the key-code tie is a THEOREM for secp256k1**: the generated `ScalarBaseMult` and `Add` compute, in
canonical affine coordinates, the operations of the curve the C08 statement is about -/
theorem externs_secp {inv : Int → Int → Option Int} (S : ExternsSpec inv) :
    EllipticKeyCode.Externs secpW ofPoint (sbmGen inv) (addGen inv) where
  sbm_eq := by
    intro b
    rw [secpW_baseMul, ← beNat_eq]
    exact (C17.code_scalarBaseMult S.toExterns b).trans (ofPoint_of_toPoint (scalarBaseMult_correct b))
  add_eq := by
    intro p q
    rw [secpW_add]
    exact (C17.code_add S.toExterns _ _ _ _).trans
      (ofPoint_of_toPoint (add_correct (toPoint_ofPoint p) (toPoint_ofPoint q)))
  inf_eq := by
    intro p
    show decide (ofPoint p = (0, 0)) = _
    congr 1
    exact propext Prod.ext_iff

theorem N_pos : 0 < secpW.n := by rw [secpW_n]; decide

/-- **C08 for secp256k1 on generated code only.**  `r` / `r'` are the results of the generated `PrivateKey.Shift` (key
scalar k) and `PublicKey.Shift` (key point [k]G in the coordinates `ofPoint`, which by `externs_secp` are what the generated
`ScalarBaseMult` returns for every byte string of value k).  Neither panics; both report `slip10.ErrInvalidKey` exactly when
`shift ≥ N ∨ (shift + k) % N = 0`; otherwise the private result is the scalar `k' = (shift + k) % N` and the public result is
the point the generated `ScalarBaseMult` returns for any byte string of value `k'`. -/
theorem shift_commutes_code {inv : Int → Int → Option Int} (S : ExternsSpec inv) (hk : Bytes)
    (k : Nat) (hk0 : 0 < k) (hkn : k < N.toNat) (buf : Bytes) :
    ∃ (r : Except Slip10.KeyErr (WKey Curve.Point)) (r' : Except Slip10.KeyErr (WKey Curve.Point)),
      key.PrivateKey_Shift (N.toNat : Int) (k : Int) (bv buf) = some (EllipticKeyCode.encKey ofPoint r) ∧
      key.PublicKey_Shift (addGen inv) (N.toNat : Int) (sbmGen inv) (ofPoint (k • G Fp)).1 (ofPoint (k • G Fp)).2 (bv buf) =
        some (EllipticKeyCode.encKey ofPoint r') ∧
      ((Slip10.beNat buf ≥ N.toNat ∨ (Slip10.beNat buf + k) % N.toNat = 0) →
        r = .error .invalidKey ∧ r' = .error .invalidKey) ∧
      (¬ (Slip10.beNat buf ≥ N.toNat ∨ (Slip10.beNat buf + k) % N.toNat = 0) →
        ∃ k', r = .ok (.priv k') ∧ r' = .ok (.pub (k' • G Fp)) ∧ 0 < k' ∧ k' < N.toNat ∧
          k' = (Slip10.beNat buf + k) % N.toNat) := by
  have hpub : ∀ j, j < N.toNat → (wCurve secpW hk).pub (.priv j) = .pub (j • G Fp) := fun j hj =>
    Proofs.Slip10Shift.pub_priv secpW (G Fp) secpW_lawful hk j (Nat.lt_trans hj secpW_n_lt)
  refine ⟨(wCurve secpW hk).shift (.priv k) buf, (wCurve secpW hk).shift (.pub (k • G Fp)) buf,
    EllipticKeyCode.code_privateShift secpW hk ofPoint N_pos k buf,
    EllipticKeyCode.code_publicShift secpW hk ofPoint (externs_secp S) (k • G Fp) buf, ?_, ?_⟩
  · intro h
    have := (shift_commutes_secp256k1 hk k hk0 hkn buf).1 h
    rwa [hpub k hkn] at this
  · intro h
    obtain ⟨k', q, h1, h2, h3, h4, h5⟩ := (shift_commutes_secp256k1 hk k hk0 hkn buf).2 h
    rw [hpub k hkn] at h2
    rw [hpub k' h4] at h5
    have hs : (wCurve secpW hk).shift (.priv k) buf = .ok (.priv ((Slip10.beNat buf + k) % N.toNat)) :=
      (if_neg (not_or.mp h).1).trans (if_neg (not_or.mp h).2)
    exact ⟨k', h1, by rw [h2, WKey.pub.inj h5], h3, h4, (WKey.priv.inj (Except.ok.inj (hs.symm.trans h1))).symm⟩

end Iota.Tie.E2E.Slip10Secp
