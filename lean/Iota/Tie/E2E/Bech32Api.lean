/-
END-TO-END theorems for the public functions of pkg/bech32: properties of the GENERATED `api.Encode` / `api.Decode`
(`Iota/Gen/Bech32.lean`, regenerated from bech32.go on every run), obtained by combining the code ties
`Tie.Bech32.code_encode` / `code_decode` (generated code = hand-written model, for all byte strings below the length
bounds) with the property theorems about the model (C04, C05, C16).

The main theorems (the ones with a bold doc comment) are statements about `Enc` and `Dec` only — two abbreviations of
the generated functions applied to the tables the generated `newEncoding` builds and to library functions `E : Externs`
— plus `bv` (the bijection `List UInt8 ≃ List (BitVec 8)` between the byte type of the statements and the one of the
translated code), the list function `Bech32.lower` (ASCII lower-casing), the precondition `EncPre` and, for C16, the
substitution relations of `Props.C16`.  None mentions the model's `Bech32.encode` / `Bech32.decode`; only the
inversion lemmas of the first section do.  `none` is a Go run-time panic; an error is
`some (name of the error variable, offset of a *SyntaxError)`.

The length bounds (`< 2^63`, `< 2^62`, `< 2^60`) are the ones of the ties (Go `int` is 64 bits; at 2^60 payload bytes
`EncodedLen` wraps around and `make` panics — `Tie.Bech32ApiCode.encode_panics_at_2_60`).
-/
import Iota.Tie.E2E.Bech32

namespace Iota.Tie.E2E.Bech32Api
open Iota
open Iota.Tie.Bech32Code (bv bv_inj)
open Iota.Tie.Bech32CharsCode (encTable decTable)
open Iota.Tie.Bech32ApiCode (Externs encErr kindName)
open Iota.Proofs.Bech32 (EncPre)
open Iota.Proofs.Bech32Errors (Forall2 HrpSub DataSub forall2_length)
open Iota.Proofs.BCH (hamming)

/-! ### the two functions the statements are about -/

/-- the generated `bech32.Encode(hrp, src)`: `Gen.Bech32.api.Encode` applied to the encoding table of the package
variable `charset` (`encTable`, what the generated `newEncoding` returns), to `strings.ToLower` / `strings.ToUpper` as
assumed in `E`, and to the two byte strings coerced to the code's byte type.  Result: `none` = panic, otherwise
`some (string, error)`. -/
abbrev Enc (E : Externs) (hrp src : List UInt8) :
    Option (List (BitVec 8) × Option (String × Option (BitVec 64))) :=
  Gen.Bech32.api.Encode encTable E.toLower E.toUpper (bv hrp) (bv src)

/-- the generated `bech32.Decode(s)`: `Gen.Bech32.api.Decode` applied to the decoding table of the package variable
`charset` (`decTable`), to `strings.LastIndex` / `ToLower` / `ToUpper` as assumed in `E`, and to the byte string
coerced to the code's byte type.  Result: `none` = panic, otherwise `some (hrp, data, error)`. -/
abbrev Dec (E : Externs) (s : List UInt8) :
    Option (List (BitVec 8) × List (BitVec 8) × Option (String × Option (BitVec 64))) :=
  Gen.Bech32.api.Decode decTable E.lastIndex E.toLower E.toUpper (bv s)

/-! ### inversion of the ties (the only place where the model functions occur) -/

theorem Enc_eq (E : Externs) (hrp src : List UInt8) (hh : hrp.length < 2 ^ 62) (hs : src.length < 2 ^ 60) :
    Enc E hrp src = some (match Bech32.encode hrp src with
      | .ok r => (bv r, none)
      | .error e => ([], encErr e)) := (Tie.Bech32.code_encode E hrp src hh hs).1

theorem Dec_eq (E : Externs) (s : List UInt8) (hlen : s.length < 2 ^ 63) :
    Dec E s = some (match Bech32.decode s with
      | .ok (hrp, d) => (bv hrp, bv d, none)
      | .error e => ([], [], encErr e)) := (Tie.Bech32.code_decode E s hlen).1

theorem Enc_of_ok (E : Externs) {hrp src r : List UInt8} (hh : hrp.length < 2 ^ 62) (hs : src.length < 2 ^ 60)
    (h : Bech32.encode hrp src = .ok r) : Enc E hrp src = some (bv r, none) := by
  rw [Enc_eq E hrp src hh hs, h]

theorem Enc_of_error (E : Externs) {hrp src : List UInt8} {e : Bech32.Err} (hh : hrp.length < 2 ^ 62)
    (hs : src.length < 2 ^ 60) (h : Bech32.encode hrp src = .error e) :
    Enc E hrp src = some ([], some (kindName e.1, e.2.map (BitVec.ofNat 64))) := by
  rw [Enc_eq E hrp src hh hs, h]; rfl

theorem Dec_of_ok (E : Externs) {s hrp d : List UInt8} (hlen : s.length < 2 ^ 63)
    (h : Bech32.decode s = .ok (hrp, d)) : Dec E s = some (bv hrp, bv d, none) := by
  rw [Dec_eq E s hlen, h]

theorem Dec_of_error (E : Externs) {s : List UInt8} {e : Bech32.Err} (hlen : s.length < 2 ^ 63)
    (h : Bech32.decode s = .error e) :
    Dec E s = some ([], [], some (kindName e.1, e.2.map (BitVec.ofNat 64))) := by
  rw [Dec_eq E s hlen, h]; rfl

/-- a successful run of the generated `Encode` is a successful run of the model -/
theorem Enc_ok_inv (E : Externs) {hrp src : List UInt8} {r' : List (BitVec 8)} (hh : hrp.length < 2 ^ 62)
    (hs : src.length < 2 ^ 60) (h : Enc E hrp src = some (r', none)) :
    ∃ r, r' = bv r ∧ Bech32.encode hrp src = .ok r := by
  rw [Enc_eq E hrp src hh hs] at h
  cases hm : Bech32.encode hrp src with
  | ok r =>
    rw [hm] at h
    exact ⟨r, (congrArg Prod.fst (Option.some.inj h)).symm, rfl⟩
  | error e =>
    rw [hm] at h
    exact nomatch congrArg Prod.snd (Option.some.inj h)

/-- a successful run of the generated `Decode` is a successful run of the model -/
theorem Dec_ok_inv (E : Externs) {s : List UInt8} {hrp' data' : List (BitVec 8)} (hlen : s.length < 2 ^ 63)
    (h : Dec E s = some (hrp', data', none)) :
    ∃ hrp data, hrp' = bv hrp ∧ data' = bv data ∧ Bech32.decode s = .ok (hrp, data) := by
  rw [Dec_eq E s hlen] at h
  cases hm : Bech32.decode s with
  | ok r =>
    obtain ⟨hrp, d⟩ := r
    rw [hm] at h
    have h := Option.some.inj h
    exact ⟨hrp, d, (congrArg Prod.fst h).symm, (congrArg (fun x => x.2.1) h).symm, rfl⟩
  | error e =>
    rw [hm] at h
    exact nomatch congrArg (fun x => x.2.2) (Option.some.inj h)

/-- an error with an offset returned by the generated `Decode` is that error of the model -/
theorem Dec_off_inv (E : Externs) {s : List UInt8} {a b : List (BitVec 8)} {kind : String} {off : BitVec 64}
    (hlen : s.length < 2 ^ 63) (h : Dec E s = some (a, b, some (kind, some off))) :
    ∃ k o, Bech32.decode s = .error (k, some o) ∧ off = BitVec.ofNat 64 o := by
  rw [Dec_eq E s hlen] at h
  cases hm : Bech32.decode s with
  | ok r =>
    obtain ⟨hrp, d⟩ := r
    rw [hm] at h
    exact nomatch congrArg (fun x => x.2.2) (Option.some.inj h)
  | error e =>
    obtain ⟨k, o⟩ := e
    rw [hm] at h
    have h3 : encErr (k, o) = some (kind, some off) := congrArg (fun x => x.2.2) (Option.some.inj h)
    cases o with
    | none => exact nomatch congrArg Prod.snd (Option.some.inj h3)
    | some o =>
      exact ⟨k, o, rfl, (Option.some.inj (congrArg Prod.snd (Option.some.inj h3))).symm⟩

/-- an accepted string has at most 90 bytes -/
theorem ok_length {s hrp data : List UInt8} (h : Bech32.decode s = .ok (hrp, data)) : s.length ≤ 90 :=
  ((Props.C04.decode_ok_iff_valid s hrp data).mp h).len

/-! ### 4. no panic -/

/-- **the generated `Decode` never panics**: on every byte string (ASCII or not, valid UTF-8 or not) shorter than 2^63
it returns a result or an error. -/
theorem decode_never_panics_code (E : Externs) (s : List UInt8) (hlen : s.length < 2 ^ 63) : Dec E s ≠ none :=
  (Tie.Bech32.code_decode E s hlen).2

/-- **the generated `Encode` never panics**: for every prefix shorter than 2^62 and every payload shorter than 2^60 it
returns a string or an error. -/
theorem encode_never_panics_code (E : Externs) (hrp src : List UInt8) (hh : hrp.length < 2 ^ 62)
    (hs : src.length < 2 ^ 60) : Enc E hrp src ≠ none :=
  (Tie.Bech32.code_encode E hrp src hh hs).2

/-! ### 1. `Decode` inverts `Encode` (C05) -/

/-- **decoding what the code encoded returns the lower-cased prefix and the same bytes** (transport of
`Props.C05.decode_encode`): if the generated `Encode(hrp, src)` succeeded with the string `r'` (error `nil`), then
`r'` is (the coercion of) a byte string `r` of at most 90 bytes and the generated `Decode(r)` returns
`(ToLower(hrp), src, nil)`. -/
theorem decode_encode_code (E : Externs) (hrp src : List UInt8) (hh : hrp.length < 2 ^ 62) (hs : src.length < 2 ^ 60)
    (r' : List (BitVec 8)) (h : Enc E hrp src = some (r', none)) :
    ∃ r : List UInt8, r' = bv r ∧ r.length ≤ 90 ∧ Dec E r = some (bv (Bech32.lower hrp), bv src, none) := by
  obtain ⟨r, rfl, hm⟩ := Enc_ok_inv E hh hs h
  have hd := Props.C05.decode_encode hrp src r hm
  have hl := ok_length hd
  exact ⟨r, rfl, hl, Dec_of_ok E (by omega) hd⟩

/-- the same without the intermediate byte string: the generated `Decode` applied to the very list the generated
`Encode` returned. -/
theorem decode_encode_code' (E : Externs) (hrp src : List UInt8) (hh : hrp.length < 2 ^ 62) (hs : src.length < 2 ^ 60)
    (r' : List (BitVec 8)) (h : Enc E hrp src = some (r', none)) :
    Gen.Bech32.api.Decode decTable E.lastIndex E.toLower E.toUpper r' =
      some (bv (Bech32.lower hrp), bv src, none) := by
  obtain ⟨r, rfl, _, hd⟩ := decode_encode_code E hrp src hh hs r' h
  exact hd

/-! ### 2. when `Encode` succeeds (C05) -/

/-- the precondition `EncPre`, written out: prefix, data symbols (⌈8·len(src)/5⌉), separator and six checksum symbols
fit in 90 characters; the prefix is not empty, consists of bytes 33…126 and does not contain both an upper-case and a
lower-case ASCII letter. -/
theorem encPre_iff (hrp src : List UInt8) :
    EncPre hrp src ↔
      hrp.length + (8 * src.length + 4) / 5 + 7 ≤ 90 ∧ hrp ≠ [] ∧ (∀ c ∈ hrp, 33 ≤ c.toNat ∧ c.toNat ≤ 126) ∧
      ¬ ((∃ c ∈ hrp, Bech32.isUpperAscii c = true) ∧ (∃ c ∈ hrp, Bech32.isLowerAscii c = true)) := Iff.rfl

/-- **the generated `Encode` succeeds exactly under the precondition, and otherwise returns an error — never a panic**
(transport of `Props.C05.encode_ok_iff` / `encode_error_otherwise`): it returns a string with error `nil` iff
`EncPre hrp src` (non-empty single-case prefix of bytes 33…126, total length ≤ 90, see `encPre_iff`); if the
precondition fails it returns the empty string and a non-`nil` error. -/
theorem encode_total_code (E : Externs) (hrp src : List UInt8) (hh : hrp.length < 2 ^ 62) (hs : src.length < 2 ^ 60) :
    ((∃ r : List UInt8, Enc E hrp src = some (bv r, none)) ↔ EncPre hrp src) ∧
    (¬ EncPre hrp src → ∃ err, Enc E hrp src = some ([], some err)) ∧
    Enc E hrp src ≠ none := by
  refine ⟨⟨?_, ?_⟩, ?_, encode_never_panics_code E hrp src hh hs⟩
  · rintro ⟨r, h⟩
    obtain ⟨r₀, _, hm⟩ := Enc_ok_inv E hh hs h
    exact ((Props.C05.encode_ok_iff hrp src r₀).mp hm).1
  · intro hp
    exact ⟨_, Enc_of_ok E hh hs ((Props.C05.encode_ok_iff hrp src _).mpr ⟨hp, rfl⟩)⟩
  · intro hp
    obtain ⟨e, he⟩ := Props.C05.encode_error_otherwise hrp src hp
    exact ⟨_, Enc_of_error E hh hs he⟩

/-- every result of the generated `Encode` is of one of the two forms: `(string, nil)` or `("", error)` -/
theorem encode_result_shape (E : Externs) (hrp src : List UInt8) (hh : hrp.length < 2 ^ 62) (hs : src.length < 2 ^ 60) :
    (∃ r : List UInt8, Enc E hrp src = some (bv r, none)) ∨ (∃ err, Enc E hrp src = some ([], some err)) := by
  by_cases hp : EncPre hrp src
  · exact Or.inl ((encode_total_code E hrp src hh hs).1.mpr hp)
  · exact Or.inr ((encode_total_code E hrp src hh hs).2.1 hp)

/-! ### 3. accepted strings are the code's own encodings (C04) -/

/-- **every accepted string is, up to ASCII case, the code's own encoding of what was decoded** (transport of
`Props.C04.accepted_reencodes`): if the generated `Decode(s)` returns `(hrp', data', nil)`, then `hrp'`, `data'` are
(the coercions of) byte strings `hrp`, `data` and the generated `Encode(hrp, data)` returns the lower-case form of
`s` with error `nil`. -/
theorem accepted_reencodes_code (E : Externs) (s : List UInt8) (hlen : s.length < 2 ^ 63)
    (hrp' data' : List (BitVec 8)) (h : Dec E s = some (hrp', data', none)) :
    ∃ hrp data : List UInt8, hrp' = bv hrp ∧ data' = bv data ∧
      Enc E hrp data = some (bv (Bech32.lower s), none) := by
  obtain ⟨hrp, data, rfl, rfl, hm⟩ := Dec_ok_inv E hlen h
  have he := Props.C04.accepted_reencodes s hrp data hm
  have hl := ok_length hm
  -- the lengths of the decoded parts are bounded by the successful re-encoding
  have hp := ((Props.C05.encode_ok_iff hrp data _).mp he).1.1
  have hd : data.length < 2 ^ 60 := by unfold Spec.Bip173.symCount at hp; omega
  exact ⟨hrp, data, rfl, rfl, Enc_of_ok E (by omega) hd he⟩

/-- **one accepted spelling up to ASCII case** (transport of `Props.C04.unique_spelling`): two strings for which the
generated `Decode` returns the same prefix and the same data (error `nil`) have the same lower-case form. -/
theorem unique_spelling_code (E : Externs) (s s' : List UInt8) (hlen : s.length < 2 ^ 63) (hlen' : s'.length < 2 ^ 63)
    (hrp' data' : List (BitVec 8))
    (h : Dec E s = some (hrp', data', none)) (h' : Dec E s' = some (hrp', data', none)) :
    Bech32.lower s = Bech32.lower s' := by
  obtain ⟨hrp, data, rfl, rfl, hm⟩ := Dec_ok_inv E hlen h
  obtain ⟨hrp₂, data₂, e1, e2, hm'⟩ := Dec_ok_inv E hlen' h'
  rw [← bv_inj e1, ← bv_inj e2] at hm'
  exact Props.C04.unique_spelling s s' hrp data hm hm'

/-! ### 5. error offsets (C04) -/

/-- **an error position reported by the generated `Decode` lies inside the input** (transport of
`Props.C04.error_offset_in_input`): if the result is an error carrying an offset (a `*SyntaxError`), the offset, read
as an unsigned 64-bit number, is smaller than `len(s)` (in particular it is not negative as a Go `int`). -/
theorem error_offset_in_input_code (E : Externs) (s : List UInt8) (hlen : s.length < 2 ^ 63)
    (kind : String) (off : BitVec 64) (h : Dec E s = some ([], [], some (kind, some off))) :
    off.toNat < s.length := by
  obtain ⟨k, o, hm, rfl⟩ := Dec_off_inv E hlen h
  have := Props.C04.error_offset_in_input s k o hm
  rw [BitVec.toNat_ofNat, Nat.mod_eq_of_lt (by omega)]
  exact this

/-- the same for any returned strings (the generated `Decode` returns empty ones with an error, but the statement does
not depend on it), with the signed reading of the offset -/
theorem error_offset_in_input_code' (E : Externs) (s : List UInt8) (hlen : s.length < 2 ^ 63)
    (a b : List (BitVec 8)) (kind : String) (off : BitVec 64) (h : Dec E s = some (a, b, some (kind, some off))) :
    0 ≤ off.toInt ∧ off.toInt < s.length := by
  obtain ⟨k, o, hm, rfl⟩ := Dec_off_inv E hlen h
  have := Props.C04.error_offset_in_input s k o hm
  rw [Go.toInt_ofNat_small o (by omega)]
  omega

/-! ### 6. substitution errors are rejected (C16) -/

/-- **up to four substituted characters are rejected by the generated `Decode`, with an error and not a panic**
(transport of `Props.C16.substitutions_rejected`, same hypotheses with the model's `decode … = .ok` replaced by the
generated `Decode` returning error `nil`; the only addition is the length bound of the tie on the original string —
the modified string has the same length).  If the generated `Decode` accepts `h ++ "1" ++ d` (no '1' in `d`) and
`h' ++ "1" ++ d'` is obtained by replacing data characters by charset characters of a different value and/or
letters/digits of the prefix by characters of the same kind, one to four characters in total, then the generated
`Decode` of the modified string returns empty strings and an error. -/
theorem substitutions_rejected_code (E : Externs) (h d h' d' : List UInt8)
    (hlen : (h ++ [Bech32.separator] ++ d).length < 2 ^ 63)
    (hrp' data' : List (BitVec 8))
    (hsep : Bech32.separator ∉ d)
    (hok : Dec E (h ++ [Bech32.separator] ++ d) = some (hrp', data', none))
    (hh : Forall2 HrpSub h h') (hd : Forall2 DataSub d d')
    (h1 : 1 ≤ hamming h h' + hamming d d') (h4 : hamming h h' + hamming d d' ≤ 4) :
    ∃ e, Dec E (h' ++ [Bech32.separator] ++ d') = some ([], [], some e) := by
  obtain ⟨hrp, data, _, _, hm⟩ := Dec_ok_inv E hlen hok
  obtain ⟨e, he⟩ := Props.C16.substitutions_rejected h d h' d' hrp data hsep hm hh hd h1 h4
  have hl : (h' ++ [Bech32.separator] ++ d').length < 2 ^ 63 := by
    have := forall2_length hh
    have := forall2_length hd
    simp only [List.length_append, List.length_cons, List.length_nil] at hlen ⊢
    omega
  exact ⟨_, Dec_of_error E hl he⟩

/-- the shape hypothesis of `substitutions_rejected_code` is no restriction (transport of `Props.C16.accepted_shape`):
every string the generated `Decode` accepts is `h ++ "1" ++ d` with no '1' in `d`. -/
theorem accepted_shape_code (E : Externs) (s : List UInt8) (hlen : s.length < 2 ^ 63)
    (hrp' data' : List (BitVec 8)) (hok : Dec E s = some (hrp', data', none)) :
    ∃ h d, s = h ++ [Bech32.separator] ++ d ∧ Bech32.separator ∉ d := by
  obtain ⟨hrp, data, _, _, hm⟩ := Dec_ok_inv E hlen hok
  exact Props.C16.accepted_shape s hrp data hm

/-! ### non-vacuity: the hypotheses are satisfiable — the generated functions evaluated by the kernel with the concrete
library functions `Externs.model` on BIP-173 test vectors -/

-- Encode("a", []) = "a12uel5l", Encode("A", []) = "A12UEL5L": the hypothesis of `decode_encode_code`
example : Enc Externs.model [97] [] = some (bv [97, 49, 50, 117, 101, 108, 53, 108], none) := by decide +kernel
example : Enc Externs.model [65] [] = some (bv [65, 49, 50, 85, 69, 76, 53, 76], none) := by decide +kernel
-- Decode("a12uel5l") = Decode("A12UEL5L") = ("a", [], nil): the hypotheses of `accepted_reencodes_code`,
-- `unique_spelling_code` and (as `[97] ++ "1" ++ …`) of `substitutions_rejected_code`
example : Dec Externs.model [97, 49, 50, 117, 101, 108, 53, 108] = some (bv [97], bv [], none) := by decide +kernel
example : Dec Externs.model [65, 49, 50, 85, 69, 76, 53, 76] = some (bv [97], bv [], none) := by decide +kernel
example : Dec Externs.model ([97] ++ [Bech32.separator] ++ [50, 117, 101, 108, 53, 108]) = some (bv [97], [], none) := by
  decide +kernel
-- "A12uEL5L" (mixed case): an error with an offset, the hypothesis of `error_offset_in_input_code` (3 < 8)
example : Dec Externs.model [65, 49, 50, 117, 69, 76, 53, 76] = some ([], [], some ("ErrMixedCase", some 3#64)) := by
  decide +kernel
-- a mixed-case prefix violates `EncPre`: the empty string and an error
example : Enc Externs.model [97, 66] [] = some ([], some ("ErrMixedCase", some 1#64)) := by decide +kernel
-- "a12uel5m": one substituted data character ('l' → 'm'); `substitutions_rejected_code` applies and the evaluation agrees
example : ∃ e, Dec Externs.model ([97] ++ [Bech32.separator] ++ [50, 117, 101, 108, 53, 109]) = some ([], [], some e) :=
  substitutions_rejected_code Externs.model [97] [50, 117, 101, 108, 53, 108] [97] [50, 117, 101, 108, 53, 109]
    (by decide) (bv [97]) [] (by decide) (by decide +kernel)
    (.cons (Or.inl rfl) .nil)
    (.cons (Or.inl rfl) (.cons (Or.inl rfl) (.cons (Or.inl rfl) (.cons (Or.inl rfl) (.cons (Or.inl rfl)
      (.cons (Or.inr (by decide)) .nil))))))
    (by decide) (by decide)
example : Dec Externs.model [97, 49, 50, 117, 101, 108, 53, 109] = some ([], [], some ("ErrInvalidChecksum", some 2#64)) := by
  decide +kernel
-- the round trip, as an instance of the theorem
example : Dec Externs.model [97, 49, 50, 117, 101, 108, 53, 108] = some (bv (Bech32.lower [97]), bv [], none) := by
  obtain ⟨r, hr, _, h⟩ := decode_encode_code Externs.model [97] [] (by decide) (by decide) _
    (show Enc Externs.model [97] [] = some (bv [97, 49, 50, 117, 101, 108, 53, 108], none) by decide +kernel)
  rw [← bv_inj hr] at h
  exact h

end Iota.Tie.E2E.Bech32Api
