/-
END-TO-END theorems for pkg/migration: the C19 properties of the migration address format (`Iota/Props/C19.lean`:
`Decode` of `Encode` of an address returns it, `Decode` accepts only what `Encode` produces, 81 trytes) stated about the
GENERATED `Gen.Migration.migration.Encode` / `migration.Decode` (`Iota/Gen/Migration.lean`, regenerated from migration.go and
from iota.go's `guards` and `encoding/b1t6` on every run), obtained by combining the code tie `Tie.MigrationCode.Decode_enc` /
`Encode_eq` (generated code = hand-written model, for all inputs) with the property theorems about the model.

The theorems mention only the two generated functions and the function `sum` passed for `golang.org/x/crypto/blake2b.Sum256`
(a PARAMETER of the generated code: any function with 32-byte results, as a `[32]byte` has; in fact results of at least 4
bytes suffice, `decode_encode_code_of_four`).  None mentions the model; only the proofs do (through `Hof sum`, the model hash
that describes `sum`).  A result `none` would be a Go run-time panic; `some (a, none)` is the address `a` and a nil error,
`some (zero, some e)` the zero address and the error `e`.  A string is the list of its bytes; the bound `< 2^63` on its length
is the one every Go string satisfies (`len` is an `int`).
-/
import Iota.Props.C19
import Iota.Tie.MigrationCode

namespace Iota.Tie.E2E.Migration
open Iota
open Iota.Tie.Bech32Code (bv bv_length exists_bv Hof Hof_spec Hof_length)
open Iota.Tie.MigrationCode (Decode_enc Encode_eq Decode_never_panics)
open Iota.Gen.Migration

/-- the generated `Decode` of the generated `Encode` of a 32-byte address returns that address, for every `sum` whose
results have at least the 4 bytes the checksum takes -/
theorem decode_encode_code_of_four (sum : List (BitVec 8) → List (BitVec 8)) (h4 : ∀ x, 4 ≤ (sum x).length)
    (a : List (BitVec 8)) (ha : a.length = 32) :
    ∃ s, migration.Encode sum a = some s ∧ s.length = 81 ∧ migration.Decode sum s = some (a, none) := by
  obtain ⟨a', rfl, hl⟩ := exists_bv a
  have ha' : a'.length = 32 := hl.trans ha
  have hH : ∀ x, 4 ≤ (Hof sum x).length := fun x => by rw [Hof_length]; exact h4 _
  have hs : (Migration.encode (Hof sum) a').length = 81 := Props.C19.migration_shape (Hof sum) hH a' ha'
  refine ⟨bv (Migration.encode (Hof sum) a'), Encode_eq sum (Hof sum) (Hof_spec sum) a' ha', (bv_length _).trans hs, ?_⟩
  rw [Decode_enc sum (Hof sum) (Hof_spec sum) _ (by rw [hs]; decide),
    Props.C19.migration_decode_encode (Hof sum) hH a' ha']
  rfl

/-- **round trip**: for every function `sum` with 32-byte results passed for `blake2b.Sum256` and every 32-byte address `a`,
the generated `Encode` does not panic, its result has 81 bytes, and the generated `Decode` of it returns `a` and a nil
error -/
theorem decode_encode_code (sum : List (BitVec 8) → List (BitVec 8)) (hlen : ∀ x, (sum x).length = 32)
    (a : List (BitVec 8)) (ha : a.length = 32) :
    ∃ s, migration.Encode sum a = some s ∧ s.length = 81 ∧ migration.Decode sum s = some (a, none) :=
  decode_encode_code_of_four sum (fun x => by rw [hlen x]; decide) a ha

/-- **canonical**: whatever string the generated `Decode` accepts (nil error) is the generated `Encode` of the address it
returns, which has 32 bytes; the string has 81 bytes.  For every `sum`. -/
theorem decode_canonical_code (sum : List (BitVec 8) → List (BitVec 8)) (s a : List (BitVec 8)) (hs : s.length < 2 ^ 63)
    (h : migration.Decode sum s = some (a, none)) :
    migration.Encode sum a = some s ∧ a.length = 32 ∧ s.length = 81 := by
  obtain ⟨t, rfl, hl⟩ := exists_bv s
  rw [Decode_enc sum (Hof sum) (Hof_spec sum) t (by rw [hl]; exact hs)] at h
  cases hd : Migration.decode (Hof sum) t with
  | error e => rw [hd] at h; cases h
  | ok a' =>
    rw [hd] at h
    have ha : bv a' = a := congrArg Prod.fst (Option.some.inj h)
    obtain ⟨ht, hl32⟩ := Props.C19.migration_canonical (Hof sum) t a' hd
    subst ha
    refine ⟨?_, (bv_length a').trans hl32, ?_⟩
    · rw [Encode_eq sum (Hof sum) (Hof_spec sum) a' hl32, ← ht]
    · have hg : Migration.isTrytesOfExactLength t 81 = true := by
        cases hg : Migration.isTrytesOfExactLength t 81 with
        | true => rfl
        | false => rw [MigrationCode.decode_stages, hg] at hd; cases hd
      rw [← hl]; exact (MigrationCode.isTrytesOfExactLength_true hg).1

/-- **no panic**: the generated `Decode` returns (an address or an error) for every string and every `sum` -/
theorem decode_never_panics_code (sum : List (BitVec 8) → List (BitVec 8)) (s : List (BitVec 8)) (hs : s.length < 2 ^ 63) :
    migration.Decode sum s ≠ none := by
  obtain ⟨t, rfl, hl⟩ := exists_bv s
  exact Decode_never_panics sum t (hl ▸ hs)

end Iota.Tie.E2E.Migration
