/-
The assumption `Iota.Tie.SecpCode.Externs` about the parameter `big_ModInverse` of the code translated from
btccurve/secp256k1.go, derived from the behaviour of `(*big.Int).ModInverse` as implemented (`ExternsSpec`; the Go documentation promises the inverse, the range `[0, n)` is what the implementation returns): for a modulus
`n > 0` a non-nil result is the inverse of `g` in `[0, n)`, and the result is nil only when `g` and `n` are not coprime.
Every function with that behaviour agrees with the model's `modInverse` on the modulus `P` (`ExternsSpec.toExterns`), and
`modInverse` has it for every modulus below 2^511 (`Proofs/Secp/ModInv.lean`), so the specification is satisfiable too.
Imports Mathlib (through `Proofs/Secp/ModInv.lean`), which is why it is not part of `Tie/SecpCode.lean`.
-/
import Iota.Tie.SecpCode
import Iota.Proofs.Secp.ModInv

namespace Iota.Tie.SecpCode
open Iota Iota.Secp256k1

/-- the behaviour of `new(big.Int).ModInverse(g, n)` for `0 < n < 2^511` (inverse: documented; its range `[0, n)`: as implemented); `none` = a nil result -/
structure ExternsSpec (inv : Int → Int → Option Int) : Prop where
  sound : ∀ g n zi : Int, 0 < n → n < 2 ^ 511 → inv g n = some zi → 0 ≤ zi ∧ zi < n ∧ (zi * g) % n = 1 % n
  nil_only : ∀ g n : Int, 0 < n → n < 2 ^ 511 → inv g n = none → Int.gcd g n ≠ 1

theorem P_pos' : (0 : Int) < P := by decide
theorem P_lt' : P < 2 ^ 511 := by decide +kernel

theorem inverse_unique {g n a b : Int} (ha0 : 0 ≤ a) (han : a < n) (hb0 : 0 ≤ b) (hbn : b < n)
    (ha : (a * g) % n = 1 % n) (hb : (b * g) % n = 1 % n) : a = b := by
  have h1 : a % n = (a * (b * g)) % n := by
    rw [Int.mul_emod a (b * g), hb, ← Int.mul_emod, Int.mul_one]
  have h2 : b % n = (b * (a * g)) % n := by
    rw [Int.mul_emod b (a * g), ha, ← Int.mul_emod, Int.mul_one]
  have h3 : a * (b * g) = b * (a * g) := by ring
  rw [h3, ← h2, Int.emod_eq_of_lt ha0 han, Int.emod_eq_of_lt hb0 hbn] at h1
  exact h1

theorem ExternsSpec.toExterns {inv : Int → Int → Option Int} (S : ExternsSpec inv) : Externs inv := by
  refine ⟨fun g => ?_⟩
  cases h : inv g P with
  | none =>
    exact ((Proofs.Secp.modInverse_eq_none_iff P_pos' P_lt').2 (S.nil_only g P P_pos' P_lt' h)).symm
  | some zi =>
    obtain ⟨h0, h1, h2⟩ := S.sound g P zi P_pos' P_lt' h
    -- `zi * g - P * (zi * g / P) = 1`, so a common divisor of `g` and `P` divides 1
    have hc : Int.gcd g P = 1 := Int.gcd_eq_one_iff.mpr fun c hg hP => by
      have e : zi * g - P * (zi * g / P) = 1 :=
        (Int.emod_def (zi * g) P).symm.trans (h2.trans (Int.emod_eq_of_lt (by decide) (by decide)))
      rw [← e]
      exact Int.dvd_sub (Dvd.dvd.mul_left hg zi) (Dvd.dvd.mul_right hP _)
    obtain ⟨zi', h', k0, k1, k2⟩ := Proofs.Secp.modInverse_of_coprime P_pos' P_lt' hc
    rw [h', inverse_unique h0 h1 k0 k1 h2 k2]

/-- the specification is satisfiable: the model's `modInverse` -/
theorem externsSpec_inhabited : ExternsSpec modInverse :=
  ⟨fun _ _ _ hn hb h => (Proofs.Secp.modInverse_sound hn hb h).2,
   fun _ _ hn hb h => (Proofs.Secp.modInverse_eq_none_iff hn hb).1 h⟩

end Iota.Tie.SecpCode
