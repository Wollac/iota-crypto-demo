/-
Tie shared by C11, C12 (and C13): what `Iota/Gen/Pow.lean` regenerates from pkg/pow and pkg/pow/v2, compared with the
model.  By `rfl` / `decide`: the constants, the translated `tritToUint`, the text of Score / Mine / worker, their helpers
and v2 `checkStateTrits`, and the text of the remaining declarations.  The code ties `code_*`: v1 `checkStateTrits`
(`Gen.Pow.v1`) and v2 `sufficientTrailingZeros`, `targetHash`, `toInt`, `stateToInt` (`Gen.Pow.v2code`), translated as
code, equal the model.  The batched sponge the workers use is iota.go's curl/bct, an external dependency (not pkg/curl).
-/
import Iota.Gen.Pow
import Iota.Tie.Expect
import Iota.Model.Pow
import Iota.Tie.CurlCodeLanes
import Iota.Tie.PowCode
import Iota.Tie.PowV2Code
import Iota.Proofs.Vectors.Curl
import Iota.Proofs.Vectors.Hash

namespace Iota.Tie.Pow
open Iota

def hexNat (s : String) : Nat :=
  s.toList.foldl (fun acc c =>
    acc * 16 + (if '0' ≤ c ∧ c ≤ '9' then c.toNat - 48 else if 'a' ≤ c ∧ c ≤ 'f' then c.toNat - 87 else 0)) 0

theorem constants :
    Gen.Pow.nonceBytesV1 = 8 ∧ Gen.Pow.nonceBytesV2 = 8 ∧ Gen.Pow.tritsPerUint64 = 40 := by decide

theorem maxHash_eq : hexNat Gen.Pow.maxHashHex = Pow.maxHash := by decide +kernel

theorem uint64Radix_eq : Gen.Pow.uint64RadixSrc = "new(big.Int).SetUint64(12157665459056928801)" ∧
    Pow.uint64Radix = 12157665459056928801 := ⟨rfl, rfl⟩

/-- the translated `tritToUint` on the three trit values -/
theorem tritToUint_eq :
    (Gen.Pow.tritToUint (BitVec.ofInt 8 (-1))).toNat = Pow.tritToUint (-1) ∧
    (Gen.Pow.tritToUint (BitVec.ofInt 8 0)).toNat = Pow.tritToUint 0 ∧
    (Gen.Pow.tritToUint (BitVec.ofInt 8 1)).toNat = Pow.tritToUint 1 := by decide

-- The functions held as text.  The text of v1 `checkStateTrits` is not held: it is translated as code and tied to the
-- model for all inputs (`code_checkStateTrits_v1` below; lemmas in `Iota/Tie/PowCode.lean`); likewise v2
-- `sufficientTrailingZeros`, `targetHash`, `tritToUint`, `toInt` and `stateToInt` (lemmas in `Iota/Tie/PowV2Code.lean`).
theorem src :
    Gen.Pow.src_pow_Score = Expect.Pow_src_pow_Score ∧
    Gen.Pow.src_pow_trailingZeros = Expect.Pow_src_pow_trailingZeros ∧
    Gen.Pow.src_pow_encodeNonce = Expect.Pow_src_pow_encodeNonce ∧
    Gen.Pow.src_pow_New = Expect.Pow_src_pow_New ∧
    Gen.Pow.src_pow_Worker_Mine = Expect.Pow_src_pow_Worker_Mine ∧
    Gen.Pow.src_pow_Worker_worker = Expect.Pow_src_pow_Worker_worker ∧
    Gen.Pow.src_v2_Score = Expect.Pow_src_v2_Score ∧
    Gen.Pow.src_v2_difficulty = Expect.Pow_src_v2_difficulty ∧
    Gen.Pow.src_v2_encodeNonce = Expect.Pow_src_v2_encodeNonce ∧
    Gen.Pow.src_v2_hexToInt = Expect.Pow_src_v2_hexToInt ∧
    Gen.Pow.src_v2_New = Expect.Pow_src_v2_New ∧
    Gen.Pow.src_v2_Worker_Mine = Expect.Pow_src_v2_Worker_Mine ∧
    Gen.Pow.src_v2_Worker_worker = Expect.Pow_src_v2_Worker_worker ∧
    Gen.Pow.src_v2_checkStateTrits = Expect.Pow_src_v2_checkStateTrits :=
  ⟨rfl, rfl, rfl, rfl, rfl, rfl, rfl, rfl, rfl, rfl, rfl, rfl, rfl, rfl⟩

/-- the normalized text of everything else the package declares (imports, constants, types, variables, build constraints and
the functions not held one by one) equals the expected one (`Iota/Tie/Expect.lean`): no declaration of the modelled packages
can change without a tie theorem failing. -/
theorem rest :
    Gen.Pow.rest_pow = Expect.Pow_rest_pow ∧
    Gen.Pow.rest_powv2 = Expect.Pow_rest_powv2 :=
  ⟨rfl, rfl⟩

/-! ### v1 `checkStateTrits` translated AS CODE (three-clause loop, checked array indexing, `bits.TrailingZeros`)
= the model's lane test, for all planes; `none` would be a Go run-time panic (lemmas: `Iota/Tie/PowCode.lean`). -/
theorem code_checkStateTrits_v1 (l h : Pow.Planes) (n : Nat) (hn : n ≤ 243) :
    Gen.Pow.v1.checkStateTrits l.toList h.toList (BitVec.ofNat 64 n) = some (BitVec.ofNat 64 (Pow.checkV1 l h n)) :=
  Iota.Tie.PowCode.checkStateTrits_eq l h n hn
/-- for n > 243 the subtraction wraps, the loop does not run and lane 0 is reported whatever the state (the caller
`worker` panics on such an n before getting here, and `Mine` does not produce one: when no number of trailing zeros up to
243 reaches the target score it waits for cancellation instead of starting workers) -/
theorem code_checkStateTrits_v1_large (l h : List (BitVec 64)) (n : BitVec 64) (hn : 243 < n.toNat) :
    Gen.Pow.v1.checkStateTrits l h n = some 0#64 := by
  unfold Gen.Pow.v1.checkStateTrits
  have ha : 243 ≤ (243#64 - n).toNat := by
    rw [BitVec.toNat_sub]
    show 243 ≤ (2 ^ 64 - n.toNat + 243) % 2 ^ 64
    have := n.isLt
    omega
  have hidx : Go.forUp false false (243#64 - n) 243#64 1 = [] := by
    rw [Go.forUp_uint_lt]
    show List.map _ (List.range (243 - (243#64 - n).toNat)) = []
    rw [show 243 - (243#64 - n).toNat = 0 by omega]
    rfl
  simp only []
  rw [hidx]
  rfl

/-! ### v2 `sufficientTrailingZeros` and `targetHash` translated AS CODE (division by a non-constant, `panic`,
a three-clause loop with two init variables and an early return, `big.Int` SetUint64 / Mul / Add / Quo, the package-level
constants `one` and `maxHash = hexToInt("…")`) = the model, for all inputs, the panic included (lemmas: `Iota/Tie/PowV2Code.lean`). -/
theorem code_sufficientTrailingZeros_v2_panic (data : List (BitVec 8)) (t : BitVec 64) (hlen : data.length < 2 ^ 62)
    (hov : 2 ^ 64 ≤ (data.length + 8) * t.toNat) :
    Gen.Pow.v2code.sufficientTrailingZeros data t = none := by
  unfold Gen.Pow.v2code.sufficientTrailingZeros
  rw [PowV2Code.overflow_test data.length hlen t]
  simp [PowV2Code.len8_ne_zero _ hlen, hov]
theorem code_sufficientTrailingZeros_v2 (data : List (BitVec 8)) (t : BitVec 64) (hlen : data.length < 2 ^ 62)
    (hov : (data.length + 8) * t.toNat < 2 ^ 64) :
    Gen.Pow.v2code.sufficientTrailingZeros data t =
      some (BitVec.ofNat 64 (Pow.sufficientTrailingZeros ((data.length + 8) * t.toNat))) := by
  unfold Gen.Pow.v2code.sufficientTrailingZeros
  have hlx : ((BitVec.ofNat 64 data.length + 8#64) * t).toNat = (data.length + 8) * t.toNat := by
    rw [BitVec.toNat_mul, PowV2Code.len8 _ hlen]
    exact Nat.mod_eq_of_lt hov
  rw [PowV2Code.overflow_test data.length hlen t]
  have hno : ¬ 2 ^ 64 ≤ (data.length + 8) * t.toNat := by omega
  simp only [PowV2Code.len8_ne_zero _ hlen, Bool.not_true, Bool.false_eq_true, if_false, hno, decide_false]
  rw [PowV2Code.forUp_0_40]
  have := PowV2Code.stz_loop ((BitVec.ofNat 64 data.length + 8#64) * t) 41 0 1#64 rfl (fun _ => rfl)
  unfold PowV2Code.stzBody at this
  rw [this, hlx]
  rfl
/-- the divisor of `Quo` is `lx + 1 ≥ 1`, and the product `lx` is formed in `big.Int`: no panic, no overflow case -/
theorem code_targetHash_v2 (data : List (BitVec 8)) (t : BitVec 64) (hlen : data.length < 2 ^ 62) :
    Gen.Pow.v2code.targetHash data t = some ((Pow.targetHash ((data.length + 8) * t.toNat) : Nat) : Int) := by
  unfold Gen.Pow.v2code.targetHash Pow.targetHash
  have hz : ((t.toNat : Nat) : Int) * BitVec.toInt (BitVec.ofNat 64 data.length + 8#64) + (1 : Int) =
      (((data.length + 8) * t.toNat + 1 : Nat) : Int) := by
    rw [PowV2Code.len8_toInt _ hlen, Nat.mul_comm]
    simp only [Int.natCast_add, Int.natCast_mul]
    rfl
  simp only [hz, PowV2Code.maxHash_lit]
  have hne : (((data.length + 8) * t.toNat + 1 : Nat) : Int) ≠ 0 := by omega
  simp only [ne_eq, hne, not_false_eq_true, decide_true, Bool.not_true, Bool.false_eq_true, if_false]
  rw [← Int.ofNat_tdiv]
  rfl

/-- v2 `toInt` (and its callee `tritToUint`) AS CODE: a `[]int8` of 243 balanced trits ↦ the model's value, no panic, no
wrap-around of the uint64 chunk values (`PowV2Code.chunk_loop`: each stays below 3^40); any other length panics -/
theorem code_toInt_v2 (trits : List (BitVec 8)) (hlen : trits.length = 243)
    (htr : ∀ t ∈ trits, t = BitVec.ofInt 8 (-1) ∨ t = 0#8 ∨ t = 1#8) :
    Gen.Pow.v2code.toInt trits = some ((Pow.toInt (trits.map BitVec.toInt) : Nat) : Int) := by
  have hr : (List.range 6).reverse = [5, 4, 3, 2, 1, 0] := by decide
  rw [PowV2Code.toInt_unfold trits hlen, show (5#64 : BitVec 64) = BitVec.ofNat 64 6 - 1#64 from rfl,
    Go.forDown_int 6 (by decide), hr]
  simp only [List.map_cons, List.map_nil, Go.forIn_cons, Go.forIn_nil,
    PowV2Code.outer_step trits hlen htr _ (by decide : 5 < 6), PowV2Code.outer_step trits hlen htr _ (by decide : 4 < 6),
    PowV2Code.outer_step trits hlen htr _ (by decide : 3 < 6), PowV2Code.outer_step trits hlen htr _ (by decide : 2 < 6),
    PowV2Code.outer_step trits hlen htr _ (by decide : 1 < 6), PowV2Code.outer_step trits hlen htr _ (by decide : 0 < 6),
    Go.Flow.bind_run, Go.Flow.result_done]
  have hg : ∀ i, (trits.map BitVec.toInt).getD i 0 = (trits.getD i 0#8).toInt := fun i =>
    Go.getD_map BitVec.toInt trits i 0#8
  have ht := PowV2Code.getD_isTrit trits htr
  have htop : (PowV2Code.topTerm trits).toNat = Pow.tritToUint ((trits.map BitVec.toInt).getD 242 0) * 9 +
      Pow.tritToUint ((trits.map BitVec.toInt).getD 241 0) * 3 + Pow.tritToUint ((trits.map BitVec.toInt).getD 240 0) := by
    rw [hg, hg, hg, ← PowV2Code.tritToUint_toNat _ (ht 242), ← PowV2Code.tritToUint_toNat _ (ht 241),
      ← PowV2Code.tritToUint_toNat _ (ht 240)]
    have a := PowV2Code.tritToUint_le _ (ht 242)
    have b := PowV2Code.tritToUint_le _ (ht 241)
    have c := PowV2Code.tritToUint_le _ (ht 240)
    unfold PowV2Code.topTerm
    rw [BitVec.toNat_add, BitVec.toNat_add, BitVec.toNat_mul, BitVec.toNat_mul]
    show ((_ * 9 % 2 ^ 64 + _ * 3 % 2 ^ 64) % 2 ^ 64 + _) % 2 ^ 64 = _
    omega
  unfold Pow.toInt
  rw [← htop]
  simp only [hr, List.foldl_cons, List.foldl_nil]
  unfold PowV2Code.chunkTerm Pow.uint64Radix
  simp only [Int.natCast_add, Int.natCast_mul]
  rfl
theorem code_toInt_v2_panic (trits : List (BitVec 8)) (hlen : trits.length ≠ 243) (hlt : trits.length < 2 ^ 64) :
    Gen.Pow.v2code.toInt trits = none := by
  unfold Gen.Pow.v2code.toInt
  rw [bne, Go.beq_ofNat _ 243 hlt (by decide), decide_eq_false hlen]
  rfl
/-- v2 `stateToInt` AS CODE = the model's `stateToInt`, for all planes and every lane index below 64 (`idx &= 63` is then
the identity): the loop fills a local `[243]int8` with the trits of the lane, then `toInt` -/
theorem code_stateToInt_v2 (l h : Pow.Planes) (idx : Nat) (hidx : idx < 64) :
    Gen.Pow.v2code.stateToInt l.toList h.toList (BitVec.ofNat 64 idx) = some ((Pow.stateToInt l h idx : Nat) : Int) := by
  rw [PowV2Code.stateToInt_lane _ _ idx hidx, code_toInt_v2 _ (by rw [List.length_map, List.length_range])
      (fun t ht => by obtain ⟨j, _, rfl⟩ := List.mem_map.mp ht; exact (CurlCodeLanes.laneInt8_spec ..).1),
    Pow.stateToInt, Pow.laneTrits, List.map_map]
  congr 3
  apply List.map_congr_left
  intro j _
  rw [Function.comp, (CurlCodeLanes.laneInt8_spec ..).2, CurlCodeLanes.getD_toList_toArray,
    CurlCodeLanes.getD_toList_toArray]
  rfl

end Iota.Tie.Pow
