/-
Code tie for the sponge methods of pkg/curl (curl.go): `Curl.Absorb` and `Curl.Squeeze`, translated AS CODE by
cmd/extract into `Iota/Gen/Curl.lean` (`Gen.Curl.code.Curl_Absorb`, `Gen.Curl.code.Curl_Squeeze`; the receiver = its
fields `c_l`, `c_h`, `c_direction`; `none` = run-time panic; `c.transform()` = the PARAMETER `Curl_transform`), against
the model `Curl.absorb` / `Curl.squeeze` of `Iota/Model/Curl.lean`.

Instantiation and encodings.
* `trM l h`: the parameter `Curl_transform`, instantiated by the model's `Curl.transform` on the planes `l`, `h` (two
  lists of length 729; the direction is irrelevant: `transform_dir`).  On lists of another length it is `none`; it is
  only ever applied to lists of length 729 (`trM_eq` is all that is used of it).
* `dirBV`: `absorbing ↦ 0`, `squeezing ↦ 1` (the Go constants `SpongeAbsorbing`, `SpongeSqueezing`);
  `tritsI = List.map (·.toInt)`: a Go `trinary.Trits` (`[]int8`) as the model's `List Int`.
* `encA c` / `encS c dst`: the image of a model outcome on state `c`: `.err e ↦ some (some "consts.Err…", state
  unchanged [, dst unchanged])`, `.panic ↦ none`, `.ok c' () ↦ some (none, c'.l, c'.h)`,
  `.ok c' out ↦ some (none, c'.l, c'.h, dirBV c'.direction, out.map (·.map (BitVec.ofInt 8)))`.

The lemmas of this file serve four theorems of `Iota/Tie/Curl.lean`.
* `code_absorb`: for every model state `c`, every `src` with fewer than `2^63` lanes and every `tritsCount ≥ 0`:
  `code.Curl_Absorb trM c.l c.h (dirBV c.direction) src tritsCount = encA c (Curl.absorb c (src.map tritsI) tritsCount.toNat)`.
* `code_squeeze`: likewise `code.Curl_Squeeze trM … dst tritsCount = encS c dst (Curl.squeeze c dst.length tritsCount.toNat)`,
  and reading the returned rows as signed bytes gives back the model's output (nothing is lost in `int8`).
* `code_sponge_negative`: `tritsCount < 0` (not described by the model, whose `tritsCount` is a `Nat`).
* `code_sponge_header`: the ASSUMPTION under which the two block loops are translated (`i += 243` does not wrap around
  before `i < tritsCount` fails) holds for every `tritsCount ≥ 0` that is a multiple of 243 — for the others both functions
  return before the loop: the header, run step by step in 64-bit arithmetic (`Go.loopIdx`), visits exactly
  `Go.forUp true false 0 tritsCount 243`.

How the statements differ from the obvious ones.
* `src.length < 2^63` / `dst.length < 2^63` is needed: the translation renders `len(x)` as `BitVec.ofNat 64 x.length`,
  which is exact for Go slices only.  (A list of `2^64 + 1` lanes passes the translated batch-size guard, the model
  returns `invalidBatchSize`.)
* Short lanes in `Absorb`.  The model panics up front when `tritsCount ≠ 0` and some lane has fewer than `tritsCount`
  trits.  The code panics in the block at offset `i` exactly when some lane has fewer than `i + 243` trits
  (`src[j][i:]` panics for `len < i`, `c.in` for `i ≤ len < i + 243`: `laneStepA_eq`, `lanes_eq`, `blockA_eq`) —
  unless `transform` panicked in an earlier block.  The blocks are `i = 0, 243, …, tritsCount - 243`, so "some block
  does not fit" is "some lane is shorter than `tritsCount`": the two conditions describe the same calls, and as both
  outcomes are `none` the order of a lane panic and a `transform` panic cannot be observed (`blocks_eq`).
  The model says nothing about at which block the code stops, i.e. which lanes of the earlier blocks were already
  absorbed into the (lost) state — `none` carries no state.

Route: the generated definitions are restated once (`Curl_Absorb_unfold`, `Curl_Squeeze_unfold`, by `rfl`) in terms of
the named loop bodies `CurlCodeLanes.onesStep`, `laneStepA`, `blockA`, `makeStep`, `laneStepS`, `blockS`, and once more
with the guards decided (`Curl_Absorb_eq`, `Curl_Squeeze_eq`); the inner reset
loop is the model's `resetRate` (`rate_loop`), the lane loops go through `CurlCodeLanes.in_eq` / `out_eq`, the block loops are
inductions over the number of blocks along `blockIdx` (`forUp_blocks`).  In `Squeeze` the rows of `dst` while they are
being filled are `pad tc a` = the trits produced so far followed by the zeros of `make`.

NOT covered: what `dst` and the state contain after a panic; everything the translation does not model (header of
`Iota/Gen/Curl.lean`): slice capacity, sharing between the rows of `src` / `dst` (`Squeeze` assigns every row a fresh
`make` first), the `transform` actually linked in (assembly or `transformGeneric`: `Iota/Tie/CurlCodePerm.lean`).
-/
import Iota.Gen.Curl
import Iota.Model.Curl
import Iota.Tie.GoFlow
import Iota.Tie.CurlCodeLanes

namespace Iota.Tie.CurlCodeSponge
open Iota Iota.Go
open Iota.Tie.CurlCodeLanes (P2 upd foldl_set_getD in_eq out_eq onesStep ones_loop)

abbrev W := BitVec 64
/-- the type of the parameter `Curl_transform` -/
abbrev TR := List W → List W → Option (List W × List W)

/-! ### the instantiation of the parameter, the encodings -/

/-- a list of length 729 as a plane -/
def planeOf (l : List W) (hl : l.length = 729) : Curl.Plane := ⟨l.toArray, by simpa using hl⟩

theorem planeOf_toList (p : Curl.Plane) (hp : p.toList.length = 729) : planeOf p.toList hp = p := by
  cases p; rfl

def trM : TR := fun l h =>
  if hl : l.length = 729 then
    if hh : h.length = 729 then
      (Curl.Curl.transform { l := planeOf l hl, h := planeOf h hh, direction := .absorbing }).map
        (fun c' => (c'.l.toList, c'.h.toList))
    else none
  else none

def dirBV : Curl.Direction → BitVec 64
  | .absorbing => 0#64
  | .squeezing => 1#64

def tritsI (t : List (BitVec 8)) : List Int := t.map (·.toInt)

/-- `transform` does not look at the direction and keeps it -/
theorem transform_dir (c : Curl.Curl) (d : Curl.Direction) :
    Curl.Curl.transform { c with direction := d } =
      (Curl.Curl.transform c).map (fun c' => { c' with direction := d }) := by
  simp only [Curl.Curl.transform]
  cases Curl.transformGeneric _ <;> rfl

theorem transform_keeps_dir (c c' : Curl.Curl) (h : Curl.Curl.transform c = some c') : c'.direction = c.direction := by
  simp only [Curl.Curl.transform] at h
  cases hg : Curl.transformGeneric _ with
  | none => rw [hg] at h; cases h
  | some b => rw [hg] at h; cases h; rfl

theorem trM_eq (c : Curl.Curl) :
    trM c.l.toList c.h.toList = (Curl.Curl.transform c).map (fun c' => (c'.l.toList, c'.h.toList)) := by
  have hl : c.l.toList.length = 729 := by simp
  have hh : c.h.toList.length = 729 := by simp
  rw [trM, dif_pos hl, dif_pos hh, planeOf_toList, planeOf_toList, transform_dir c .absorbing]
  cases Curl.Curl.transform c <;> rfl

/-! ### the guards, the index list of the block loops -/

/-- the batch-size guard `len(src) < 1 || len(src) > MaxBatchSize`, for the length of a Go slice -/
theorem batch_guard (n : Nat) (hn : n < 2 ^ 63) :
    (BitVec.slt (BitVec.ofNat 64 n) 1#64 || BitVec.slt 64#64 (BitVec.ofNat 64 n)) = decide (n < 1 ∨ n > 64) := by
  rw [slt_ofNat n 1 hn (by decide), slt_ofNat 64 n (by decide) hn, ← Bool.decide_or]

/-- the guard `tritsCount % 243 != 0`: Go's `%` keeps the sign of the dividend -/
theorem srem_guard (tc : BitVec 64) :
    (BitVec.srem tc 243#64 != 0#64) = decide (tc.toInt.tmod 243 ≠ 0) := by
  rw [Bool.eq_iff_iff, bne_iff_ne, decide_eq_true_iff, Ne, ← BitVec.toInt_inj, BitVec.toInt_srem]
  rfl

theorem tmod_nonneg (tc : BitVec 64) (h0 : 0 ≤ tc.toInt) : tc.toInt.tmod 243 = ((tc.toNat % 243 : Nat) : Int) := by
  rw [BitVec.toInt_eq_toNat_of_lt (by have := (toInt_nonneg_iff tc).mp h0; omega)]
  exact (Int.ofNat_tmod _ _).symm

/-- the block offsets `off, off + 243, …` (`n` of them) -/
def blockIdx (n off : Nat) : List W := (List.range n).map (fun m => BitVec.ofNat 64 (off + m * 243))

theorem blockIdx_succ (n off : Nat) : blockIdx (n + 1) off = BitVec.ofNat 64 off :: blockIdx n (off + 243) :=
  map_range_succ_stride off 243 n

/-- the index list of the block loops -/
theorem forUp_blocks (tc : BitVec 64) (h0 : 0 ≤ tc.toInt) (hm : tc.toNat % 243 = 0) :
    forUp true false 0#64 tc 243 = blockIdx (tc.toNat / 243) 0 := by
  have hlt := (toInt_nonneg_iff tc).mp h0
  by_cases hz : tc.toNat = 0
  · obtain rfl : tc = 0#64 := BitVec.eq_of_toNat_eq hz
    rfl
  · have h := forUp_int false 0 tc.toNat 243 (Nat.pos_of_ne_zero hz) hlt
    rw [BitVec.ofNat_toNat, BitVec.setWidth_eq] at h
    rw [h, blockIdx, if_neg Bool.false_ne_true, Nat.sub_zero, show (tc.toNat + 243 - 1) / 243 = tc.toNat / 243 by omega]

/-- a loop whose body, on the states that represent a `τ`, panics at the elements that are not `ok` and at the others stays
among these states -/
theorem forIn_emb {α ρ σ τ : Type} (emb : τ → σ) (ok : α → Prop) [DecidablePred ok] (l : List α)
    (f : σ → α → Flow ρ σ) (g : τ → α → τ)
    (h : ∀ t, ∀ a ∈ l, f (emb t) a = if ok a then .run (emb (g t a)) else .panic) (t : τ) :
    forIn l (emb t) f = if ∀ a ∈ l, ok a then .run (emb (l.foldl g t)) else .panic := by
  induction l generalizing t with
  | nil => exact (if_pos (fun _ h => nomatch h)).symm
  | cons a l ih =>
    rw [forIn_cons, h t a (List.mem_cons_self ..)]
    by_cases ha : ok a
    · rw [if_pos ha, Flow.bind_run, ih (fun t b hb => h t b (List.mem_cons_of_mem _ hb)), List.foldl_cons]
      exact ite_congr (by rw [List.forall_mem_cons, and_iff_right ha]) (fun _ => rfl) (fun _ => rfl)
    · rw [if_neg ha, if_neg (fun hall => ha (hall a (List.mem_cons_self ..)))]
      rfl

/-! ### `Absorb`: the generated definition in terms of named block bodies -/

/-- the result type of the translated `Absorb` -/
abbrev AR := Option String × List W × List W

/-- body of `for j := range src { c.in(src[j][i:], uint(j)) }`, as generated -/
def laneStepA {ρ : Type} (src : List (List (BitVec 8))) (i : W) (st_5 : P2) (j : W) : Flow ρ P2 :=
          let c_l : List (BitVec 64) := st_5.1
          let c_h : List (BitVec 64) := st_5.2
          if !(Go.sliceFromS i (src.getD j.toNat []).length) then Go.Flow.panic else
          Go.Flow.bind (Go.call (Gen.Curl.code.Curl_in c_l c_h ((src.getD j.toNat []).drop i.toNat) j)) (fun (st_6 : List (BitVec 64) × List (BitVec 64)) =>
          let c_l : List (BitVec 64) := st_6.1
          let c_h : List (BitVec 64) := st_6.2
          Go.Flow.run (c_l, c_h))

/-- body of the block loop of `Absorb` -/
def blockA {ρ : Type} (tr : TR) (src : List (List (BitVec 8))) (st_1 : P2) (i : W) : Flow ρ P2 :=
  Flow.bind (Go.forIn (Go.forUp true false 0#64 243#64 1) (st_1.1, st_1.2) onesStep) fun st_2 =>
  Flow.bind (Go.forIn ((List.range src.length).map (BitVec.ofNat 64)) (st_2.1, st_2.2) (laneStepA src i)) fun st_5 =>
  Flow.bind (Go.call (tr st_5.1 st_5.2)) fun st_7 => Flow.run (st_7.1, st_7.2)

theorem Curl_Absorb_unfold (tr : TR) (c_l c_h : List W) (d : W) (src : List (List (BitVec 8))) (tc : W) :
    Gen.Curl.code.Curl_Absorb tr c_l c_h d src tc = Flow.result (
      if ((BitVec.slt (BitVec.ofNat 64 src.length) 1#64) || (BitVec.slt 64#64 (BitVec.ofNat 64 src.length))) then
        Flow.done ((some "consts.ErrInvalidBatchSize"), c_l, c_h)
      else if ((BitVec.srem tc 243#64) != 0#64) then
        Flow.done ((some "consts.ErrInvalidTritsLength"), c_l, c_h)
      else if (d != 0#64) then Flow.panic
      else Flow.bind (Go.forIn (Go.forUp true false 0#64 tc 243) (c_l, c_h) (blockA tr src))
        (fun st_1 => Flow.done ((none : Option String), st_1.1, st_1.2))) := rfl

/-- … with the guards decided: the batch size (`src` a Go slice: fewer than `2^63` elements), `tritsCount % 243` (Go's `%`
keeps the sign of the dividend: `Int.tmod`), the direction -/
theorem Curl_Absorb_eq (tr : TR) (c_l c_h : List W) (d : W) (src : List (List (BitVec 8))) (tc : W)
    (hsrc : src.length < 2 ^ 63) :
    Gen.Curl.code.Curl_Absorb tr c_l c_h d src tc =
      if src.length < 1 ∨ src.length > 64 then some (some "consts.ErrInvalidBatchSize", c_l, c_h)
      else if tc.toInt.tmod 243 ≠ 0 then some (some "consts.ErrInvalidTritsLength", c_l, c_h)
      else if d ≠ 0#64 then none
      else Flow.result (Flow.bind (Go.forIn (Go.forUp true false 0#64 tc 243) (c_l, c_h) (blockA tr src))
        (fun st_1 => Flow.done ((none : Option String), st_1.1, st_1.2))) := by
  rw [Curl_Absorb_unfold, batch_guard _ hsrc, srem_guard]
  simp only [decide_eq_true_eq, bne_iff_ne, apply_ite Flow.result]
  rfl

/-! ### the reset of the rate -/

theorem resetRate_toList (p : Curl.Plane) :
    (Curl.resetRate p).toList = List.replicate 243 Curl.allOnes ++ p.toList.drop 243 := by
  apply List.ext_getElem
  · rw [Vector.length_toList, List.length_append, List.length_replicate, List.length_drop, Vector.length_toList]
  · intro i h1 h2
    simp only [Vector.getElem_toList, Curl.resetRate, Vector.getElem_ofFn]
    by_cases hi : i < 243
    · rw [if_pos hi, List.getElem_append_left (by rw [List.length_replicate]; exact hi), List.getElem_replicate]
    · rw [if_neg hi, List.getElem_append_right (by rw [List.length_replicate]; omega), List.getElem_drop]
      simp only [List.length_replicate, Fin.getElem_fin, Vector.getElem_toList,
        Nat.add_sub_cancel' (Nat.le_of_not_lt hi)]

/-- the inner loop `for j := 0; j < 243; j++ { c.l[j], c.h[j] = ^uint(0), ^uint(0) }` is the model's `resetRate` -/
theorem rate_loop {ρ : Type} (l h : Curl.Plane) :
    forIn (forUp true false 0#64 243#64 1) (l.toList, h.toList) (onesStep (ρ := ρ)) =
      .run ((Curl.resetRate l).toList, (Curl.resetRate h).toList) := by
  rw [resetRate_toList, resetRate_toList]
  exact ones_loop 243 (by decide) _ _ (by simp) (by simp)

/-! ### the lanes of one block -/

/-- a pair of planes as the code's pair of lists -/
def emb2 (p : Curl.Plane × Curl.Plane) : P2 := (p.1.toList, p.2.toList)

theorem getD_tritsI (src : List (List (BitVec 8))) (j off : Nat) :
    ((src.map tritsI).getD j []).drop off = tritsI ((src.getD j []).drop off) := by
  rw [show (src.map tritsI).getD j [] = tritsI (src.getD j []) from getD_map tritsI src j [], tritsI, tritsI,
    List.map_drop]

/-- one lane: `src[j][i:]` panics for a lane shorter than `i`, `c.in` for one shorter than `i + 243` -/
theorem laneStepA_eq {ρ : Type} (src : List (List (BitVec 8))) (off : Nat) (hoff : off < 2 ^ 63)
    (p : Curl.Plane × Curl.Plane) (j : Nat) (hj : j < 64) :
    laneStepA (ρ := ρ) src (BitVec.ofNat 64 off) (emb2 p) (BitVec.ofNat 64 j) =
      if off + 243 ≤ (src.getD j []).length then
        .run (emb2 (Curl.inLane p.1 p.2 (((src.map tritsI).getD j []).drop off) j))
      else .panic := by
  simp only [laneStepA, emb2, Go.sliceFromS_ofNat off _ hoff, toNat_ofNat_lt off (by omega),
    toNat_ofNat_lt j (by omega), in_eq, List.length_drop, getD_tritsI]
  by_cases h1 : off + 243 ≤ (src.getD j []).length
  · have h2 : off ≤ (src.getD j []).length := by omega
    have h3 : 243 ≤ (src.getD j []).length - off := by omega
    simp only [h1, h2, h3, Nat.mod_eq_of_lt hj, if_true, decide_true, Bool.not_true, Bool.false_eq_true, if_false,
      call, Flow.bind_run]
    rfl
  · rw [if_neg h1]
    by_cases h2 : off ≤ (src.getD j []).length
    · have h3 : ¬ 243 ≤ (src.getD j []).length - off := by omega
      simp only [h2, h3, if_false, decide_true, Bool.not_true, Bool.false_eq_true, call, Flow.bind_panic]
    · simp only [h2, decide_false, Bool.not_false, if_true]

/-- every lane has at least `m` trits -/
abbrev Long (src : List (List (BitVec 8))) (m : Nat) : Prop := ∀ lane ∈ src, m ≤ lane.length

theorem Long_iff (src : List (List (BitVec 8))) (m : Nat) :
    Long src m ↔ ∀ j ∈ List.range src.length, m ≤ (src.getD j []).length := by
  constructor
  · exact fun h j hj => h _ (getD_mem src j (List.mem_range.mp hj) [])
  · intro h lane hm
    obtain ⟨j, hj, rfl⟩ := List.getElem_of_mem hm
    rw [← getD_eq_get src [] j hj]
    exact h j (List.mem_range.mpr hj)

/-- the model's loop over the lanes of the block at offset `off` -/
def lanesM (src : List (List (BitVec 8))) (off : Nat) (p : Curl.Plane × Curl.Plane) : Curl.Plane × Curl.Plane :=
  (List.range src.length).foldl
    (fun acc j => Curl.inLane acc.1 acc.2 (((src.map tritsI).getD j []).drop off) j) p

/-- the lane loop of the block at offset `off` panics exactly when some lane has fewer than `off + 243` trits -/
theorem lanes_eq {ρ : Type} (src : List (List (BitVec 8))) (hlen : src.length ≤ 64) (off : Nat) (hoff : off < 2 ^ 63)
    (l h : Curl.Plane) :
    forIn ((List.range src.length).map (BitVec.ofNat 64)) (l.toList, h.toList)
        (laneStepA (ρ := ρ) src (BitVec.ofNat 64 off)) =
      if Long src (off + 243) then .run (emb2 (lanesM src off (l, h))) else .panic := by
  rw [Go.forIn_map]
  refine (forIn_emb emb2 (fun j => off + 243 ≤ (src.getD j []).length) _ _ _
    (fun t j hj => laneStepA_eq src off hoff t j (by have := List.mem_range.mp hj; omega)) (l, h)).trans ?_
  exact ite_congr (propext (Long_iff src _).symm) (fun _ => rfl) (fun _ => rfl)

/-! ### one block of `Absorb`, the block loop -/

/-- the outcome of a step of the model as the outcome of a block of the code -/
def runM {ρ : Type} : Option Curl.Curl → Flow ρ P2
  | some c' => .run (c'.l.toList, c'.h.toList)
  | none => .panic

/-- the state the model passes to `transform` in the block at offset `off` -/
def preM (src : List (List (BitVec 8))) (off : Nat) (c : Curl.Curl) : Curl.Curl :=
  { c with l := (lanesM src off (Curl.resetRate c.l, Curl.resetRate c.h)).1,
           h := (lanesM src off (Curl.resetRate c.l, Curl.resetRate c.h)).2 }

theorem absorbBlocks_succ (src : List (List (BitVec 8))) (n off : Nat) (c : Curl.Curl) :
    Curl.absorbBlocks (src.map tritsI) (n + 1) off c =
      (Curl.Curl.transform (preM src off c)).bind (Curl.absorbBlocks (src.map tritsI) n (off + 243)) := by
  rw [Curl.absorbBlocks]
  simp only [List.length_map]
  rfl

/-- a block panics exactly when some lane does not reach its end; otherwise it is the model's step -/
theorem blockA_eq {ρ : Type} (src : List (List (BitVec 8))) (hlen : src.length ≤ 64) (off : Nat) (hoff : off < 2 ^ 63)
    (c : Curl.Curl) :
    blockA (ρ := ρ) trM src (c.l.toList, c.h.toList) (BitVec.ofNat 64 off) =
      if Long src (off + 243) then runM (Curl.Curl.transform (preM src off c)) else .panic := by
  unfold blockA
  rw [rate_loop, Flow.bind_run, lanes_eq src hlen off hoff]
  split
  · have ht := trM_eq (preM src off c)
    simp only [preM, emb2] at ht ⊢
    rw [Flow.bind_run, ht]
    cases Curl.Curl.transform _ <;> rfl
  · rfl

/-- the block loop is the model's `absorbBlocks`, unless some lane is too short for the last block: then it panics (in
the first block that does not fit, or before in `transform`) -/
theorem blocks_eq {ρ : Type} (src : List (List (BitVec 8))) (hlen : src.length ≤ 64) :
    ∀ (n off : Nat) (c : Curl.Curl), off + 243 * n < 2 ^ 63 →
      forIn (blockIdx n off) (c.l.toList, c.h.toList) (blockA (ρ := ρ) trM src) =
        if n ≠ 0 ∧ ¬ Long src (off + 243 * n) then .panic else runM (Curl.absorbBlocks (src.map tritsI) n off c) := by
  intro n
  induction n with
  | zero => intro off c _; exact (if_neg (fun h => h.1 rfl)).symm
  | succ n ih =>
    intro off c hb
    rw [blockIdx_succ, forIn_cons, blockA_eq src hlen off (by omega) c, absorbBlocks_succ,
      show off + 243 * (n + 1) = off + 243 + 243 * n by omega]
    by_cases hL : Long src (off + 243)
    · rw [if_pos hL]
      cases Curl.Curl.transform (preM src off c) with
      | none => exact (ite_self _).symm
      | some c' =>
        refine (ih (off + 243) c' (by omega)).trans (ite_congr (propext ?_) (fun _ => rfl) (fun _ => rfl))
        exact ⟨fun h => ⟨Nat.succ_ne_zero n, h.2⟩, fun h => ⟨fun hn => h.2 (by rw [hn]; exact hL), h.2⟩⟩
    · rw [if_neg hL, if_pos ⟨Nat.succ_ne_zero n, fun h => hL (fun lane hm => Nat.le_trans (by omega) (h lane hm))⟩]
      rfl

/-! ### the outcome of `Absorb` -/

/-- the Go name of an error value -/
def errStr : Curl.Err → String
  | .invalidBatchSize => "consts.ErrInvalidBatchSize"
  | .invalidTritsLength => "consts.ErrInvalidTritsLength"
  | .invalidSqueezeLength => "consts.ErrInvalidSqueezeLength"

/-- the image of an outcome of the model's `absorb` on state `c`: what the translated `Absorb` returns -/
def encA (c : Curl.Curl) : Curl.Outcome Unit → Option AR
  | .err e => some (some (errStr e), c.l.toList, c.h.toList)
  | .panic => none
  | .ok c' _ => some (none, c'.l.toList, c'.h.toList)

theorem any_short_iff (src : List (List (BitVec 8))) (m : Nat) :
    (src.map tritsI).any (fun lane => decide (lane.length < m)) = true ↔ ¬ Long src m := by
  simp only [List.any_map, List.any_eq_true, Function.comp, tritsI, List.length_map, decide_eq_true_eq,
    Classical.not_forall, Nat.not_le, exists_prop]

theorem dirBV_guard (d : Curl.Direction) : dirBV d ≠ 0#64 ↔ d ≠ .absorbing := by
  cases d <;> decide

/-! ### `Squeeze`: the generated definition in terms of named block bodies -/

abbrev Rows := List (List (BitVec 8))
/-- the result type of the translated `Squeeze` -/
abbrev SR := Option String × List W × List W × W × Rows
/-- the state of its block loop -/
abbrev SSt := List W × List W × W × Rows

/-- body of `for j := range dst { dst[j] = make(trinary.Trits, tritsCount) }`, as generated -/
def makeStep {ρ : Type} (tritsCount : W) (dst : List (List (BitVec 8))) (j : W) : Flow ρ Rows :=
      if !(Go.nonneg tritsCount) then Go.Flow.panic else
      let dst : List (List (BitVec 8)) := (dst.set j.toNat (List.replicate tritsCount.toNat 0#8))
      Go.Flow.run dst

/-- body of `for j := range dst { c.out(dst[j][i:], uint(j)) }`, as generated -/
def laneStepS {ρ : Type} (c_l c_h : List W) (i : W) (dst : List (List (BitVec 8))) (j : W) : Flow ρ Rows :=
          if !(Go.sliceFromS i (dst.getD j.toNat []).length) then Go.Flow.panic else
          Go.Flow.bind (Go.call (Gen.Curl.code.Curl_out c_l c_h ((dst.getD j.toNat []).drop i.toNat) j)) (fun (st_4 : List (BitVec 8)) =>
          let dst : List (List (BitVec 8)) := (dst.set j.toNat ((dst.getD j.toNat []).take i.toNat ++ st_4))
          Go.Flow.run dst)

/-- body of the block loop of `Squeeze` -/
def blockS {ρ : Type} (tr : TR) (st_1 : SSt) (i : W) : Flow ρ SSt :=
  Flow.bind (if (st_1.2.2.1 == 1#64) then
      Flow.bind (Go.call (tr st_1.1 st_1.2.1)) (fun st_2 => Flow.run (st_2.1, st_2.2))
    else Flow.run (st_1.1, st_1.2.1)) fun st_3 =>
  Flow.bind (Go.forIn ((List.range st_1.2.2.2.length).map (BitVec.ofNat 64)) st_1.2.2.2 (laneStepS st_3.1 st_3.2 i))
    fun dst => Flow.run (st_3.1, st_3.2, 1#64, dst)

theorem Curl_Squeeze_unfold (tr : TR) (c_l c_h : List W) (d : W) (dst : Rows) (tc : W) :
    Gen.Curl.code.Curl_Squeeze tr c_l c_h d dst tc = Flow.result (
      if ((BitVec.slt (BitVec.ofNat 64 dst.length) 1#64) || (BitVec.slt 64#64 (BitVec.ofNat 64 dst.length))) then
        Flow.done ((some "consts.ErrInvalidBatchSize"), c_l, c_h, d, dst)
      else if ((BitVec.srem tc 243#64) != 0#64) then
        Flow.done ((some "consts.ErrInvalidSqueezeLength"), c_l, c_h, d, dst)
      else
      Flow.bind (Go.forIn ((List.range dst.length).map (BitVec.ofNat 64)) dst (makeStep tc)) fun dst =>
      Flow.bind (Go.forIn (Go.forUp true false 0#64 tc 243) (c_l, c_h, d, dst) (blockS tr)) fun st_1 =>
      Flow.done ((none : Option String), st_1.1, st_1.2.1, st_1.2.2.1, st_1.2.2.2)) := rfl

theorem Curl_Squeeze_eq (tr : TR) (c_l c_h : List W) (d : W) (dst : Rows) (tc : W) (hdst : dst.length < 2 ^ 63) :
    Gen.Curl.code.Curl_Squeeze tr c_l c_h d dst tc =
      if dst.length < 1 ∨ dst.length > 64 then some (some "consts.ErrInvalidBatchSize", c_l, c_h, d, dst)
      else if tc.toInt.tmod 243 ≠ 0 then some (some "consts.ErrInvalidSqueezeLength", c_l, c_h, d, dst)
      else Flow.result (
        Flow.bind (Go.forIn ((List.range dst.length).map (BitVec.ofNat 64)) dst (makeStep tc)) fun dst =>
        Flow.bind (Go.forIn (Go.forUp true false 0#64 tc 243) (c_l, c_h, d, dst) (blockS tr)) fun st_1 =>
        Flow.done ((none : Option String), st_1.1, st_1.2.1, st_1.2.2.1, st_1.2.2.2)) := by
  rw [Curl_Squeeze_unfold, batch_guard _ hdst, srem_guard]
  simp only [decide_eq_true_eq, apply_ite Flow.result]
  rfl

/-! ### the `make` loop -/

theorem makeStep_run {ρ : Type} (tc : W) (hn : tc.msb = false) (dst : Rows) (k : Nat) (hk : k < 64) :
    makeStep (ρ := ρ) tc dst (BitVec.ofNat 64 k) = .run (dst.set k (List.replicate tc.toNat 0#8)) := by
  simp only [makeStep, nonneg, hn, toNat_ofNat_lt k (by omega), Bool.not_false, Bool.not_true, Bool.false_eq_true,
    if_false]

theorem make_loop {ρ : Type} (tc : W) (hn : tc.msb = false) (dst : Rows) (hlen : dst.length ≤ 64) :
    forIn ((List.range dst.length).map (BitVec.ofNat 64)) dst (makeStep (ρ := ρ) tc) =
      .run (List.replicate dst.length (List.replicate tc.toNat 0#8)) := by
  rw [Go.forIn_map,
    forIn_eq_foldl _ _ _ _ (fun s k hk => makeStep_run tc hn s k (by have := List.mem_range.mp hk; omega)),
    foldl_set_range _ _ dst (Nat.le_refl _), List.drop_length, List.append_nil]

theorem make_panic {ρ : Type} (tc : W) (hn : tc.msb = true) (dst : Rows) (hlen : 1 ≤ dst.length) :
    forIn ((List.range dst.length).map (BitVec.ofNat 64)) dst (makeStep (ρ := ρ) tc) = .panic := by
  obtain ⟨n, hn'⟩ : ∃ n, dst.length = n + 1 := ⟨dst.length - 1, by omega⟩
  rw [hn', List.range_succ_eq_map, List.map_cons, forIn_cons]
  simp only [makeStep, nonneg, hn, Bool.not_true, Bool.not_false, if_true, Flow.bind_panic]

/-! ### the lanes of one block of `Squeeze` -/

/-- a row of `dst` while it is being filled: the trits produced so far, then the zeros of `make` up to length `tc` -/
def pad (tc : Nat) (a : List Int) : List (BitVec 8) := a.map (BitVec.ofInt 8) ++ List.replicate (tc - a.length) 0#8

theorem pad_length (tc : Nat) (a : List Int) (h : a.length ≤ tc) : (pad tc a).length = tc := by
  simp only [pad, List.length_append, List.length_map, List.length_replicate]; omega

theorem pad_full (tc : Nat) (a : List Int) (h : a.length = tc) : pad tc a = a.map (BitVec.ofInt 8) := by
  simp [pad, h]

theorem outLane_length (c : Curl.Curl) (j : Nat) : (Curl.outLane c j).length = 243 := by
  rw [Curl.outLane, List.length_map, List.length_range]

/-- what `c.out(dst[j][i:], j)` makes of row `j` -/
def rowS (c : Curl.Curl) (off : Nat) (k : Nat) (row : List (BitVec 8)) : List (BitVec 8) :=
  row.take off ++ ((Curl.outLane c k).map (BitVec.ofInt 8) ++ (row.drop off).drop 243)

theorem rowS_length (c : Curl.Curl) (off k : Nat) (row : List (BitVec 8)) (h : off + 243 ≤ row.length) :
    (rowS c off k row).length = row.length := by
  simp only [rowS, List.length_append, List.length_take, List.length_map, outLane_length, List.length_drop]
  omega

theorem rowS_pad (c : Curl.Curl) (tc off k : Nat) (a : List Int) (ha : a.length = off) :
    rowS c off k (pad tc a) = pad tc (a ++ Curl.outLane c k) := by
  have h1 : (pad tc a).take off = a.map (BitVec.ofInt 8) := by
    rw [pad, List.take_append_of_le_length (by simp [ha])]
    exact List.take_of_length_le (by simp [ha])
  have h2 : (pad tc a).drop off = List.replicate (tc - off) 0#8 := by
    rw [pad, List.drop_append_of_le_length (by simp [ha]), List.drop_of_length_le (by simp [ha]), ha]
    rfl
  rw [rowS, h1, h2, pad, List.map_append, List.append_assoc, List.drop_replicate, List.length_append, ha,
    outLane_length, Nat.sub_sub]

theorem laneStepS_run {ρ : Type} (c : Curl.Curl) (off : Nat) (hoff : off < 2 ^ 63) (dst : Rows) (k : Nat)
    (hk : k < 64) (hrow : off + 243 ≤ (dst.getD k []).length) :
    laneStepS (ρ := ρ) c.l.toList c.h.toList (BitVec.ofNat 64 off) dst (BitVec.ofNat 64 k) =
      .run (upd [] (rowS c off) dst k) := by
  have h1 : off ≤ (dst.getD k []).length := by omega
  have h2 : 243 ≤ ((dst.getD k []).drop off).length := by rw [List.length_drop]; omega
  simp only [laneStepS, Go.sliceFromS_ofNat off _ hoff, toNat_ofNat_lt off (by omega), toNat_ofNat_lt k (by omega),
    out_eq, h1, h2, Nat.mod_eq_of_lt hk, if_true, decide_true, Bool.not_true, Bool.false_eq_true, if_false, call,
    Flow.bind_run, upd, rowS]

/-- all rows have length `tc` -/
def RowsOK (lanes tc : Nat) (dst : Rows) : Prop := dst.length = lanes ∧ ∀ row ∈ dst, row.length = tc

theorem RowsOK_upd (lanes tc : Nat) (dst : Rows) (h : RowsOK lanes tc dst) (c : Curl.Curl) (off k : Nat)
    (hoff : off + 243 ≤ tc) (hk : k < lanes) : RowsOK lanes tc (upd [] (rowS c off) dst k) := by
  obtain ⟨h1, h2⟩ := h
  refine ⟨by simp [upd, h1], ?_⟩
  intro row hrow
  rcases List.mem_or_eq_of_mem_set hrow with hm | rfl
  · exact h2 row hm
  · have := h2 _ (getD_mem dst k (by omega) [])
    rw [rowS_length c off k _ (by omega), this]

theorem lanesS_loop {ρ : Type} (c : Curl.Curl) (lanes : Nat) (hlanes : lanes ≤ 64) (tc off : Nat) (hoff : off + 243 ≤ tc)
    (htc : tc < 2 ^ 63) (dst : Rows) (hd : RowsOK lanes tc dst) :
    forIn ((List.range lanes).map (BitVec.ofNat 64)) dst
        (laneStepS (ρ := ρ) c.l.toList c.h.toList (BitVec.ofNat 64 off)) =
      .run ((List.range lanes).foldl (upd [] (rowS c off)) dst) := by
  rw [Go.forIn_map]
  apply (forIn_inv (RowsOK lanes tc) _ _ _ _ dst hd).1
  intro s hs k hk
  have hk' : k < lanes := List.mem_range.mp hk
  have hrow : (s.getD k []).length = tc := hs.2 _ (getD_mem s k (by rw [hs.1]; exact hk') [])
  exact ⟨laneStepS_run c off (by omega) s k (by omega) (by omega), RowsOK_upd lanes tc s hs c off k hoff hk'⟩

/-- the model's new accumulator -/
def accM (c : Curl.Curl) (lanes : Nat) (acc : List (List Int)) : List (List Int) :=
  (List.range lanes).map fun j => acc.getD j [] ++ Curl.outLane c j

theorem lanesS_pad (c : Curl.Curl) (lanes tc off : Nat) (acc : List (List Int))
    (hlen : acc.length = lanes) (hacc : ∀ a ∈ acc, a.length = off) :
    (List.range lanes).foldl (upd [] (rowS c off)) (acc.map (pad tc)) = (accM c lanes acc).map (pad tc) := by
  rw [foldl_set_getD [] (rowS c off) (acc.map (pad tc)) lanes (by simp [hlen]), List.length_map, hlen, accM,
    List.map_map]
  apply List.map_congr_left
  intro j hj
  have hj' : j < lanes := List.mem_range.mp hj
  have hg : (acc.map (pad tc)).getD j [] = pad tc (acc.getD j []) := by
    simp only [List.getD_eq_getElem?_getD, List.getElem?_map, List.getElem?_eq_getElem (hlen ▸ hj'),
      Option.map_some, Option.getD_some]
  simp only [if_pos hj', hg, Function.comp]
  exact rowS_pad c tc off j _ (hacc _ (getD_mem acc j (hlen ▸ hj') []))

/-! ### one block of `Squeeze`, the block loop -/

/-- a state of the model's `squeezeBlocks` as the state of the code's block loop (`tc` = the row length) -/
def embS (tc : Nat) (t : Curl.Curl × List (List Int)) : SSt :=
  (t.1.l.toList, t.1.h.toList, dirBV t.1.direction, t.2.map (pad tc))

def runS {ρ : Type} (tc : Nat) : Option (Curl.Curl × List (List Int)) → Flow ρ SSt
  | some t => .run (embS tc t)
  | none => .panic

/-- the `transform` at the start of a block: only when already squeezing -/
def preS (c : Curl.Curl) : Option Curl.Curl := if c.direction = .squeezing then Curl.Curl.transform c else some c

/-- one step of the model's `squeezeBlocks` -/
def stepS (lanes : Nat) (c1 : Curl.Curl) (acc : List (List Int)) : Curl.Curl × List (List Int) :=
  ({ c1 with direction := .squeezing }, accM { c1 with direction := .squeezing } lanes acc)

theorem squeezeBlocks_succ (lanes n : Nat) (c : Curl.Curl) (acc : List (List Int)) :
    Curl.squeezeBlocks lanes (n + 1) c acc =
      (preS c).bind fun c1 => Curl.squeezeBlocks lanes n (stepS lanes c1 acc).1 (stepS lanes c1 acc).2 := by
  rw [Curl.squeezeBlocks, preS]
  split <;> rfl

theorem pre_code {ρ : Type} (c : Curl.Curl) :
    (if (dirBV c.direction == 1#64) then
      Flow.bind (Go.call (trM c.l.toList c.h.toList)) (fun st_2 => Flow.run (st_2.1, st_2.2))
    else Flow.run (c.l.toList, c.h.toList) : Flow ρ P2) = runM (preS c) := by
  rw [trM_eq, preS]
  cases hd : c.direction
  · rfl
  · simp only [dirBV, BEq.rfl, if_true]
    cases Curl.Curl.transform c <;> rfl

theorem blockS_unfold {ρ : Type} (tr : TR) (l h : List W) (d : W) (dst : Rows) (i : W) :
    blockS (ρ := ρ) tr (l, h, d, dst) i =
      Flow.bind (if (d == 1#64) then Flow.bind (Go.call (tr l h)) (fun st_2 => Flow.run (st_2.1, st_2.2))
        else Flow.run (l, h)) fun st_3 =>
      Flow.bind (Go.forIn ((List.range dst.length).map (BitVec.ofNat 64)) dst (laneStepS st_3.1 st_3.2 i))
        fun dst => Flow.run (st_3.1, st_3.2, 1#64, dst) := rfl

theorem blockS_eq {ρ : Type} (lanes : Nat) (hlanes : lanes ≤ 64) (tc off : Nat) (hoff : off + 243 ≤ tc)
    (htc : tc < 2 ^ 63) (c : Curl.Curl) (acc : List (List Int)) (hlen : acc.length = lanes)
    (hacc : ∀ a ∈ acc, a.length = off) :
    blockS (ρ := ρ) trM (embS tc (c, acc)) (BitVec.ofNat 64 off) =
      runS tc ((preS c).map fun c1 => stepS lanes c1 acc) := by
  rw [embS, blockS_unfold, pre_code]
  cases preS c with
  | none => rfl
  | some c1 =>
    have hd : RowsOK lanes tc (acc.map (pad tc)) := by
      refine ⟨by simp [hlen], ?_⟩
      intro row hrow
      obtain ⟨a, ha, rfl⟩ := List.mem_map.mp hrow
      exact pad_length tc a (by rw [hacc a ha]; omega)
    have hl := lanesS_loop (ρ := ρ) { c1 with direction := .squeezing } lanes hlanes tc off hoff htc _ hd
    rw [lanesS_pad _ lanes tc off acc hlen hacc] at hl
    simp only [runM, Flow.bind_run, List.length_map, hlen]
    rw [hl]
    rfl

theorem accM_ok (c : Curl.Curl) (lanes off : Nat) (acc : List (List Int)) (hlen : acc.length = lanes)
    (hacc : ∀ a ∈ acc, a.length = off) :
    (accM c lanes acc).length = lanes ∧ ∀ a ∈ accM c lanes acc, a.length = off + 243 := by
  refine ⟨by simp [accM], ?_⟩
  intro a ha
  obtain ⟨j, hj, rfl⟩ := List.mem_map.mp ha
  have hj' : j < acc.length := hlen ▸ List.mem_range.mp hj
  rw [List.length_append, outLane_length, hacc _ (getD_mem acc j hj' [])]

/-- the block loop is the model's `squeezeBlocks` -/
theorem blocksS_ok {ρ : Type} (lanes : Nat) (hlanes : lanes ≤ 64) (tc : Nat) (htc : tc < 2 ^ 63) :
    ∀ (n off : Nat) (c : Curl.Curl) (acc : List (List Int)), acc.length = lanes → (∀ a ∈ acc, a.length = off) →
      off + n * 243 ≤ tc →
      forIn (blockIdx n off) (embS tc (c, acc)) (blockS (ρ := ρ) trM) =
        runS tc (Curl.squeezeBlocks lanes n c acc) := by
  intro n
  induction n with
  | zero => intro off c acc _ _ _; rfl
  | succ n ih =>
    intro off c acc hlen hacc hb
    have hb1 : off + 243 ≤ tc := by omega
    have hb2 : off + 243 + n * 243 ≤ tc := by omega
    rw [blockIdx_succ, forIn_cons, blockS_eq lanes hlanes tc off hb1 htc c acc hlen hacc, squeezeBlocks_succ]
    cases preS c with
    | none => rfl
    | some c1 =>
      obtain ⟨h1, h2⟩ := accM_ok { c1 with direction := .squeezing } lanes off acc hlen hacc
      exact ih (off + 243) _ _ h1 h2 hb2

/-- a property of the accumulated rows that every block preserves holds of the rows the model returns -/
theorem squeezeBlocks_inv (lanes : Nat) (Q : Nat → List (List Int) → Prop)
    (hQ : ∀ off c acc, Q off acc → Q (off + 243) (accM c lanes acc)) :
    ∀ (n off : Nat) (c : Curl.Curl) (acc : List (List Int)) (t : Curl.Curl × List (List Int)),
      Q off acc → Curl.squeezeBlocks lanes n c acc = some t → Q (off + 243 * n) t.2 := by
  intro n
  induction n with
  | zero =>
    intro off c acc t hq h
    cases h
    exact hq
  | succ n ih =>
    intro off c acc t hq h
    rw [squeezeBlocks_succ] at h
    obtain ⟨c1, _, h⟩ := Option.bind_eq_some_iff.mp h
    rw [show off + 243 * (n + 1) = off + 243 + 243 * n by omega]
    exact ih _ _ _ t (hQ off _ acc hq) h

/-! ### the outcome of `Squeeze` -/

/-- the image of an outcome of the model's `squeeze` on state `c`: what the translated `Squeeze` returns when it is
given the rows `dst` -/
def encS (c : Curl.Curl) (dst : Rows) : Curl.Outcome (List (List Int)) → Option SR
  | .err e => some (some (errStr e), c.l.toList, c.h.toList, dirBV c.direction, dst)
  | .panic => none
  | .ok c' out => some (none, c'.l.toList, c'.h.toList, dirBV c'.direction, out.map (·.map (BitVec.ofInt 8)))

theorem embS_init (tc lanes : Nat) (c : Curl.Curl) :
    (c.l.toList, c.h.toList, dirBV c.direction, List.replicate lanes (List.replicate tc 0#8)) =
      embS tc (c, List.replicate lanes []) := by
  simp [embS, pad]

/-! ### the 8-bit representation of the output loses nothing -/

/-- a value that survives the round trip through `int8` -/
def Fits (x : Int) : Prop := (BitVec.ofInt 8 x).toInt = x

theorem accM_fits (c : Curl.Curl) (lanes : Nat) (acc : List (List Int)) (hacc : ∀ a ∈ acc, ∀ x ∈ a, Fits x) :
    ∀ a ∈ accM c lanes acc, ∀ x ∈ a, Fits x := by
  intro a ha x hx
  obtain ⟨j, _, rfl⟩ := List.mem_map.mp ha
  rcases List.mem_append.mp hx with hx | hx
  · by_cases hj : j < acc.length
    · exact hacc _ (getD_mem acc j hj []) x hx
    · rw [List.getD_eq_getElem?_getD, List.getElem?_eq_none (by omega)] at hx
      cases hx
  · exact (CurlCodeLanes.outLane_trits _ j x hx).2

end Iota.Tie.CurlCodeSponge
