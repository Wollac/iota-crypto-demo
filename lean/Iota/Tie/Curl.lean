/-
Tie shared by C06 and C20: what `Iota/Gen/Curl.lean` and `Iota/Gen/CurlAsm.lean` regenerate from pkg/curl, compared with
the model.  By `rfl` / `decide`: the constants, the translated `sBox` and `bool2int`, the build-tag selection of the
permutation, the assembly file parsed into instructions, the text of `NewCurlP81`, `Clone`, `Curl.transform` (curl.go; the
only functions held as text) and the text of the remaining declarations.  The code ties `code_*`: the functions of
curl.go / transform.go translated as code (`Gen.Curl.code.*`) equal the model for all inputs.
-/
import Iota.Gen.Curl
import Iota.Gen.CurlAsm
import Iota.Tie.Expect
import Iota.Model.Curl
import Iota.Model.AsmProgram
import Iota.Proofs.Vectors.Curl
import Iota.Tie.CurlCodeLanes
import Iota.Tie.CurlCodePerm
import Iota.Tie.CurlCodeSponge

namespace Iota.Tie.Curl
open Iota

theorem constants :
    Gen.Curl.stateSize = (Curl.stateSize : Int) ∧ Gen.Curl.numRounds = (Curl.numRounds : Int) ∧
    Gen.Curl.hashTrinarySize = (Curl.hashSize : Int) ∧ Gen.Curl.maxBatchSize = 64 := by decide

theorem sBox_eq (aL aH bL bH : BitVec 64) : Gen.Curl.sBox aL aH bL bH = Curl.sBox aL aH bL bH := rfl

theorem bool2int_eq (b : Bool) : Gen.Curl.bool2int b = Curl.bool2int b := by
  cases b <;> decide

/-- which permutation a build uses: the assembly exactly for amd64 && gc && !purego, the portable one otherwise,
and the portable `transform` is a plain call of `transformGeneric` -/
theorem build_selection :
    Gen.Curl.buildTagAsm = "//go:build amd64 && gc && !purego" ∧
    Gen.Curl.buildTagAsmS = "//go:build amd64 && gc && !purego" ∧
    Gen.Curl.buildTagNoasm = "// +build !amd64 !gc purego" ∧
    Gen.Curl.noasmBody = "func transform(lto, hto, lfrom, hfrom *[StateSize]uint) { transformGeneric(lto, hto, lfrom, hfrom) }" :=
  ⟨rfl, rfl, rfl, rfl⟩

/-- the instruction list parsed from transform_amd64.s is the one the C20 proofs are about -/
theorem asm_program : Gen.CurlAsm.program = Asm.program := by decide +kernel

-- The three functions of curl.go held as text.  The text of `bool2int`, `sBox`, `Curl.in`, `Curl.out`, `Curl.Reset`,
-- `Curl.CopyState`, `transformGeneric`, `Curl.Absorb` and `Curl.Squeeze` is not held: they are translated as code,
-- `Gen.Curl.code.*`, and tied to the model for all inputs (`code_*` below; lemmas in `Iota/Tie/CurlCodeLanes.lean`,
-- `CurlCodePerm.lean`, `CurlCodeSponge.lean`).
theorem src :
    Gen.Curl.src_curl_NewCurlP81 = Expect.Curl_src_curl_NewCurlP81 ∧
    Gen.Curl.src_curl_Curl_Clone = Expect.Curl_src_curl_Curl_Clone ∧
    Gen.Curl.src_curl_Curl_transform = Expect.Curl_src_curl_Curl_transform :=
  ⟨rfl, rfl, rfl⟩

/-- the normalized text of everything else the package declares (imports, constants, types, variables, build constraints and
the functions not held one by one) equals the expected one (`Iota/Tie/Expect.lean`): no declaration of the modelled packages
can change without a tie theorem failing. -/
theorem rest :
    Gen.Curl.rest_curl = Expect.Curl_rest_curl :=
  rfl

/-! ### curl.go / transform.go translated AS CODE = the model, for all inputs
`Gen.Curl.code.*` are regenerated from the Go source on every run by the loop translator (methods: the receiver is
represented by the fields it uses, `c_l`, `c_h`, `c_direction`; `none` = run-time panic).  Lemmas:
`Iota/Tie/CurlCodeLanes.lean`, `Iota/Tie/CurlCodePerm.lean`.  A `Plane` is a `Vector (BitVec 64) 729`; `toList` is the
content of the Go array. -/
theorem code_bool2int (b : Bool) : Gen.Curl.code.bool2int b = Curl.bool2int b := CurlCodeLanes.bool2int_eq b
theorem code_sBox (aL aH bL bH : BitVec 64) : Gen.Curl.code.sBox aL aH bL bH = Curl.sBox aL aH bL bH := rfl

/-- `c.in(src, idx)`: panics exactly when `src` has fewer than 243 trits (capacity is not modelled: cap = len; Go would
extend `src[:243]` into spare capacity); otherwise the two planes are the model's `inLane` for lane `idx mod 64` -/
theorem code_in (l h : Curl.Plane) (src : List (BitVec 8)) (idx : BitVec 64) :
    Gen.Curl.code.Curl_in l.toList h.toList src idx =
      if 243 ≤ src.length then
        some ((Curl.inLane l h (src.map (·.toInt)) (idx.toNat % 64)).1.toList,
              (Curl.inLane l h (src.map (·.toInt)) (idx.toNat % 64)).2.toList)
      else none := CurlCodeLanes.in_eq l h src idx

/-- `c.out(dst, idx)`: panics exactly when `dst` has fewer than 243 entries (cap = len, as above); otherwise its first 243 entries become the
model's `outLane` of lane `idx mod 64` (values in {-1,0,1}) and the rest of `dst` is untouched -/
theorem code_out (c : Curl.Curl) (dst : List (BitVec 8)) (idx : BitVec 64) :
    (Gen.Curl.code.Curl_out c.l.toList c.h.toList dst idx =
      if 243 ≤ dst.length then some ((Curl.outLane c (idx.toNat % 64)).map (BitVec.ofInt 8) ++ dst.drop 243) else none) ∧
    (∀ x ∈ Curl.outLane c (idx.toNat % 64), (x = -1 ∨ x = 0 ∨ x = 1) ∧ (BitVec.ofInt 8 x).toInt = x) :=
  ⟨CurlCodeLanes.out_eq c dst idx, CurlCodeLanes.outLane_trits c _⟩

/-- `Reset` never panics and yields the model's initial state (direction 0 = `SpongeAbsorbing`) -/
theorem code_reset (l h : List (BitVec 64)) (hl : l.length = 729) (hh : h.length = 729) (d : BitVec 64) :
    Gen.Curl.code.Curl_Reset l h d = some (Curl.init.l.toList, Curl.init.h.toList, 0#64) := by
  rw [CurlCodeLanes.Curl_Reset_unfold, CurlCodeLanes.ones_loop 729 (Nat.le_refl _) l h (by omega) (by omega),
    Go.Flow.bind_run, Go.Flow.result_done, List.drop_of_length_le (by omega), List.drop_of_length_le (by omega),
    List.append_nil]
  rfl

/-- `CopyState(l, h)` (assumption of the translation: `l` and `h` do not overlap): Go's `copy`; with 729-word
destinations exactly the two planes -/
theorem code_copyState (c : Curl.Curl) (l h : List (BitVec 64)) :
    (Gen.Curl.code.Curl_CopyState c.l.toList c.h.toList l h =
      (c.l.toList.take l.length ++ l.drop 729, c.h.toList.take h.length ++ h.drop 729)) ∧
    (l.length = 729 → h.length = 729 →
      Gen.Curl.code.Curl_CopyState c.l.toList c.h.toList l h = (c.copyState.1.toList, c.copyState.2.toList)) := by
  have h0 : Gen.Curl.code.Curl_CopyState c.l.toList c.h.toList l h =
      (c.l.toList.take l.length ++ l.drop 729, c.h.toList.take h.length ++ h.drop 729) := by
    simp only [Gen.Curl.code.Curl_CopyState, Go.copy, Vector.length_toList]
  refine ⟨h0, fun hl hh => ?_⟩
  rw [h0, hl, hh, List.drop_of_length_le (by omega), List.drop_of_length_le (by omega),
    List.take_of_length_le (by simp), List.take_of_length_le (by simp)]
  simp [Curl.Curl.copyState]

/-- `transformGeneric` (assumption of the translation, established by the extractor at its call chain: four pairwise
distinct arrays): same panic behaviour and same final contents of all four arrays as the model, for ALL planes -/
theorem code_transformGeneric (b : Curl.Bufs) :
    Gen.Curl.code.transformGeneric b.lto.toList b.hto.toList b.lfrom.toList b.hfrom.toList =
      (Curl.transformGeneric b).map (fun r => (r.lto.toList, r.hto.toList, r.lfrom.toList, r.hfrom.toList)) :=
  CurlCodePerm.transformGeneric_eq b

/-- … hence the regenerated code never panics and computes 81 rounds of the word-level specification `roundsW` into the
`to` arrays (and 80 rounds into the `from` arrays, which serve as scratch space) -/
theorem code_transformGeneric_spec (b : Curl.Bufs) :
    Gen.Curl.code.transformGeneric b.lto.toList b.hto.toList b.lfrom.toList b.hfrom.toList =
      some ((Spec.CurlW.roundsW 81 (b.lfrom, b.hfrom)).1.toList, (Spec.CurlW.roundsW 81 (b.lfrom, b.hfrom)).2.toList,
            (Spec.CurlW.roundsW 80 (b.lfrom, b.hfrom)).1.toList, (Spec.CurlW.roundsW 80 (b.lfrom, b.hfrom)).2.toList) :=
  CurlCodePerm.transformGeneric_some b

/-! ### `Absorb` and `Squeeze` translated AS CODE = the model (lemmas: `Iota/Tie/CurlCodeSponge.lean`)
`c.transform()` is not translated (its body calls the build-dependent `transform`: the assembly on amd64, C20): it is the
first parameter of the translated methods, instantiated here by `trM` = the model's `Curl.transform` on planes given as
lists.  `dirBV` encodes the direction (absorbing ↦ 0, squeezing ↦ 1), `tritsI` reads int8 trits as integers, `encA` /
`encS` encode the model's outcome (error ↦ the error name with the state — and `dst` — unchanged, panic ↦ `none`). -/
open Iota.Tie.CurlCodeSponge Iota.Go in
/-- `Absorb`, every state, every batch of fewer than 2^63 lanes (also of wrong size, with short lanes, in the wrong
direction), every `tritsCount ≥ 0`: same error, same panic condition (with cap = len for the lanes), same resulting planes
as the model -/
theorem code_absorb (c : Curl.Curl) (src : List (List (BitVec 8))) (hsrc : src.length < 2 ^ 63) (tc : BitVec 64)
    (h0 : 0 ≤ tc.toInt) :
    Gen.Curl.code.Curl_Absorb trM c.l.toList c.h.toList (dirBV c.direction) src tc =
      encA c (Curl.Curl.absorb c (src.map tritsI) tc.toNat) := by
  rw [Curl_Absorb_eq _ _ _ _ _ _ hsrc, tmod_nonneg tc h0, Curl.Curl.absorb]
  simp only [List.length_map, Int.natCast_ne_zero, dirBV_guard, apply_ite (encA c)]
  refine ite_congr rfl (fun _ => rfl) fun hb => ite_congr rfl (fun _ => rfl) fun hm =>
    ite_congr rfl (fun _ => rfl) fun _ => ?_
  have hlt := (toInt_nonneg_iff tc).mp h0
  have hn : 0 + 243 * (tc.toNat / 243) = tc.toNat := by omega
  rw [forUp_blocks tc h0 (by omega), blocks_eq src (by omega) _ 0 c (by omega), hn]
  by_cases hL : Long src tc.toNat
  · rw [if_neg (fun h => h.2 hL), if_neg (fun h => (any_short_iff src _).mp h.2 hL)]
    cases Curl.absorbBlocks (src.map tritsI) (tc.toNat / 243) 0 c <;> rfl
  · have hz : tc.toNat ≠ 0 := fun hz => hL (by rw [hz]; exact fun _ _ => Nat.zero_le _)
    rw [if_pos ⟨by omega, hL⟩, if_pos ⟨hz, (any_short_iff src _).mpr hL⟩]
    rfl
open Iota.Tie.CurlCodeSponge Iota.Go in
/-- `Squeeze` likewise (`tritsCount ≥ 0`, fewer than 2^63 rows): planes, direction and the rows written (the trits of
`outLane`, as int8; read as signed bytes they give back the model's output).  Not modelled: Go's allocation limit — for an
enormous `tritsCount` Go's `make` panics with "len out of range" where the translation builds the rows. -/
theorem code_squeeze (c : Curl.Curl) (dst : List (List (BitVec 8))) (hdst : dst.length < 2 ^ 63) (tc : BitVec 64)
    (h0 : 0 ≤ tc.toInt) :
    (Gen.Curl.code.Curl_Squeeze trM c.l.toList c.h.toList (dirBV c.direction) dst tc =
      encS c dst (Curl.Curl.squeeze c dst.length tc.toNat)) ∧
    (∀ c' out, Curl.Curl.squeeze c dst.length tc.toNat = .ok c' out →
      (out.map (·.map (BitVec.ofInt 8))).map tritsI = out) := by
  refine ⟨?_, fun c' out h => ?_⟩
  · rw [Curl_Squeeze_eq _ _ _ _ _ _ hdst, tmod_nonneg tc h0, Curl.Curl.squeeze]
    simp only [Int.natCast_ne_zero, apply_ite (encS c dst)]
    refine ite_congr rfl (fun _ => rfl) fun hb => ite_congr rfl (fun _ => rfl) fun hm => ?_
    have hlt := (toInt_nonneg_iff tc).mp h0
    have hnil : ∀ a ∈ List.replicate dst.length ([] : List Int), a.length = 0 := fun a ha => by
      rw [List.eq_of_mem_replicate ha]; rfl
    rw [make_loop tc (BitVec.msb_eq_false_iff_two_mul_lt.mpr (by omega)) dst (by omega), Flow.bind_run,
      forUp_blocks tc h0 (by omega), embS_init,
      blocksS_ok dst.length (by omega) tc.toNat hlt _ 0 c _ (List.length_replicate ..) hnil (by omega)]
    cases hs : Curl.squeezeBlocks dst.length (tc.toNat / 243) c (List.replicate dst.length []) with
    | none => rfl
    | some t =>
      have hlen := squeezeBlocks_inv dst.length (fun off acc => acc.length = dst.length ∧ ∀ a ∈ acc, a.length = off)
        (fun off c acc h => accM_ok c _ off acc h.1 h.2) _ 0 c _ t ⟨List.length_replicate .., hnil⟩ hs
      have hpad : t.2.map (pad tc.toNat) = t.2.map (·.map (BitVec.ofInt 8)) :=
        List.map_congr_left (fun a ha => pad_full _ a (by rw [hlen.2 a ha]; omega))
      simp only [runS, embS, Flow.bind_run, Flow.result_done, encS, hpad]
  · rw [Curl.Curl.squeeze] at h
    split at h
    · cases h
    split at h
    · cases h
    split at h
    · next hs =>
      cases h
      have hf := squeezeBlocks_inv dst.length (fun _ acc => ∀ a ∈ acc, ∀ x ∈ a, Fits x)
        (fun _ c acc h => accM_fits c dst.length acc h) _ 0 c _ _
        (fun a ha x hx => by rw [List.eq_of_mem_replicate ha] at hx; cases hx) hs
      rw [List.map_map]
      refine (List.map_congr_left fun a ha => ?_).trans (List.map_id out)
      simp only [Function.comp, tritsI, List.map_map]
      exact (List.map_congr_left fun x hx => hf a ha x hx).trans (List.map_id a)
    · cases h
open Iota.Tie.CurlCodeSponge in
/-- the assumption under which the two block loops `for i := 0; i < tritsCount; i += 243` are translated — `i += 243`
does not wrap around — holds behind the guard `tritsCount % 243 == 0` that precedes them: the index list of the
translation is what the loop header computes step by step in 64-bit arithmetic.  The side condition of `Go.forUp_sound`,
`tritsCount + 242 ≤ 2^63 - 1`, fails for the multiples of 243 within 242 of `2^63`; what saves the loop is that the bound is
itself a multiple of the step: the indices are multiples of 243 not above `tritsCount`, so the last addition yields at most
`tritsCount < 2^63` (`Go.forUp_sound_of`). -/
theorem code_sponge_header (tc : BitVec 64) (h0 : 0 ≤ tc.toInt) (hm : tc.toNat % 243 = 0) (fuel : Nat)
    (hf : tc.toNat / 243 < fuel) :
    Go.loopIdx (Go.cmpUp true false tc) (· + 243#64) fuel 0#64 = Go.forUp true false 0#64 tc 243 := by
  have hlt := (Go.toInt_nonneg_iff tc).mp h0
  refine Go.forUp_sound_of true false tc 243 (by decide)
    (fun i => ∃ m, i = BitVec.ofNat 64 (243 * m) ∧ 243 * m ≤ tc.toNat) ?_ fuel 0#64 ⟨0, rfl, Nat.zero_le _⟩ ?_
  · rintro i ⟨m, rfl, hle⟩ hc
    rw [Go.cmpUp_iff] at hc
    simp only [Bool.false_eq_true, if_false, Go.ord, Go.maxOrd, if_true] at hc ⊢
    rw [Go.toInt_ofNat_small _ (by omega)] at hc ⊢
    rw [BitVec.toInt_eq_toNat_of_lt (by omega)] at hc
    exact ⟨by omega, m + 1, by rw [← BitVec.ofNat_add, Nat.mul_succ], by omega⟩
  · rw [forUp_blocks tc h0 hm, blockIdx, List.length_map, List.length_range]
    exact hf
open Iota.Tie.CurlCodeSponge in
/-- outside the property's domain, recorded for completeness: a NEGATIVE `tritsCount`.  Go's `%` keeps the sign of the
dividend (`Int.tmod`; `x.tmod 243 = 0 ↔ 243 ∣ x` is `Int.dvd_iff_tmod_eq_zero`).  `Absorb` returns `ErrInvalidTritsLength`
unless it is a multiple of 243, in which case it does nothing (the loop is not entered: `0 < tritsCount` is false) or panics
when squeezing (the direction check comes before the loop); `Squeeze` returns `ErrInvalidSqueezeLength` unless it is a
multiple of 243, in which case the first `make(trinary.Trits, tritsCount)` panics. -/
theorem code_sponge_negative (tr : TR) (c_l c_h : List (BitVec 64)) (d : BitVec 64) (rows : List (List (BitVec 8)))
    (h1 : 1 ≤ rows.length) (h64 : rows.length ≤ 64) (tc : BitVec 64) (hneg : tc.toInt < 0) :
    (Gen.Curl.code.Curl_Absorb tr c_l c_h d rows tc =
      if tc.toInt.tmod 243 ≠ 0 then some (some "consts.ErrInvalidTritsLength", c_l, c_h)
      else if d ≠ 0#64 then none else some (none, c_l, c_h)) ∧
    (Gen.Curl.code.Curl_Squeeze tr c_l c_h d rows tc =
      if tc.toInt.tmod 243 ≠ 0 then some (some "consts.ErrInvalidSqueezeLength", c_l, c_h, d, rows) else none) := by
  have hb : ¬ (rows.length < 1 ∨ rows.length > 64) := by omega
  rw [Curl_Absorb_eq _ _ _ _ _ _ (by omega), Curl_Squeeze_eq _ _ _ _ _ _ (by omega), if_neg hb, if_neg hb]
  refine ⟨ite_congr rfl (fun _ => rfl) fun _ => ite_congr rfl (fun _ => rfl) fun _ => ?_,
    ite_congr rfl (fun _ => rfl) fun _ => ?_⟩
  · have hlt : BitVec.slt 0#64 tc = false := by
      rw [BitVec.slt]
      exact decide_eq_false (by rw [show (0#64).toInt = 0 from rfl]; omega)
    have hup : Go.forUp true false 0#64 tc 243 = [] := by
      simp only [Go.forUp, if_true, Bool.false_eq_true, if_false, hlt]
    rw [hup]
    rfl
  · rw [make_panic tc (by rw [BitVec.msb_eq_toInt]; exact decide_eq_true hneg) rows h1]
    rfl

open Iota.Tie.CurlCodeSponge in
/-- the parameter `trM` by which `Absorb` / `Squeeze` are instantiated is what the portable build's `c.transform()` computes
with the GENERATED permutation (two zeroed scratch planes as `to`, the state as `from`, the state becomes the scratch
planes — the text of that five-line wrapper is held and compared, `src`): so for the portable build the whole sponge is generated
code; for the amd64 build C20 replaces `transformGeneric` by the assembly. -/
theorem code_transform_wrapper (c : Curl.Curl) :
    trM c.l.toList c.h.toList =
      (Gen.Curl.code.transformGeneric (List.replicate 729 0#64) (List.replicate 729 0#64) c.l.toList c.h.toList).map
        (fun r => (r.1, r.2.1)) := by
  rw [trM_eq]
  have h := CurlCodePerm.transformGeneric_eq
    { lto := Vector.replicate 729 0, hto := Vector.replicate 729 0, lfrom := c.l, hfrom := c.h }
  simp only [Vector.toList_replicate] at h
  rw [show (List.replicate 729 (0#64 : BitVec 64)) = List.replicate 729 (0 : BitVec 64) from rfl, h]
  unfold Curl.Curl.transform
  dsimp only
  generalize Curl.transformGeneric _ = x
  cases x <;> rfl

end Iota.Tie.Curl
