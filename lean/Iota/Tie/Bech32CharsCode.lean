/-
Code tie for pkg/bech32/chars.go: the constructor `newEncoding` and the methods `encoding.encode`,
`encoding.decode`, translated AS CODE (loops, run-time panics, `for i := range string` over the rune starts of Go's
UTF-8 decoder) by cmd/extract into `Iota/Gen/Bech32.lean` (`namespace chars`), against the hand-written model
`Iota/Model/Bech32.lean` (`charset`, `decMap`, `charsetEncode`, `charsetDecode`).

* `newEncoding_charset`: on the charset literal of the source, `newEncoding` returns the tables of the model
  (`encTable`, `decTable`); `newEncoding_length32` gives its result for EVERY alphabet of 32 bytes and
  `newEncoding_none_iff` says that it panics exactly on the other lengths.
* `encode_eq`: `encode` is `charsetEncode` when all symbols are `< 32` and panics (index out of range) otherwise.
* `decode_eq`: for ALL byte strings (ASCII or not, valid UTF-8 or not) `decode` never panics and is `charsetDecode`;
  on error the returned slice holds the decoded symbols of the characters before the bad one.  Although Go ranges
  over the rune starts of the string and not over its bytes, this makes no difference here: every byte `≥ 0x80` has
  `decMap = 0xFF` (`ascii_of_decMap`), ASCII bytes are runes of width 1 (`runeWidth_ascii`), and the offset following a
  run of ASCII bytes is a rune start whatever byte is there; so the loop visits the offsets `0, 1, 2, …` one by one
  up to and including the first byte that is not in the charset, where it returns.

Coercion: `bv : List UInt8 → List (BitVec 8)` of `Iota.Tie.Bech32Code` (a bijection).  Core Lean only.
-/
import Iota.Gen.Bech32
import Iota.Model.Bech32
import Iota.Tie.GoFlow
import Iota.Tie.Bech32Code
import Iota.Proofs.Bech32Checksum

namespace Iota.Tie.Bech32CharsCode
open Iota Iota.Go Iota.Tie.Bech32Code
open Iota.Gen.Bech32 (chars.newEncoding chars.encoding_encode chars.encoding_decode)

/-! ### the tables of the model, as the fields of the Go `encoding` struct -/

/-- the field `enc [32]byte` -/
def encTable : List (BitVec 8) := bv Bech32.charset
/-- the field `decMap [256]uint8` -/
def decTable : List (BitVec 8) := (List.range 256).map (fun c => (Bech32.decMap (UInt8.ofNat c)).toBitVec)
/-- the bytes of the string literal in `var charset = newEncoding("qpzry9x8gf2tvdw0s3jn54khce6mua7l")` -/
def srcCharset : List (BitVec 8) := Gen.Bech32.charset.map (BitVec.ofNat 8)

theorem inRangeU8_256 (x : BitVec 8) : inRangeU8 x 256 = true := by
  simpa [inRangeU8] using x.isLt

theorem getD_append_length {α : Type} (pre l : List α) (a d : α) : (pre ++ a :: l).getD pre.length d = a := by
  simp [List.getD_eq_getElem?_getD]

/-- a loop over the indices `0 … len(l)-1` whose body uses the index only to read `l[i]` is the loop over the elements -/
theorem forIn_range_getD {α ρ σ : Type} (d : α) (f : σ → α → Flow ρ σ) (l : List α) (s : σ) (hl : l.length < 2 ^ 64) :
    forIn ((List.range l.length).map (BitVec.ofNat 64)) s (fun s i => f s (l.getD i.toNat d)) = forIn l s f := by
  have hmap : (List.range l.length).map (fun j => l.getD j d) = l := (range_map_getD l d id).trans (List.map_id l)
  conv => rhs; rw [← hmap]
  rw [Go.forIn_map, Go.forIn_map]
  refine forIn_congr_inv (fun _ => True) _ _ _ (fun s _ k hk => ⟨?_, fun _ _ => trivial⟩) s trivial
  rw [toNat_ofNat_lt k (by have := List.mem_range.mp hk; omega)]

/-! ### `newEncoding` -/

/-- `decMap` as built by `newEncoding` from an alphabet `cs`: 0xFF everywhere, then `decMap[cs[i]] = i` for
`i = 0 … 31` in this order (a later occurrence of a repeated character wins) -/
def decMapOf (cs : List (BitVec 8)) : List (BitVec 8) :=
  (List.range 32).foldl (fun m i => m.set (cs.getD i 0#8).toNat (BitVec.ofNat 8 i)) (List.replicate 256 255#8)

/-- **`newEncoding` on any alphabet of 32 bytes**: no panic; `enc` is the alphabet, `decMap` is `decMapOf` -/
theorem newEncoding_length32 (cs : List (BitVec 8)) (hcs : cs.length = 32) :
    chars.newEncoding cs = some (cs, decMapOf cs) := by
  unfold chars.newEncoding
  dsimp only
  rw [hcs, if_neg (by decide), copy_full _ cs (List.length_replicate.trans hcs.symm)]
  -- `for i := 0; i < len(e.decMap); i++ { e.decMap[i] = 0xFF }`
  rw [forUp_range 256 (by decide), Go.forIn_map,
    forIn_eq_foldl _ _ _ (fun m k => m.set k 255#8) (fun m k hk => by
      have hk := List.mem_range.mp hk
      simp only [Go.inRangeS_ofNat k 256 (by omega), decide_eq_true hk, toNat_ofNat_lt k (by omega), Bool.not_true,
        Bool.false_eq_true, if_false]),
    foldl_set_range 255#8 256 _ (Nat.le_of_eq List.length_replicate.symm), List.drop_replicate, Nat.sub_self,
    List.replicate_zero, List.append_nil, Flow.bind_run]
  -- `for i := 0; i < len(charset); i++ { e.decMap[charset[i]] = uint8(i) }`
  rw [forUp_range 32 (by decide), Go.forIn_map,
    forIn_eq_foldl _ _ _ (fun m k => m.set (cs.getD k 0#8).toNat (BitVec.ofNat 8 k)) (fun m k hk => by
      have hk := List.mem_range.mp hk
      simp only [Go.inRangeS_ofNat k 32 (by omega), decide_eq_true hk, toNat_ofNat_lt k (by omega), inRangeU8_256,
        BitVec.setWidth_ofNat_of_le (by decide : 8 ≤ 64), Bool.not_true, Bool.false_eq_true, if_false])]
  rfl

/-- **`newEncoding` panics exactly when the alphabet is not 32 bytes long** -/
theorem newEncoding_none_iff (cs : List (BitVec 8)) (hlen : cs.length < 2 ^ 63) :
    chars.newEncoding cs = none ↔ cs.length ≠ 32 := by
  constructor
  · intro h h32
    rw [newEncoding_length32 cs h32] at h
    exact Option.some_ne_none _ h
  · intro h
    unfold chars.newEncoding
    rw [bne, beq_ofNat _ _ (by omega) (by decide), decide_eq_false h]
    rfl

/-- the tables of the model are what `newEncoding` builds, also in the form of `newEncoding_length32` -/
theorem decMapOf_charset : decMapOf srcCharset = decTable := by decide +kernel
theorem srcCharset_eq : srcCharset = encTable := by decide +kernel

/-- on the alphabet of the source `newEncoding` builds the tables of the model -/
theorem newEncoding_charset : chars.newEncoding srcCharset = some (encTable, decTable) := by
  rw [newEncoding_length32 srcCharset rfl, decMapOf_charset, srcCharset_eq]

/-! ### `encoding.encode` -/

/-- the loop body `dst.WriteByte(e.enc[src[i]])` of the generated `encode`, on the element `x = src[i]` -/
abbrev encStep (e_enc dst : List (BitVec 8)) (x : BitVec 8) : Flow (List (BitVec 8)) (List (BitVec 8)) :=
  if !(Go.inRangeU8 x 32) then Go.Flow.panic else Go.Flow.run (dst ++ [e_enc.getD x.toNat 0#8])

theorem enc_loop (e_enc : List (BitVec 8)) (src : List (BitVec 8)) : ∀ dst : List (BitVec 8),
    forIn src dst (encStep e_enc) =
      if src.all (fun x => decide (x.toNat < 32)) then .run (dst ++ src.map (fun x => e_enc.getD x.toNat 0#8))
      else .panic := by
  induction src with
  | nil => intro dst; simp
  | cons a l ih =>
    intro dst
    rw [forIn_cons]
    by_cases h : a.toNat < 32
    · simp [encStep, inRangeU8, h, ih]
    · simp [encStep, inRangeU8, h]

/-- `encode` for an arbitrary table `e_enc` and arbitrary bytes -/
theorem encode_gen (e_enc src : List (BitVec 8)) (hlen : src.length < 2 ^ 63) :
    chars.encoding_encode e_enc src =
      if src.all (fun x => decide (x.toNat < 32)) then some (src.map (fun x => e_enc.getD x.toNat 0#8)) else none := by
  unfold chars.encoding_encode
  rw [Go.nonneg_ofNat _ hlen]
  simp only [Bool.not_true, Bool.false_eq_true, if_false]
  rw [forIn_range_getD 0#8 (encStep e_enc) src [] (by omega), enc_loop]
  split <;> simp

theorem encTable_getD (s : UInt8) : encTable.getD s.toBitVec.toNat 0#8 = (Bech32.charset.getD s.toNat 0).toBitVec := by
  rw [UInt8.toNat_toBitVec]
  exact getD_map UInt8.toBitVec Bech32.charset s.toNat 0

/-- **`encode` is `charsetEncode` on symbols `< 32` and panics (index out of range) on any symbol `≥ 32`** -/
theorem encode_eq (src : List UInt8) (hlen : src.length < 2 ^ 63) :
    chars.encoding_encode encTable (bv src) =
      if src.all (fun s => decide (s.toNat < 32)) then some (bv (Bech32.charsetEncode src)) else none := by
  rw [encode_gen _ _ (by rw [bv_length]; exact hlen)]
  have hall : (bv src).all (fun x => decide (x.toNat < 32)) = src.all (fun s => decide (s.toNat < 32)) := by
    simp only [bv, List.all_map]; rfl
  rw [hall]
  congr 2
  simp only [bv, Bech32.charsetEncode, List.map_map]
  apply List.map_congr_left
  intro s _
  exact encTable_getD s

theorem encode_ok (src : List UInt8) (hlen : src.length < 2 ^ 63) (h : ∀ s ∈ src, s.toNat < 32) :
    chars.encoding_encode encTable (bv src) = some (bv (Bech32.charsetEncode src)) := by
  rw [encode_eq src hlen, if_pos]
  simpa using h

theorem encode_panic (src : List UInt8) (hlen : src.length < 2 ^ 63) (h : ∃ s ∈ src, 32 ≤ s.toNat) :
    chars.encoding_encode encTable (bv src) = none := by
  rw [encode_eq src hlen, if_neg]
  obtain ⟨s, hs, h32⟩ := h
  intro hall
  have := List.all_eq_true.mp hall s hs
  simp at this
  omega

/-! ### `for i := range src`: the rune starts of a string that begins with ASCII bytes -/

/-- an ASCII byte is a rune of width 1 -/
theorem runeWidth_ascii (c : BitVec 8) (rest : List (BitVec 8)) (hc : c.toNat < 0x80) : runeWidth (c :: rest) = 1 := by
  have : c.toNat < 0xC2 := by omega
  simp [runeWidth, this]

/-- the loop variable takes the current offset (whatever byte is there) and, if that byte is ASCII, goes on one
byte further -/
theorem runeStartsFrom_cons (fuel off : Nat) (c : BitVec 8) (rest : List (BitVec 8)) :
    runeStartsFrom (fuel + 1) off (c :: rest) =
      BitVec.ofNat 64 off :: runeStartsFrom fuel (off + runeWidth (c :: rest)) ((c :: rest).drop (runeWidth (c :: rest))) :=
  rfl

theorem runeStartsFrom_ascii (fuel off : Nat) (c : BitVec 8) (rest : List (BitVec 8)) (hc : c.toNat < 0x80) :
    runeStartsFrom (fuel + 1) off (c :: rest) = BitVec.ofNat 64 off :: runeStartsFrom fuel (off + 1) rest := by
  rw [runeStartsFrom_cons, runeWidth_ascii c rest hc]; rfl

theorem runeStartsFrom_nil (fuel off : Nat) : runeStartsFrom fuel off [] = [] := by
  cases fuel <;> rfl

/-- if the first `k` bytes are ASCII and there is a further byte, `for i := range s` starts with `i = 0, 1, …, k` -/
theorem runeStartsFrom_ascii_prefix (pre : List (BitVec 8)) (hpre : ∀ b ∈ pre, b.toNat < 0x80) :
    ∀ (fuel off : Nat) (c : BitVec 8) (rest : List (BitVec 8)), pre.length < fuel →
      ∃ tail, runeStartsFrom fuel off (pre ++ c :: rest) =
        (List.range' off (pre.length + 1)).map (BitVec.ofNat 64) ++ tail := by
  induction pre with
  | nil =>
    intro fuel off c rest hf
    obtain ⟨fuel, rfl⟩ : ∃ f, fuel = f + 1 := ⟨fuel - 1, by simp at hf; omega⟩
    exact ⟨_, by rw [List.nil_append, runeStartsFrom_cons]; rfl⟩
  | cons a pre ih =>
    intro fuel off c rest hf
    obtain ⟨fuel, rfl⟩ : ∃ f, fuel = f + 1 := ⟨fuel - 1, by simp at hf; omega⟩
    obtain ⟨tail, ht⟩ := ih (fun b hb => hpre b (List.mem_cons_of_mem _ hb)) fuel (off + 1) c rest
      (by simp at hf; omega)
    refine ⟨tail, ?_⟩
    rw [List.cons_append, runeStartsFrom_ascii _ _ _ _ (hpre a (List.mem_cons_self ..)), ht,
      List.length_cons, List.range'_succ (n := pre.length + 1)]
    rfl

theorem runeStarts_ascii_prefix (pre : List (BitVec 8)) (c : BitVec 8) (rest : List (BitVec 8))
    (hpre : ∀ b ∈ pre, b.toNat < 0x80) :
    ∃ tail, runeStarts (pre ++ c :: rest) = (List.range (pre.length + 1)).map (BitVec.ofNat 64) ++ tail := by
  rw [List.range_eq_range']
  exact runeStartsFrom_ascii_prefix pre hpre _ 0 c rest (by simp)

/-- on an ASCII string `for i := range s` is `for i := 0; i < len(s); i++` -/
theorem runeStartsFrom_all_ascii (s : List (BitVec 8)) (hs : ∀ b ∈ s, b.toNat < 0x80) :
    ∀ (fuel off : Nat), s.length ≤ fuel →
      runeStartsFrom fuel off s = (List.range' off s.length).map (BitVec.ofNat 64) := by
  induction s with
  | nil => intro fuel off _; rw [runeStartsFrom_nil]; rfl
  | cons a s ih =>
    intro fuel off hf
    obtain ⟨fuel, rfl⟩ : ∃ f, fuel = f + 1 := ⟨fuel - 1, by simp at hf; omega⟩
    rw [runeStartsFrom_ascii _ _ _ _ (hs a (List.mem_cons_self ..)),
      ih (fun b hb => hs b (List.mem_cons_of_mem _ hb)) fuel (off + 1) (by simpa using hf),
      List.length_cons, List.range'_succ]
    rfl

theorem runeStarts_all_ascii (s : List (BitVec 8)) (hs : ∀ b ∈ s, b.toNat < 0x80) :
    runeStarts s = (List.range s.length).map (BitVec.ofNat 64) := by
  rw [List.range_eq_range']
  exact runeStartsFrom_all_ascii s hs _ 0 (Nat.le_refl _)

/-! ### `encoding.decode` -/

abbrev DR := List (BitVec 8) × Option String

/-- the loop body of `decode`, as generated -/
abbrev decBody (e_decMap src dst : List (BitVec 8)) (i : BitVec 64) : Flow DR (List (BitVec 8)) :=
  if !(Go.inRangeU8 (src.getD i.toNat 0#8) 256) then Go.Flow.panic else
  let d : BitVec 8 := (e_decMap.getD (src.getD i.toNat 0#8).toNat 0#8)
  if (d == 255#8) then
    if !(Go.sliceOK 0#64 i dst.length) then Go.Flow.panic else
    Go.Flow.done ((dst.take i.toNat), (some "ErrInvalidCharacter"))
  else
  if !(Go.inRangeS i dst.length) then Go.Flow.panic else
  if !(Go.inRangeU8 (src.getD i.toNat 0#8) 256) then Go.Flow.panic else
  let dst : List (BitVec 8) := (dst.set i.toNat (e_decMap.getD (src.getD i.toNat 0#8).toNat 0#8))
  Go.Flow.run dst

/-- the table lookup `e.decMap[c]` is the `decMap` of the model -/
theorem decTable_getD (c : UInt8) : decTable.getD c.toBitVec.toNat 0#8 = (Bech32.decMap c).toBitVec := by
  have hc : c.toNat < 256 := c.toBitVec.isLt
  rw [UInt8.toNat_toBitVec, decTable, List.getD_eq_getElem?_getD, List.getElem?_map,
    List.getElem?_range hc, Option.map_some, Option.getD_some, UInt8.ofNat_toNat]

/-- a byte that `decMap` accepts is a character of the charset, and those are ASCII -/
theorem ascii_of_decMap {c : UInt8} (h : Bech32.decMap c ≠ 0xFF) : c.toBitVec.toNat < 0x80 := by
  obtain ⟨h32, hc⟩ := Proofs.Bech32.decMap_spec (c := c) h
  have := (Proofs.Bech32.charset_spec _ h32).2.1
  rwa [hc] at this

theorem toBitVec_beq_255 (x : UInt8) : (x.toBitVec == 255#8) = decide (x = 0xFF) :=
  (toBitVec_beq x 0xFF).trans (Bool.beq_eq_decide_eq x 0xFF)

/-- one iteration at offset `len(pre)`, where the byte `c` is: with the symbols decoded so far in `done`, it returns
them if `c` is not in the charset and stores `decMap[c]` otherwise.  No panic. -/
theorem decBody_at (pre : List UInt8) (c : UInt8) (cs : List UInt8) (done : List (BitVec 8)) (z : BitVec 8)
    (zs : List (BitVec 8)) (hd : done.length = pre.length) (hlen : pre.length < 2 ^ 63) :
    decBody decTable (bv (pre ++ c :: cs)) (done ++ z :: zs) (BitVec.ofNat 64 pre.length) =
      if Bech32.decMap c = 0xFF then .done (done, some "ErrInvalidCharacter")
      else .run (done ++ (Bech32.decMap c).toBitVec :: zs) := by
  have hget : (bv (pre ++ c :: cs)).getD pre.length 0#8 = c.toBitVec := by
    have := getD_append_length (bv pre) (bv cs) c.toBitVec 0#8
    rwa [bv_length, ← bv_cons, ← bv_append] at this
  have hl : (done ++ z :: zs).length = pre.length + (zs.length + 1) := by
    rw [List.length_append, hd, List.length_cons]
  have hslice : sliceOK 0#64 (BitVec.ofNat 64 pre.length) (done ++ z :: zs).length = true := by
    rw [hl, Go.sliceOK_ofNat 0 _ _ (by decide) hlen]
    simp
  have hin : inRangeS (BitVec.ofNat 64 pre.length) (done ++ z :: zs).length = true := by
    rw [hl, Go.inRangeS_ofNat _ _ hlen]
    simp
  have htake : (done ++ z :: zs).take pre.length = done := List.take_left' hd
  have hset : ∀ v, (done ++ z :: zs).set pre.length v = done ++ v :: zs := by
    intro v
    rw [List.set_append_right _ _ (by omega), hd, Nat.sub_self]; rfl
  unfold decBody
  simp only [toNat_ofNat_lt _ (show pre.length < 2 ^ 64 by omega), hget, inRangeU8_256, decTable_getD,
    toBitVec_beq_255, hslice, hin, htake, hset, Bool.not_true, Bool.false_eq_true, if_false, decide_eq_true_eq]

/-- the loop of `decode` from offset `len(pre)` on: `src = pre ++ p`, `done` holds the symbols of `pre`, `zs` is the
rest of `dst` -/
theorem dec_loop (src : List UInt8) (hs : src.length < 2 ^ 63) : ∀ (p pre : List UInt8) (done zs : List (BitVec 8))
    (fuel : Nat), src = pre ++ p → done.length = pre.length → zs.length = p.length → p.length ≤ fuel →
    forIn (runeStartsFrom fuel pre.length (bv p)) (done ++ zs) (decBody decTable (bv src)) =
      match Bech32.charsetDecode p with
      | .ok ds => .run (done ++ bv ds)
      | .error n => .done (done ++ bv ((p.take n).map Bech32.decMap), some "ErrInvalidCharacter") := by
  intro p
  induction p with
  | nil =>
    intro pre done zs fuel _ _ hz _
    have : zs = [] := List.eq_nil_of_length_eq_zero hz
    subst this
    rw [bv_nil, runeStartsFrom_nil]
    rfl
  | cons c cs ih =>
    intro pre done zs fuel hsrc hd hz hf
    obtain ⟨fuel, rfl⟩ : ∃ f, fuel = f + 1 := ⟨fuel - 1, by simp at hf; omega⟩
    obtain ⟨z, zs, rfl⟩ := List.exists_cons_of_length_eq_add_one hz
    have hpl : pre.length < 2 ^ 63 := by rw [hsrc] at hs; simp at hs; omega
    rw [bv_cons, runeStartsFrom_cons, forIn_cons, hsrc, decBody_at pre c cs done z zs hd hpl]
    by_cases hc : Bech32.decMap c = 0xFF
    · simp [Bech32.charsetDecode, hc, bv_nil]
    · have hw := runeWidth_ascii c.toBitVec (bv cs) (ascii_of_decMap hc)
      rw [if_neg hc, Flow.bind_run, hw]
      have := ih (pre ++ [c]) (done ++ [(Bech32.decMap c).toBitVec]) zs fuel (by simp [hsrc])
        (by simp [hd]) (by simpa using hz) (by simpa using hf)
      simp only [List.length_append, List.length_singleton, List.append_assoc, List.singleton_append] at this
      rw [← hsrc, List.drop_one, List.tail_cons, this]
      simp only [Bech32.charsetDecode, if_neg hc]
      cases Bech32.charsetDecode cs with
      | ok ds => simp [bv_cons]
      | error n => simp [bv_cons]

/-- **`decode` is `charsetDecode` for all byte strings, and never panics**; on error the returned slice `dst[:i]`
holds the decoded symbols of the characters before the bad one -/
theorem decode_eq (s : List UInt8) (hlen : s.length < 2 ^ 63) :
    chars.encoding_decode decTable (bv s) =
      match Bech32.charsetDecode s with
      | .ok ds => some (bv ds, none)
      | .error n => some (bv ((s.take n).map Bech32.decMap), some "ErrInvalidCharacter") := by
  unfold chars.encoding_decode
  dsimp only
  rw [bv_length, Go.nonneg_ofNat _ hlen]
  simp only [Bool.not_true, Bool.false_eq_true, if_false]
  rw [toNat_ofNat_lt _ (show s.length < 2 ^ 64 by omega), runeStarts, bv_length]
  have := dec_loop s hlen s [] [] (List.replicate s.length 0#8) s.length rfl rfl (by simp) (Nat.le_refl _)
  rw [List.length_nil, List.nil_append] at this
  rw [this]
  cases Bech32.charsetDecode s <;> simp

theorem decode_no_panic (s : List UInt8) (hlen : s.length < 2 ^ 63) :
    chars.encoding_decode decTable (bv s) ≠ none := by
  rw [decode_eq s hlen]
  cases Bech32.charsetDecode s <;> simp

/-! ### what the model's `charsetDecode` returns -/

theorem charsetDecode_ok (s : List UInt8) : ∀ ds, Bech32.charsetDecode s = .ok ds →
    ds = s.map Bech32.decMap ∧ ∀ c ∈ s, Bech32.decMap c ≠ 0xFF := by
  induction s with
  | nil => intro ds h; simp [Bech32.charsetDecode] at h; simp [h]
  | cons c cs ih =>
    intro ds h
    by_cases hc : Bech32.decMap c = 0xFF
    · simp [Bech32.charsetDecode, hc] at h
    · simp only [Bech32.charsetDecode, if_neg hc] at h
      cases hr : Bech32.charsetDecode cs with
      | error n => simp [hr] at h
      | ok ds' =>
        simp only [hr, Except.ok.injEq] at h
        obtain ⟨h1, h2⟩ := ih ds' hr
        subst h
        exact ⟨by simp [h1], by simpa [hc] using h2⟩

/-- `.error n`: `n` is the offset of the first byte that is not in the charset -/
theorem charsetDecode_error (s : List UInt8) : ∀ n, Bech32.charsetDecode s = .error n →
    n < s.length ∧ Bech32.decMap (s.getD n 0) = 0xFF ∧ ∀ c ∈ s.take n, Bech32.decMap c ≠ 0xFF := by
  induction s with
  | nil => intro n h; simp [Bech32.charsetDecode] at h
  | cons c cs ih =>
    intro n h
    by_cases hc : Bech32.decMap c = 0xFF
    · simp only [Bech32.charsetDecode, if_pos hc, Except.error.injEq] at h
      subst h
      simp [hc]
    · simp only [Bech32.charsetDecode, if_neg hc] at h
      cases hr : Bech32.charsetDecode cs with
      | ok ds => simp [hr] at h
      | error m =>
        simp only [hr, Except.error.injEq] at h
        obtain ⟨h1, h2, h3⟩ := ih m hr
        subst h
        refine ⟨by simpa using h1, by simpa using h2, ?_⟩
        simpa [hc] using h3

/-- the slice returned with `ErrInvalidCharacter` has length `n`, which is what `bech32.Decode` uses (`len(data)`)
for the offset of its `SyntaxError` -/
theorem decode_error_length (s : List UInt8) (hlen : s.length < 2 ^ 63) (n : Nat)
    (h : Bech32.charsetDecode s = .error n) :
    ∃ dst, chars.encoding_decode decTable (bv s) = some (dst, some "ErrInvalidCharacter") ∧ dst.length = n := by
  refine ⟨bv ((s.take n).map Bech32.decMap), ?_, ?_⟩
  · rw [decode_eq s hlen, h]
  · have := (charsetDecode_error s n h).1
    simp [bv_length]; omega

end Iota.Tie.Bech32CharsCode
