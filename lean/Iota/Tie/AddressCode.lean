/-
Tie of pkg/bech32/address/address.go AS CODE: the definitions that cmd/extract regenerates from
address.go on every run (`Iota/Gen/AddressCode.lean`, namespace `address`: `ParsePrefix`, `Prefix_String`, `ParseBech32`,
`Bech32`, the three `…_Bytes` and `…_Version` methods and the dispatch functions `Address_Bytes` / `Address_Version` of the
closed interface `Address`) are proved equal to the hand-written model `Iota/Model/Address.lean` (`parsePrefix`,
`parseBech32`, `bech32`, `Addr.bytes`, `Kind.version`) on which the C19 property theorems are stated.

What the statements say, in Go's words (a string / byte slice is the list of its bytes, `bv` maps the model's `UInt8` lists
onto the code's `BitVec 8` lists and is a bijection; `none` = the Go function panics):
* `code_parsePrefix`: for EVERY byte string `s`, `ParsePrefix(s)` returns `(Prefix(i), nil)` when `s` is the `i`-th network
  prefix and `(0, ErrInvalidPrefix)` otherwise — exactly the model's `parsePrefix`.
* `code_parseBech32`: for EVERY byte string `s` shorter than 2^63, `ParseBech32(s)` does not panic and returns exactly what
  the model's `parseBech32 s` returns: `(prefix index, address, nil)` with the address as (constructor index of its struct
  type, bytes of its hash array), or `(0, nil, err)` where `err` wraps — with the identity `errors.Is` / `errors.As` see —
  the error `bech32.Decode` returned (its variable qualified `bech32.…`, its `SyntaxError` offset kept), `ErrInvalidPrefix`,
  `ErrInvalidVersion` or `ErrInvalidLength`.  `code_parseBech32_never_panics` is the corollary "ParseBech32 never
  panics" (every argument of the generated function is a `bv s`: `Bech32Code.exists_bv`).
* `code_bech32`: for the four `Prefix` constants and every address of the three kinds (`code_bech32_gen`: with a hash of any
  length below 2^60 - 1; `code_bech32`: of the right length), `Bech32(hrp, addr)` returns what the model's `bech32` returns.
  `code_bech32_panics`: for EVERY other `Prefix` value (negative ones included) it panics — `hrpStrings[p]`, index out of
  range — whatever the address; `code_bech32_nil`: it panics for a nil `Address` (with a valid prefix).
* `code_bytes` / `code_version`: `addr.Bytes()` is the version byte followed by the hash, `addr.Version()` the version byte,
  for each of the three struct types and through the interface.

ASSUMPTIONS: those of the translation (header of `Iota/Gen/AddressCode.lean`: 64-bit platform; the CLOSED-WORLD reading of
the interface `Address` — nil or a value of one of the package's three struct types, nothing is claimed for a foreign
implementation; message texts are not modelled) and, for `ParseBech32` / `Bech32`, the three assumptions about
`strings.ToLower` / `ToUpper` / `LastIndex` that `Iota.Tie.Bech32ApiCode.Externs` states: the generated
`bech32.Decode` / `Encode` they call are tied there (`Decode_eq`, `Encode_eq'`), with `charset` = the tables `decTable` /
`encTable` the generated `newEncoding` returns (`Tie/Bech32CharsCode`).
-/
import Iota.Gen.AddressCode
import Iota.Model.Address
import Iota.Tie.Bech32ApiCode
import Iota.Proofs.Address

namespace Iota.Tie.AddressCode
open Iota Iota.Go Iota.Address
open Iota.Tie.Bech32Code (bv bv_cons bv_length bv_beq toBitVec_beq)
open Iota.Tie.Bech32CharsCode (encTable decTable)
open Iota.Tie.Bech32ApiCode (Externs encErr Decode_eq Encode_eq')
open Iota.Gen.AddressCode

/-! ### `ParsePrefix` -/

theorem var_hrpStrings_eq : address.var_hrpStrings = hrpStrings.map bv := by decide

theorem code_parsePrefix (s : List UInt8) :
    address.ParsePrefix (bv s) =
      some (match parsePrefix s with
        | some p => (BitVec.ofNat 64 p, none)
        | none => (0#64, some "ErrInvalidPrefix")) := by
  unfold address.ParsePrefix
  rw [var_hrpStrings_eq]
  simp only [hrpStrings, List.map_cons, List.map_nil, List.length_cons, List.length_nil]
  simp only [List.range, List.range.loop, List.map_cons, List.map_nil, Go.forIn, Flow.bind, Flow.result]
  simp only [parsePrefix, hrpStrings]
  simp only [show (0#64).toNat = 0 from rfl, show (1#64).toNat = 1 from rfl, show (2#64).toNat = 2 from rfl,
    show (3#64).toNat = 3 from rfl, List.getD_cons_zero, List.getD_cons_succ, bv_beq]
  by_cases h0 : s = [105, 111, 116, 97]
  · subst h0; decide
  by_cases h1 : s = [97, 116, 111, 105]
  · subst h1; decide
  by_cases h2 : s = [115, 109, 114]
  · subst h2; decide
  by_cases h3 : s = [114, 109, 115]
  · subst h3; decide
  simp [h0, h1, h2, h3, List.idxOf?_cons, Ne.symm h0, Ne.symm h1, Ne.symm h2, Ne.symm h3]

/-! ### `ParseBech32` -/

/-- the constructor index of the struct type of an address kind in the closed interface `Address` (order of declaration in
address.go: Ed25519Address, AliasAddress, NFTAddress) -/
def kindTag : Kind → Nat
  | .ed25519 => 0 | .alias => 1 | .nft => 2

/-- a model error as the generated `ParseBech32` represents it: the name of the wrapped error variable (those of pkg/bech32
qualified by the package) and the offset of a `*bech32.SyntaxError` -/
def encParseErr : ParseErr → Option (String × Option (BitVec 64))
  | .bech32 e => Go.errQualOpt "bech32" (encErr e)
  | .invalidPrefix => some ("ErrInvalidPrefix", none)
  | .invalidVersion => some ("ErrInvalidVersion", none)
  | .invalidLength => some ("ErrInvalidLength", none)

/-- the outcome of the model's `parseBech32` as the generated `ParseBech32` represents it: the interface component is `none`
(nil) in the error case, the prefix 0 -/
def encParse : Except ParseErr (Nat × Addr) → BitVec 64 × Go.Iface × Option (String × Option (BitVec 64))
  | .ok (p, a) => (BitVec.ofNat 64 p, some (kindTag a.kind, bv a.hash), none)
  | .error e => (0#64, none, encParseErr e)

open Iota.Spec.Bip173 in
/-- what `bech32.Decode` accepts carries at most 90 bytes (so `len(addrData)` is far from wrapping around) -/
theorem decode_data_length (s hrp : Bech32.Str) (data : List UInt8) (h : Bech32.decode s = .ok (hrp, data)) :
    data.length ≤ 90 := by
  obtain ⟨hlen, _, hh, d, syms, hs, _, _, _, _, hd, h6, _, hto5, _⟩ := (Proofs.Bech32.decode_ok_iff_valid s hrp data).mp h
  have hdlen : d.length = syms.length := by
    rw [← Proofs.Bech32.lower_length d, hd, Proofs.Bech32.charsetEncode_length]
  have hslen : s.length = hh.length + 1 + d.length := by rw [hs]; simp; omega
  have hpaylen : symCount data.length = syms.length - 6 := by
    rw [← Proofs.Bech32.to5_length, ← hto5, List.length_take]; omega
  unfold symCount at hpaylen
  omega

/-- **`ParseBech32`, all byte strings**: result, address kind and hash, error identity -/
theorem code_parseBech32 (E : Externs) (s : List UInt8) (hlen : s.length < 2 ^ 63) :
    address.ParseBech32 decTable E.lastIndex E.toLower E.toUpper (bv s) = some (encParse (parseBech32 s)) := by
  unfold address.ParseBech32 parseBech32
  rw [Decode_eq E s hlen]
  cases hd : Bech32.decode s with
  | error e =>
    simp [Go.call, Flow.bind, Flow.result, encParse, encParseErr, Go.errQualOpt, encErr, Go.errWrapOpt]
  | ok r =>
    obtain ⟨hrp, d⟩ := r
    have hdl := decode_data_length s hrp d hd
    simp only [Go.call, Flow.bind, Go.errQualOpt, Option.map_none, Option.isSome_none, Bool.false_eq_true, if_false]
    rw [code_parsePrefix hrp]
    cases hp : parsePrefix hrp with
    | none => simp [Flow.result, encParse, encParseErr, Go.errOfPlain, Go.errWrapOpt]
    | some p =>
      simp only [Go.errOfPlain, Option.map_none, Option.isSome_none, Bool.false_eq_true, if_false]
      cases d with
      | nil => simp [bv, Flow.result, encParse, encParseErr]
      | cons v rest =>
        have hrl' : (bv rest).length ≤ 89 := by
          rw [bv_length]; have : rest.length + 1 ≤ 90 := by simpa using hdl
          omega
        simp only [bv_cons, List.length_cons, List.getD_cons_zero, List.drop_succ_cons, List.drop_zero]
        have e0 : (v.toBitVec == 0#8) = (v == 0) := toBitVec_beq v 0
        have e8 : (v.toBitVec == 8#8) = (v == 8) := toBitVec_beq v 8
        have e16 : (v.toBitVec == 16#8) = (v == 16) := toBitVec_beq v 16
        rw [beq_ofNat _ 0 (by omega) (by omega), e0, e8, e16, bne, bne, beq_ofNat _ 32 (by omega) (by omega),
          beq_ofNat _ 20 (by omega) (by omega)]
        simp only [bv_length]
        have hcopy (n : Nat) (hl : rest.length = n) : Go.copy (List.replicate n 0#8) (bv rest) = bv rest :=
          copy_full _ _ (List.length_replicate.trans ((bv_length rest).trans hl).symm)
        by_cases hv0 : v = 0
        · by_cases hl : rest.length = 32
          · rw [hcopy _ hl]
            simp [hv0, hl, Flow.result, encParse, kindTag]
          · simp [hv0, hl, Flow.result, encParse, encParseErr]
        by_cases hv8 : v = 8
        · by_cases hl : rest.length = 20
          · rw [hcopy _ hl]
            simp [hv8, hl, Flow.result, encParse, kindTag]
          · simp [hv8, hl, Flow.result, encParse, encParseErr]
        by_cases hv16 : v = 16
        · by_cases hl : rest.length = 20
          · rw [hcopy _ hl]
            simp [hv16, hl, Flow.result, encParse, kindTag]
          · simp [hv16, hl, Flow.result, encParse, encParseErr]
        simp [hv0, hv8, hv16, Flow.result, encParse, encParseErr]

theorem code_parseBech32_never_panics (E : Externs) (s : List UInt8) (hlen : s.length < 2 ^ 63) :
    address.ParseBech32 decTable E.lastIndex E.toLower E.toUpper (bv s) ≠ none := by
  rw [code_parseBech32 E s hlen]; exact fun h => nomatch h

/-! ### Bytes / Version -/

/-- a model address as a value of the closed interface `Address` -/
def encAddr (a : Addr) : Go.Iface := some (kindTag a.kind, bv a.hash)

theorem code_bytes_ed25519 (h : List UInt8) : address.Ed25519Address_Bytes (bv h) = bv (Addr.bytes ⟨.ed25519, h⟩) := rfl
theorem code_bytes_alias (h : List UInt8) : address.AliasAddress_Bytes (bv h) = bv (Addr.bytes ⟨.alias, h⟩) := rfl
theorem code_bytes_nft (h : List UInt8) : address.NFTAddress_Bytes (bv h) = bv (Addr.bytes ⟨.nft, h⟩) := rfl

/-- **`addr.Bytes()`** through the interface: version byte :: hash -/
theorem code_bytes (a : Addr) : address.Address_Bytes (encAddr a) = some (bv a.bytes) := by
  obtain ⟨k, h⟩ := a
  cases k <;> rfl

theorem code_bytes_nil : address.Address_Bytes none = none := rfl

theorem code_version (a : Addr) : address.Address_Version (encAddr a) = some a.kind.version.toBitVec := by
  obtain ⟨k, h⟩ := a
  cases k <;> rfl

/-! ### Prefix.String, Bech32 -/

theorem code_prefixString (p : Nat) (hp : p < 4) :
    address.Prefix_String (BitVec.ofNat 64 p) = some (bv (hrpStrings.getD p [])) := by
  have : p = 0 ∨ p = 1 ∨ p = 2 ∨ p = 3 := by omega
  rcases this with rfl | rfl | rfl | rfl <;> decide

/-- `Prefix.String` panics for a `Prefix` value outside 0 … 3, read as an `int`: negative (unsigned: from 2^63) or at least 4 -/
theorem code_prefixString_panics (hrp : BitVec 64) (h : hrp.toInt < 0 ∨ 4 ≤ hrp.toInt) :
    address.Prefix_String hrp = none := by
  have h4 : 4 ≤ hrp.toNat := by
    rw [BitVec.toInt_eq_toNat_cond] at h
    have := hrp.isLt
    split at h <;> omega
  unfold address.Prefix_String
  rw [Go.inRangeS, decide_eq_false (by omega), Bool.and_false]
  rfl

/-- the outcome of the model's `bech32` as the generated `Bech32` represents it -/
def encEnc : Except Bech32.Err Bech32.Str → List (BitVec 8) × Option (String × Option (BitVec 64))
  | .ok r => (bv r, none)
  | .error e => ([], Go.errQualOpt "bech32" (encErr e))

/-- **`Bech32`** for the four prefixes and every address of the three kinds -/
theorem code_bech32_gen (E : Externs) (p : Nat) (hp : p < 4) (a : Addr) (hl : a.hash.length + 1 < 2 ^ 60) :
    address.Bech32 encTable E.toLower E.toUpper (BitVec.ofNat 64 p) (encAddr a) = some (encEnc (bech32 p a)) := by
  unfold address.Bech32 bech32
  rw [code_prefixString p hp, code_bytes a]
  have hh : (hrpStrings.getD p []).length < 2 ^ 62 := by
    have := (Proofs.Address.hrp_facts p hp).1
    omega
  simp only [Go.call, Flow.bind]
  rw [Encode_eq' E _ _ hh (by simpa [Addr.bytes] using hl)]
  cases Bech32.encode (hrpStrings.getD p []) a.bytes <;> simp [Flow.result, encEnc, Go.errQualOpt]

/-- the same for addresses whose hash has the length of its kind (32 / 20 / 20 bytes: the only ones Go can build) -/
theorem code_bech32 (E : Externs) (p : Nat) (hp : p < 4) (a : Addr) (hl : a.hash.length = a.kind.hashLen) :
    address.Bech32 encTable E.toLower E.toUpper (BitVec.ofNat 64 p) (encAddr a) = some (encEnc (bech32 p a)) :=
  code_bech32_gen E p hp a (by
    rw [hl]
    cases a.kind <;> simp [Kind.hashLen])

/-- **`Bech32` panics for every `Prefix` value outside 0 … 3** (`hrpStrings[p]`: index out of range), for every `addr` and
whatever is passed for the library functions -/
theorem code_bech32_panics (ce : List (BitVec 8)) (tl tu : List (BitVec 8) → List (BitVec 8)) (hrp : BitVec 64)
    (h : hrp.toInt < 0 ∨ 4 ≤ hrp.toInt) (addr : Go.Iface) : address.Bech32 ce tl tu hrp addr = none := by
  unfold address.Bech32
  rw [code_prefixString_panics hrp h]
  rfl

/-- `Bech32` panics for a nil `Address` (`addr.Bytes()` on a nil interface) -/
theorem code_bech32_nil (ce : List (BitVec 8)) (tl tu : List (BitVec 8) → List (BitVec 8)) (p : Nat) (hp : p < 4) :
    address.Bech32 ce tl tu (BitVec.ofNat 64 p) none = none := by
  unfold address.Bech32
  rw [code_prefixString p hp, code_bytes_nil]
  rfl

/-- **`Bech32` does not panic** for the four prefixes and the addresses of the three kinds -/
theorem code_bech32_never_panics (E : Externs) (p : Nat) (hp : p < 4) (a : Addr) (hl : a.hash.length = a.kind.hashLen) :
    address.Bech32 encTable E.toLower E.toUpper (BitVec.ofNat 64 p) (encAddr a) ≠ none := by
  rw [code_bech32 E p hp a hl]; exact fun h => nomatch h

/-! ### non-vacuity: the generated functions evaluated with the concrete library functions `Externs.model` -/

-- (the instance search for equality on the result type of `ParseBech32` needs more than the default size)
set_option synthInstance.maxSize 512

abbrev ParseM (s : List (BitVec 8)) :=
  address.ParseBech32 decTable Externs.model.lastIndex Externs.model.toLower Externs.model.toUpper s
abbrev Bech32M (p : BitVec 64) (a : Go.Iface) := address.Bech32 encTable Externs.model.toLower Externs.model.toUpper p a

/-- "atoi1prnz77xppffeeefwwlqqj55muskhd0cg2y52gdvm": devnet prefix, an Alias address (audit/stage11-validation, line 26/27) -/
example : ParseM (bv [97, 116, 111, 105, 49, 112, 114, 110, 122, 55, 55, 120, 112, 112, 102, 102, 101, 101, 101, 102, 119, 119, 108, 113, 113, 106, 53, 53, 109, 117, 115, 107, 104, 100, 48, 99, 103, 50, 121, 53, 50, 103, 100, 118, 109]) =
    some (1#64, some (1, bv [230, 47, 120, 193, 10, 83, 156, 229, 46, 119, 192, 9, 82, 155, 228, 45, 118, 191, 8, 81]), none) := by
  decide +kernel

example : Bech32M 1#64 (some (1, bv [230, 47, 120, 193, 10, 83, 156, 229, 46, 119, 192, 9, 82, 155, 228, 45, 118, 191, 8, 81])) =
    some (bv [97, 116, 111, 105, 49, 112, 114, 110, 122, 55, 55, 120, 112, 112, 102, 102, 101, 101, 101, 102, 119, 119, 108, 113, 113, 106, 53, 53, 109, 117, 115, 107, 104, 100, 48, 99, 103, 50, 121, 53, 50, 103, 100, 118, 109], none) := by
  decide +kernel

/-- "atoi19mqk07" = bech32.Encode("atoi", nil): no version byte -/
example : ParseM (bv [97, 116, 111, 105, 49, 57, 109, 113, 107, 48, 55]) = some (0#64, none, some ("ErrInvalidVersion", none)) := by
  decide +kernel

/-- the same with the last character changed: the error of `bech32.Decode`, qualified, with its offset -/
example : ParseM (bv [97, 116, 111, 105, 49, 57, 109, 113, 107, 48, 113]) =
    some (0#64, none, some ("bech32.ErrInvalidChecksum", some 5#64)) := by
  decide +kernel

/-- "a12uel5l": valid Bech32 with an unknown prefix -/
example : ParseM (bv [97, 49, 50, 117, 101, 108, 53, 108]) = some (0#64, none, some ("ErrInvalidPrefix", none)) := by
  decide +kernel

/-- `Prefix(4)` and `Prefix(-1)` panic; a nil `Address` panics -/
example : Bech32M 4#64 (some (0, List.replicate 32 0#8)) = none := by decide +kernel
example : Bech32M (BitVec.ofInt 64 (-1)) (some (0, List.replicate 32 0#8)) = none := by decide +kernel
example : Bech32M 0#64 none = none := by decide +kernel

end Iota.Tie.AddressCode
