/-
Lemmas about the support definitions of translated Go code (`Iota/Model/GoBits.lean`): what the `Go.Flow` combinators
and the loops do on the forms of input the code ties meet, what the run-time checks say of a 64-bit word that holds a
small natural number, and that the index lists `Go.forUp` / `Go.forDown` are what a three-clause loop header computes;
also the reads and writes of a list by index, `Go.shl`, and `Go.bigSign` / `Go.bigCmp` (math/big) as case distinctions.
-/
import Iota.Model.GoBits

namespace Iota.Go

variable {α ρ σ τ : Type}

/-! ### `Flow`: a statement list ends normally, returns or panics -/

@[simp] theorem Flow.bind_run (s : σ) (f : σ → Flow ρ τ) : (Flow.run s : Flow ρ σ).bind f = f s := rfl
@[simp] theorem Flow.bind_done (r : ρ) (f : σ → Flow ρ τ) : (Flow.done r : Flow ρ σ).bind f = .done r := rfl
@[simp] theorem Flow.bind_panic (f : σ → Flow ρ τ) : (Flow.panic : Flow ρ σ).bind f = .panic := rfl
@[simp] theorem Flow.result_run (r : ρ) : (Flow.run r : Flow ρ ρ).result = some r := rfl
@[simp] theorem Flow.result_done (r : ρ) : (Flow.done r : Flow ρ ρ).result = some r := rfl
@[simp] theorem Flow.result_panic : (Flow.panic : Flow ρ ρ).result = none := rfl

theorem bind_run_inv (x : Flow ρ σ) (f : σ → Flow ρ τ) (t : τ) (h : x.bind f = .run t) :
    ∃ s, x = .run s ∧ f s = .run t := by
  cases x with
  | run s => exact ⟨s, rfl, h⟩
  | done r => cases h
  | panic => cases h

/-! ### `forIn`: `for … range l { body }` -/

@[simp] theorem forIn_nil (s : σ) (f : σ → α → Flow ρ σ) : forIn [] s f = .run s := rfl
@[simp] theorem forIn_cons (a : α) (l : List α) (s : σ) (f : σ → α → Flow ρ σ) :
    forIn (a :: l) s f = (f s a).bind (fun s' => forIn l s' f) := rfl

theorem forIn_append (l₁ l₂ : List α) (s : σ) (f : σ → α → Flow ρ σ) :
    forIn (l₁ ++ l₂) s f = (forIn l₁ s f).bind (fun s' => forIn l₂ s' f) := by
  induction l₁ generalizing s with
  | nil => rfl
  | cons a l ih =>
    simp only [List.cons_append, forIn_cons]
    cases f s a <;> simp [ih]

theorem forIn_map {β : Type} (φ : α → β) (l : List α) (s : σ) (f : σ → β → Flow ρ σ) :
    forIn (l.map φ) s f = forIn l s (fun s a => f s (φ a)) := by
  induction l generalizing s with
  | nil => rfl
  | cons a l ih =>
    rw [List.map_cons, forIn_cons, forIn_cons]
    exact congrArg _ (funext ih)

theorem forIn_inv (P : σ → Prop) (l : List α) (f : σ → α → Flow ρ σ) (g : σ → α → σ)
    (h : ∀ s, P s → ∀ a ∈ l, f s a = .run (g s a) ∧ P (g s a)) (s : σ) (hs : P s) :
    forIn l s f = .run (l.foldl g s) ∧ P (l.foldl g s) := by
  induction l generalizing s with
  | nil => exact ⟨rfl, hs⟩
  | cons a l ih =>
    obtain ⟨h1, h2⟩ := h s hs a (List.mem_cons_self ..)
    rw [forIn_cons, h1, Flow.bind_run, List.foldl_cons]
    exact ih (fun s hs b hb => h s hs b (List.mem_cons_of_mem _ hb)) _ h2

theorem forIn_eq_foldl (l : List α) (s : σ) (f : σ → α → Flow ρ σ) (g : σ → α → σ)
    (h : ∀ s, ∀ a ∈ l, f s a = .run (g s a)) : forIn l s f = .run (l.foldl g s) :=
  (forIn_inv (fun _ => True) l f g (fun s _ a ha => ⟨h s a ha, trivial⟩) s trivial).1

theorem foldl_congr_mem {β : Type} (l : List α) (f g : β → α → β) (b : β)
    (h : ∀ b, ∀ a ∈ l, f b a = g b a) : l.foldl f b = l.foldl g b := by
  induction l generalizing b with
  | nil => rfl
  | cons a l ih =>
    rw [List.foldl_cons, List.foldl_cons, h b a (List.mem_cons_self ..)]
    exact ih _ (fun b c hc => h b c (List.mem_cons_of_mem _ hc))

theorem forIn_first (l : List α) (p : α → Bool) (r : ρ) (g : σ → α → σ) (f : σ → α → Flow ρ σ) (s : σ)
    (h : ∀ s, ∀ a ∈ l, f s a = if p a then .done r else .run (g s a)) :
    forIn l s f = if l.any p then .done r else .run (l.foldl g s) := by
  induction l generalizing s with
  | nil => rfl
  | cons a l ih =>
    rw [forIn_cons, h s a (List.mem_cons_self ..), List.any_cons, List.foldl_cons]
    cases p a
    · rw [if_neg Bool.false_ne_true, Flow.bind_run, Bool.false_or]
      exact ih _ (fun s b hb => h s b (List.mem_cons_of_mem _ hb))
    · rfl

theorem forIn_any (l : List α) (p : α → Bool) (r : ρ) (f : Unit → α → Flow ρ Unit)
    (h : ∀ a ∈ l, f () a = if p a then .done r else .run ()) :
    forIn l () f = if l.any p then .done r else .run () :=
  forIn_first l p r (fun _ _ => ()) f () (fun _ a ha => h a ha)

theorem forIn_panic (l : List α) (f : σ → α → Flow ρ σ) (a : α) (ha : a ∈ l)
    (hnd : ∀ s b r, f s b ≠ .done r) (hp : ∀ s, f s a = .panic) (s : σ) : forIn l s f = .panic := by
  induction l generalizing s with
  | nil => cases ha
  | cons b l ih =>
    rw [forIn_cons]
    cases hb : f s b with
    | panic => rfl
    | done r => exact absurd hb (hnd s b r)
    | run s' =>
      rw [Flow.bind_run]
      rcases List.mem_cons.mp ha with rfl | hmem
      · rw [hp s] at hb; cases hb
      · exact ih hmem s'

theorem forIn_ne_panic (l : List α) (s : σ) (f : σ → α → Flow ρ σ) (h : ∀ s a, f s a ≠ .panic) :
    forIn l s f ≠ .panic := by
  induction l generalizing s with
  | nil => intro h'; cases h'
  | cons a l ih =>
    rw [forIn_cons]
    cases hf : f s a with
    | run s' => exact ih s'
    | done r => intro h'; cases h'
    | panic => exact absurd hf (h s a)

theorem forIn_congr_inv (P : σ → Prop) (l : List α) (f g : σ → α → Flow ρ σ)
    (h : ∀ s, P s → ∀ a ∈ l, f s a = g s a ∧ ∀ s', g s a = .run s' → P s') (s : σ) (hs : P s) :
    forIn l s f = forIn l s g := by
  induction l generalizing s with
  | nil => rfl
  | cons a l ih =>
    obtain ⟨h1, h2⟩ := h s hs a (List.mem_cons_self ..)
    rw [forIn_cons, forIn_cons, h1]
    cases hg : g s a with
    | run s' =>
      rw [Flow.bind_run, Flow.bind_run]
      exact ih (fun s hs b hb => h s hs b (List.mem_cons_of_mem _ hb)) s' (h2 s' hg)
    | done r => rfl
    | panic => rfl

/-! ### `whileFuel`: `for cond { body }` -/

@[simp] theorem whileFuel_zero (c : σ → Bool) (b : σ → Flow ρ σ) (s : σ) : whileFuel c b 0 s = .run s := rfl
theorem whileFuel_succ (c : σ → Bool) (b : σ → Flow ρ σ) (n : Nat) (s : σ) :
    whileFuel c b (n + 1) s = if c s then (b s).bind (whileFuel c b n) else .run s := rfl

/-! ### `forInB`, `whileFuelB`: the two loops for a body that contains `break` -/

@[simp] theorem forInB_nil (s : σ) (f : σ → α → Flow ρ (Bool × σ)) : forInB [] s f = .run s := rfl
@[simp] theorem forInB_cons (a : α) (l : List α) (s : σ) (f : σ → α → Flow ρ (Bool × σ)) :
    forInB (a :: l) s f = (f s a).bind (fun r => if r.1 then .run r.2 else forInB l r.2 f) := rfl

@[simp] theorem whileFuelB_zero (c : σ → Bool) (b : σ → Flow ρ (Bool × σ)) (s : σ) : whileFuelB c b 0 s = .run s := rfl
theorem whileFuelB_succ (c : σ → Bool) (b : σ → Flow ρ (Bool × σ)) (n : Nat) (s : σ) :
    whileFuelB c b (n + 1) s =
      if c s then (b s).bind (fun r => if r.1 then .run r.2 else whileFuelB c b n r.2) else .run s := rfl

theorem forInB_eq_forIn (l : List α) (s : σ) (f : σ → α → Flow ρ σ) :
    forInB l s (fun s a => (f s a).bind (fun s' => .run (false, s'))) = forIn l s f := by
  induction l generalizing s with
  | nil => rfl
  | cons a l ih =>
    rw [forInB_cons, forIn_cons]
    cases f s a <;> simp [ih]

theorem whileFuelB_eq_whileFuel (c : σ → Bool) (b : σ → Flow ρ σ) (n : Nat) (s : σ) :
    whileFuelB c (fun s => (b s).bind (fun s' => .run (false, s'))) n s = whileFuel c b n s := by
  induction n generalizing s with
  | zero => rfl
  | succ n ih =>
    rw [whileFuelB_succ, whileFuel_succ]
    cases c s
    · rfl
    · simp only [if_true]
      cases b s <;> simp [ih]

/-! ### `List.getD`: the read `x[i]` of a slice, an array or a table -/

theorem getD_eq_get (l : List α) (d : α) (i : Nat) (h : i < l.length) : l.getD i d = l[i] := by
  rw [List.getD_eq_getElem?_getD, List.getElem?_eq_getElem h]; rfl

theorem getD_mem (l : List α) (i : Nat) (h : i < l.length) (d : α) : l.getD i d ∈ l := by
  rw [getD_eq_get l d i h]
  exact List.getElem_mem h

theorem getD_map {β : Type} (f : α → β) (l : List α) (i : Nat) (d : α) :
    (l.map f).getD i (f d) = f (l.getD i d) := by
  simp only [List.getD_eq_getElem?_getD, List.getElem?_map]
  cases l[i]? <;> rfl

theorem getD_drop (l : List α) (n i : Nat) (d : α) : (l.drop n).getD i d = l.getD (n + i) d := by
  simp only [List.getD_eq_getElem?_getD, List.getElem?_drop]

theorem range_map_getD {β : Type} (l : List α) (d : α) (F : α → β) :
    (List.range l.length).map (fun j => F (l.getD j d)) = l.map F := by
  apply List.ext_getElem
  · rw [List.length_map, List.length_map, List.length_range]
  · intro i h1 h2
    rw [List.length_map] at h2
    rw [List.getElem_map, List.getElem_map, List.getElem_range, getD_eq_get l d i h2]

theorem getD_toList {n : Nat} (v : Vector α n) (i : Nat) (h : i < n) (d : α) : v.toList.getD i d = v[i] := by
  rw [getD_eq_get _ _ _ (by rw [Vector.length_toList]; exact h), Vector.getElem_toList]

/-! ### `List.set`, `copy`: the write `x[i] = v` in a loop, and `copy(dst, src)` -/

/-- `for i := 0; i < n; i++ { a[i] = v }` -/
theorem foldl_set_range (v : α) : ∀ (n : Nat) (l : List α), n ≤ l.length →
    (List.range n).foldl (fun m i => m.set i v) l = List.replicate n v ++ l.drop n := by
  intro n
  induction n with
  | zero => intro l _; rfl
  | succ n ih =>
    intro l hn
    rw [List.range_succ, List.foldl_append, ih l (by omega), List.foldl_cons, List.foldl_nil,
      List.set_append_right _ _ (by rw [List.length_replicate]; omega), List.length_replicate, Nat.sub_self,
      List.replicate_succ', List.append_assoc]
    congr 1
    rw [List.drop_eq_getElem_cons (by omega : n < l.length), List.set_cons_zero, List.singleton_append]

/-- a loop that writes `f j` at every index `j` of `idx`, in any order -/
theorem foldl_set_get (f : Nat → α) : ∀ (idx : List Nat) (t0 : List α) (i : Nat),
    (idx.foldl (fun t j => t.set j (f j)) t0)[i]? = if i ∈ idx ∧ i < t0.length then some (f i) else t0[i]? := by
  intro idx
  induction idx with
  | nil => intro t0 i; rw [List.foldl_nil, if_neg (fun h => List.not_mem_nil h.1)]
  | cons j idx ih =>
    intro t0 i
    rw [List.foldl_cons, ih, List.length_set]
    by_cases hi : i < t0.length
    · by_cases hm : i ∈ idx
      · rw [if_pos ⟨hm, hi⟩, if_pos ⟨List.mem_cons_of_mem _ hm, hi⟩]
      · rw [if_neg (fun h => hm h.1)]
        by_cases hj : j = i
        · subst hj
          rw [List.getElem?_set_self hi, if_pos ⟨List.mem_cons_self .., hi⟩]
        · rw [List.getElem?_set_ne hj, if_neg (fun h => (List.mem_cons.mp h.1).elim (fun e => hj e.symm) hm)]
    · rw [if_neg (fun h => hi h.2), if_neg (fun h => hi h.2), List.getElem?_eq_none (Nat.le_of_not_lt hi),
        List.getElem?_eq_none (by rw [List.length_set]; exact Nat.le_of_not_lt hi)]

theorem foldl_set_all (f : Nat → α) (idx : List Nat) (n : Nat) (d : α) (h : ∀ i, i ∈ idx ↔ i < n) :
    idx.foldl (fun t j => t.set j (f j)) (List.replicate n d) = (List.range n).map f := by
  apply List.ext_getElem?
  intro i
  rw [foldl_set_get, List.length_replicate, List.getElem?_map]
  by_cases hi : i < n
  · rw [if_pos ⟨(h i).mpr hi, hi⟩, List.getElem?_range hi, Option.map_some]
  · rw [if_neg (fun hc => hi hc.2), List.getElem?_eq_none (by rw [List.length_replicate]; omega),
      List.getElem?_eq_none (by rw [List.length_range]; omega), Option.map_none]

theorem copy_full {α : Type} (dst src : List α) (h : dst.length = src.length) : copy dst src = src := by
  rw [copy, h, List.take_length, ← h, List.drop_length, List.append_nil]

/-! ### an `int` that is not negative: the 64-bit word of a natural number below `2^63`

Sums, products and differences need no lemma here: `BitVec.ofNat_add`, `BitVec.ofNat_mul`, `BitVec.ofNat_sub_ofNat_of_le`
and `BitVec.setWidth_ofNat_of_le` are in core. -/

theorem toNat_ofNat_lt (a : Nat) (ha : a < 2 ^ 64) : (BitVec.ofNat 64 a).toNat = a := by
  rw [BitVec.toNat_ofNat]; exact Nat.mod_eq_of_lt ha

theorem msb_ofNat_small (a : Nat) (ha : a < 2 ^ 63) : (BitVec.ofNat 64 a).msb = false := by
  rw [BitVec.msb_eq_false_iff_two_mul_lt, BitVec.toNat_ofNat]; omega

theorem toInt_ofNat_small (a : Nat) (ha : a < 2 ^ 63) : (BitVec.ofNat 64 a).toInt = a := by
  rw [BitVec.toInt_eq_toNat_of_lt (by rw [BitVec.toNat_ofNat]; omega), toNat_ofNat_lt a (by omega)]

/-- and then `BitVec.toInt_eq_toNat_of_lt` applies -/
theorem toInt_nonneg_iff (x : BitVec 64) : 0 ≤ x.toInt ↔ x.toNat < 2 ^ 63 := by
  have := x.isLt
  rw [BitVec.toInt_eq_toNat_cond]
  split <;> omega

theorem toInt_ofNat_sub (a b : Nat) (ha : a < 2 ^ 63) (hb : b < 2 ^ 63) :
    (BitVec.ofNat 64 a - BitVec.ofNat 64 b).toInt = (a : Int) - b := by
  rw [BitVec.toInt_sub, toInt_ofNat_small a ha, toInt_ofNat_small b hb]
  apply Int.bmod_eq_of_le <;> omega

theorem beq_ofNat (a b : Nat) (ha : a < 2 ^ 64) (hb : b < 2 ^ 64) :
    (BitVec.ofNat 64 a == BitVec.ofNat 64 b) = decide (a = b) := by
  by_cases h : a = b
  · subst h; rw [beq_self_eq_true, decide_eq_true rfl]
  · rw [decide_eq_false h]
    apply beq_eq_false_iff_ne.mpr
    intro he
    have := congrArg BitVec.toNat he
    rw [toNat_ofNat_lt a ha, toNat_ofNat_lt b hb] at this
    exact h this

theorem slt_ofNat (a b : Nat) (ha : a < 2 ^ 63) (hb : b < 2 ^ 63) :
    BitVec.slt (BitVec.ofNat 64 a) (BitVec.ofNat 64 b) = decide (a < b) := by
  rw [BitVec.slt, toInt_ofNat_small a ha, toInt_ofNat_small b hb]
  exact decide_eq_decide.mpr Int.ofNat_lt

theorem sle_ofNat (a b : Nat) (ha : a < 2 ^ 63) (hb : b < 2 ^ 63) :
    BitVec.sle (BitVec.ofNat 64 a) (BitVec.ofNat 64 b) = decide (a ≤ b) := by
  rw [BitVec.sle, toInt_ofNat_small a ha, toInt_ofNat_small b hb]
  exact decide_eq_decide.mpr Int.ofNat_le

theorem sdiv_ofNat (a b : Nat) (ha : a < 2 ^ 63) (hb : b < 2 ^ 63) :
    BitVec.sdiv (BitVec.ofNat 64 a) (BitVec.ofNat 64 b) = BitVec.ofNat 64 (a / b) := by
  rw [BitVec.sdiv_eq, msb_ofNat_small a ha, msb_ofNat_small b hb]
  apply BitVec.eq_of_toNat_eq
  simp only [BitVec.udiv_eq, BitVec.toNat_udiv]
  rw [toNat_ofNat_lt a (by omega), toNat_ofNat_lt b (by omega), toNat_ofNat_lt]
  exact Nat.lt_of_le_of_lt (Nat.div_le_self a b) (by omega)

theorem srem_ofNat (a b : Nat) (ha : a < 2 ^ 63) (hb : b < 2 ^ 63) :
    BitVec.srem (BitVec.ofNat 64 a) (BitVec.ofNat 64 b) = BitVec.ofNat 64 (a % b) := by
  rw [BitVec.srem_eq, msb_ofNat_small a ha, msb_ofNat_small b hb]
  apply BitVec.eq_of_toNat_eq
  simp only [BitVec.toNat_umod]
  rw [toNat_ofNat_lt a (by omega), toNat_ofNat_lt b (by omega), toNat_ofNat_lt]
  exact Nat.lt_of_le_of_lt (Nat.mod_le a b) (by omega)

/-! ### `inRangeS`, `sliceFromS`, `sliceOK`, `nonneg`: the run-time checks of `x[i]`, `x[i:]`, `x[lo:hi]`, `x << n` -/

theorem inRangeS_ofNat (k n : Nat) (hk : k < 2 ^ 63) : inRangeS (BitVec.ofNat 64 k) n = decide (k < n) := by
  rw [inRangeS, msb_ofNat_small k hk, toNat_ofNat_lt k (by omega)]; rfl

theorem inRangeU_ofNat (k n : Nat) (hk : k < 2 ^ 64) : inRangeU (BitVec.ofNat 64 k) n = decide (k < n) := by
  rw [inRangeU, toNat_ofNat_lt k hk]

theorem sliceFromS_ofNat (k n : Nat) (hk : k < 2 ^ 63) : sliceFromS (BitVec.ofNat 64 k) n = decide (k ≤ n) := by
  rw [sliceFromS, msb_ofNat_small k hk, toNat_ofNat_lt k (by omega)]; rfl

theorem sliceFromU_ofNat (k n : Nat) (hk : k < 2 ^ 64) : sliceFromU (BitVec.ofNat 64 k) n = decide (k ≤ n) := by
  rw [sliceFromU, toNat_ofNat_lt k hk]

theorem sliceOK_ofNat (a b n : Nat) (ha : a < 2 ^ 63) (hb : b < 2 ^ 63) :
    sliceOK (BitVec.ofNat 64 a) (BitVec.ofNat 64 b) n = (decide (a ≤ b) && decide (b ≤ n)) := by
  rw [sliceOK, msb_ofNat_small a ha, msb_ofNat_small b hb, toNat_ofNat_lt a (by omega), toNat_ofNat_lt b (by omega)]
  rfl

theorem nonneg_ofNat (a : Nat) (ha : a < 2 ^ 63) : nonneg (BitVec.ofNat 64 a) = true := by
  rw [nonneg, msb_ofNat_small a ha]; rfl

/-! ### `forUp`, `forDown`: the values of `i` in `for i := a; i < b; i += k`, `for i := a; i > b; i -= k`

They are what the loop header `loopIdx` computes step by step in 64-bit arithmetic, as long as no step wraps around. -/

/-- the value of a 64-bit word as an `int` / `uint` -/
def ord (signed : Bool) (x : BitVec 64) : Int := if signed then x.toInt else x.toNat
def maxOrd (signed : Bool) : Int := if signed then 2 ^ 63 - 1 else 2 ^ 64 - 1
def minOrd (signed : Bool) : Int := if signed then -2 ^ 63 else 0

theorem cmpUp_iff (signed incl : Bool) (b i : BitVec 64) :
    cmpUp signed incl b i = true ↔ (if incl then ord signed i ≤ ord signed b else ord signed i < ord signed b) := by
  cases signed <;> cases incl <;> simp [cmpUp, ord, BitVec.slt, BitVec.sle, BitVec.ult, BitVec.ule] <;> omega

theorem cmpDown_iff (signed incl : Bool) (b i : BitVec 64) :
    cmpDown signed incl b i = true ↔ (if incl then ord signed b ≤ ord signed i else ord signed b < ord signed i) :=
  cmpUp_iff signed incl i b

theorem ord_bounds (signed : Bool) (x : BitVec 64) : minOrd signed ≤ ord signed x ∧ ord signed x ≤ maxOrd signed := by
  have := x.isLt
  cases signed <;> simp [ord, minOrd, maxOrd, BitVec.toInt_eq_toNat_cond] <;> omega

theorem sub_toNat (signed : Bool) (a b : BitVec 64) (h : ord signed a ≤ ord signed b) :
    ((b - a).toNat : Int) = ord signed b - ord signed a := by
  have := a.isLt; have := b.isLt
  cases signed <;>
    simp only [ord, BitVec.toInt_eq_toNat_cond, BitVec.toNat_sub, Bool.false_eq_true, if_false, if_true] at h ⊢ <;> omega

theorem ord_add (signed : Bool) (a : BitVec 64) (k : Nat) (h : ord signed a + k ≤ maxOrd signed) :
    ord signed (a + BitVec.ofNat 64 k) = ord signed a + k := by
  have := a.isLt
  cases signed <;>
    simp only [ord, maxOrd, BitVec.toInt_eq_toNat_cond, BitVec.toNat_add, BitVec.toNat_ofNat, Bool.false_eq_true,
      if_false, if_true] at h ⊢ <;> omega

/-- number of iterations of `forUp` -/
def countUp (incl : Bool) (d k : Nat) : Nat := if incl then d / k + 1 else (d + k - 1) / k

theorem countUp_step (incl : Bool) (d k : Nat) (hk : 0 < k) : countUp incl (d + k) k = countUp incl d k + 1 := by
  cases incl
  · simp only [countUp, Bool.false_eq_true, if_false]
    rw [show d + k + k - 1 = (d + k - 1) + k by omega, Nat.add_div_right _ hk]
  · simp only [countUp, if_true]
    rw [Nat.add_div_right _ hk]

theorem countUp_last (incl : Bool) (d k : Nat) (h : if incl then d < k else 0 < d ∧ d ≤ k) : countUp incl d k = 1 := by
  cases incl
  · simp only [countUp, Bool.false_eq_true, if_false] at h ⊢
    exact Nat.div_eq_of_lt_le (by omega) (by omega)
  · simp only [countUp, if_true] at h ⊢
    rw [Nat.div_eq_of_lt h]

theorem forUp_eq (signed incl : Bool) (a b : BitVec 64) (k : Nat) :
    forUp signed incl a b k =
      if cmpUp signed incl b a then
        (List.range (countUp incl (b - a).toNat k)).map (fun m => a + BitVec.ofNat 64 (m * k))
      else [] := rfl

theorem forDown_eq (signed incl : Bool) (a b : BitVec 64) (k : Nat) :
    forDown signed incl a b k =
      if cmpDown signed incl b a then
        (List.range (countUp incl (a - b).toNat k)).map (fun m => a - BitVec.ofNat 64 (m * k))
      else [] := rfl

theorem map_range_succ {β : Type} (f : Nat → β) (n : Nat) :
    (List.range (n + 1)).map f = f 0 :: (List.range n).map (fun m => f (m + 1)) := by
  rw [List.range_succ_eq_map, List.map_cons, List.map_map]; rfl

/-- one iteration: if the condition holds for `a` and `a + k` does not wrap around, then the list is `a` followed by the
list from `a + k` -/
theorem forUp_step (signed incl : Bool) (a b : BitVec 64) (k : Nat) (hk : 0 < k)
    (hstep : ord signed a + k ≤ maxOrd signed) (henter : cmpUp signed incl b a = true) :
    forUp signed incl a b k = a :: forUp signed incl (a + BitVec.ofNat 64 k) b k := by
  have hA := (cmpUp_iff signed incl b a).mp henter
  have hle : ord signed a ≤ ord signed b := by cases incl <;> simp at hA <;> omega
  have hadd := ord_add signed a k hstep
  have hd := sub_toNat signed a b hle
  rw [forUp_eq, forUp_eq, if_pos henter]
  by_cases h2 : cmpUp signed incl b (a + BitVec.ofNat 64 k) = true
  · have hB := (cmpUp_iff signed incl b _).mp h2
    rw [hadd] at hB
    have hle2 : ord signed (a + BitVec.ofNat 64 k) ≤ ord signed b := by
      rw [hadd]; cases incl <;> simp at hB <;> omega
    have hd2 := sub_toNat signed (a + BitVec.ofNat 64 k) b hle2
    rw [hadd] at hd2
    rw [if_pos h2, show (b - a).toNat = (b - (a + BitVec.ofNat 64 k)).toNat + k by omega, countUp_step incl _ k hk,
      map_range_succ, Nat.zero_mul, show a + BitVec.ofNat 64 0 = a from BitVec.add_zero a]
    congr 1
    apply List.map_congr_left
    intro m _
    rw [Nat.add_mul, Nat.one_mul, Nat.add_comm (m * k) k, BitVec.ofNat_add, BitVec.add_assoc]
  · have hB : ¬ (if incl then ord signed (a + BitVec.ofNat 64 k) ≤ ord signed b
        else ord signed (a + BitVec.ofNat 64 k) < ord signed b) :=
      fun h => h2 ((cmpUp_iff signed incl b (a + BitVec.ofNat 64 k)).mpr h)
    rw [hadd] at hB
    rw [if_neg h2, countUp_last incl (b - a).toNat k
      (by cases incl <;> simp only [Bool.false_eq_true, if_false, if_true] at hA hB ⊢ <;> omega)]
    simp

/-- `~~~` reverses the order of `int` and of `uint`: through it a loop that counts down is one that counts up -/
theorem ord_not (signed : Bool) (x : BitVec 64) : ord signed (~~~x) = maxOrd signed + minOrd signed - ord signed x := by
  have := x.isLt
  cases signed <;>
    simp only [ord, maxOrd, minOrd, BitVec.toInt_eq_toNat_cond, BitVec.toNat_not, Bool.false_eq_true, if_false,
      if_true] <;> omega

theorem cmpDown_eq_cmpUp_not (signed incl : Bool) (b i : BitVec 64) :
    cmpDown signed incl b i = cmpUp signed incl (~~~b) (~~~i) := by
  rw [Bool.eq_iff_iff, cmpUp_iff, ord_not, ord_not]
  exact (cmpDown_iff signed incl b i).trans
    (by cases incl <;> simp only [Bool.false_eq_true, if_false, if_true] <;> omega)

theorem not_sub (a x : BitVec 64) : ~~~(a - x) = ~~~a + x := by
  apply BitVec.eq_of_toNat_eq
  have := a.isLt; have := x.isLt
  simp only [BitVec.toNat_not, BitVec.toNat_sub, BitVec.toNat_add]
  omega

theorem not_sub_not (a b : BitVec 64) : ~~~b - ~~~a = a - b := by
  apply BitVec.eq_of_toNat_eq
  have := a.isLt; have := b.isLt
  simp only [BitVec.toNat_not, BitVec.toNat_sub]
  omega

theorem forDown_eq_map_forUp (signed incl : Bool) (a b : BitVec 64) (k : Nat) :
    forDown signed incl a b k = (forUp signed incl (~~~a) (~~~b) k).map (~~~ ·) := by
  rw [forDown_eq, forUp_eq, cmpDown_eq_cmpUp_not, not_sub_not]
  split
  · rw [List.map_map]
    apply List.map_congr_left
    intro m _
    exact (by rw [Function.comp, ← not_sub, BitVec.not_not])
  · rfl

theorem forDown_step (signed incl : Bool) (a b : BitVec 64) (k : Nat) (hk : 0 < k)
    (hstep : minOrd signed ≤ ord signed a - k) (henter : cmpDown signed incl b a = true) :
    forDown signed incl a b k = a :: forDown signed incl (a - BitVec.ofNat 64 k) b k := by
  rw [forDown_eq_map_forUp, forDown_eq_map_forUp,
    forUp_step signed incl (~~~a) (~~~b) k hk (by rw [ord_not]; omega) (by rwa [← cmpDown_eq_cmpUp_not]),
    List.map_cons, BitVec.not_not, not_sub]

/-- the side condition the translator checks (`b + k ≤ max` for `<=`, `b - 1 + k ≤ max` for `<`) keeps every step
from wrapping around -/
theorem ord_add_le (signed incl : Bool) (a b : BitVec 64) (k : Nat)
    (hsafe : ord signed b + (if incl then (k : Int) else k - 1) ≤ maxOrd signed)
    (henter : cmpUp signed incl b a = true) : ord signed a + k ≤ maxOrd signed := by
  have hA := (cmpUp_iff signed incl b a).mp henter
  cases incl <;> simp at hA hsafe <;> omega

/-- for `forDown` it is `b - k ≥ min` for `>=`, `b + 1 - k ≥ min` for `>` -/
theorem ord_sub_le (signed incl : Bool) (a b : BitVec 64) (k : Nat)
    (hsafe : minOrd signed ≤ ord signed b - (if incl then (k : Int) else k - 1))
    (henter : cmpDown signed incl b a = true) : minOrd signed ≤ ord signed a - k := by
  have hA := (cmpDown_iff signed incl b a).mp henter
  cases incl <;> simp at hA hsafe <;> omega

theorem forUp_cons (signed incl : Bool) (a b : BitVec 64) (k : Nat) (hk : 0 < k)
    (hsafe : ord signed b + (if incl then (k : Int) else k - 1) ≤ maxOrd signed)
    (henter : cmpUp signed incl b a = true) :
    forUp signed incl a b k = a :: forUp signed incl (a + BitVec.ofNat 64 k) b k :=
  forUp_step signed incl a b k hk (ord_add_le signed incl a b k hsafe henter) henter

theorem forDown_cons (signed incl : Bool) (a b : BitVec 64) (k : Nat) (hk : 0 < k)
    (hsafe : minOrd signed ≤ ord signed b - (if incl then (k : Int) else k - 1))
    (henter : cmpDown signed incl b a = true) :
    forDown signed incl a b k = a :: forDown signed incl (a - BitVec.ofNat 64 k) b k :=
  forDown_step signed incl a b k hk (ord_sub_le signed incl a b k hsafe henter) henter

/-- a loop header run step by step computes the list `L` that satisfies the header's recursion on the indices of an
invariant `I` -/
theorem loopIdx_eq (c : BitVec 64 → Bool) (s : BitVec 64 → BitVec 64) (L : BitVec 64 → List (BitVec 64))
    (I : BitVec 64 → Prop) (hcons : ∀ a, I a → c a = true → L a = a :: L (s a) ∧ I (s a))
    (hnil : ∀ a, ¬ c a = true → L a = []) :
    ∀ (fuel : Nat) (a : BitVec 64), I a → (L a).length < fuel → loopIdx c s fuel a = L a := by
  intro fuel
  induction fuel with
  | zero => intro a _ h; omega
  | succ fuel ih =>
    intro a hI h
    rw [loopIdx]
    by_cases hc : c a = true
    · obtain ⟨h1, h2⟩ := hcons a hI hc
      rw [h1, List.length_cons] at h
      rw [if_pos hc, h1, ih _ h2 (by omega)]
    · rw [if_neg hc, hnil a hc]

/-- **`forUp` is the list of values the loop variable really takes**: running the loop header
`for i := a; i < b (i <= b); i += k` step by step in 64-bit arithmetic, with any bound on the number of steps larger
than the length of `forUp`, visits exactly `forUp signed incl a b k` and then finds the condition false, provided that
no visited index wraps around: the indices stay within an invariant `I` on which `i + k ≤ max` while the condition
holds. -/
theorem forUp_sound_of (signed incl : Bool) (b : BitVec 64) (k : Nat) (hk : 0 < k) (I : BitVec 64 → Prop)
    (hI : ∀ i, I i → cmpUp signed incl b i = true → ord signed i + k ≤ maxOrd signed ∧ I (i + BitVec.ofNat 64 k)) :
    ∀ (fuel : Nat) (a : BitVec 64), I a → (forUp signed incl a b k).length < fuel →
      loopIdx (cmpUp signed incl b) (· + BitVec.ofNat 64 k) fuel a = forUp signed incl a b k :=
  loopIdx_eq _ _ (fun a => forUp signed incl a b k) I
    (fun a ha hc => ⟨forUp_step signed incl a b k hk (hI a ha hc).1 hc, (hI a ha hc).2⟩)
    (fun a hc => by rw [forUp_eq, if_neg hc])

/-- **`forDown` is the list of values the loop variable really takes** (as `forUp_sound_of`, for
`for i := a; i > b (i >= b); i -= k`: `i - k ≥ min` while the condition holds). -/
theorem forDown_sound_of (signed incl : Bool) (b : BitVec 64) (k : Nat) (hk : 0 < k) (I : BitVec 64 → Prop)
    (hI : ∀ i, I i → cmpDown signed incl b i = true → minOrd signed ≤ ord signed i - k ∧ I (i - BitVec.ofNat 64 k)) :
    ∀ (fuel : Nat) (a : BitVec 64), I a → (forDown signed incl a b k).length < fuel →
      loopIdx (cmpDown signed incl b) (· - BitVec.ofNat 64 k) fuel a = forDown signed incl a b k :=
  loopIdx_eq _ _ (fun a => forDown signed incl a b k) I
    (fun a ha hc => ⟨forDown_step signed incl a b k hk (hI a ha hc).1 hc, (hI a ha hc).2⟩)
    (fun a hc => by rw [forDown_eq, if_neg hc])

/-- under the side condition the translator checks, which does not depend on the index -/
theorem forUp_sound (signed incl : Bool) (b : BitVec 64) (k : Nat) (hk : 0 < k)
    (hsafe : ord signed b + (if incl then (k : Int) else k - 1) ≤ maxOrd signed) :
    ∀ (fuel : Nat) (a : BitVec 64), (forUp signed incl a b k).length < fuel →
      loopIdx (cmpUp signed incl b) (· + BitVec.ofNat 64 k) fuel a = forUp signed incl a b k :=
  fun fuel a h => forUp_sound_of signed incl b k hk (fun _ => True)
    (fun i _ hc => ⟨ord_add_le signed incl i b k hsafe hc, trivial⟩) fuel a trivial h

theorem forDown_sound (signed incl : Bool) (b : BitVec 64) (k : Nat) (hk : 0 < k)
    (hsafe : minOrd signed ≤ ord signed b - (if incl then (k : Int) else k - 1)) :
    ∀ (fuel : Nat) (a : BitVec 64), (forDown signed incl a b k).length < fuel →
      loopIdx (cmpDown signed incl b) (· - BitVec.ofNat 64 k) fuel a = forDown signed incl a b k :=
  fun fuel a h => forDown_sound_of signed incl b k hk (fun _ => True)
    (fun i _ hc => ⟨ord_sub_le signed incl i b k hsafe hc, trivial⟩) fuel a trivial h

/-- with step 1 and a strict comparison the side condition always holds -/
theorem forUp_sound_one (signed : Bool) (b : BitVec 64) (fuel : Nat) (a : BitVec 64)
    (h : (forUp signed false a b 1).length < fuel) :
    loopIdx (cmpUp signed false b) (· + 1#64) fuel a = forUp signed false a b 1 :=
  forUp_sound signed false b 1 (by decide) (by have := (ord_bounds signed b).2; simpa using this) fuel a h

theorem forDown_sound_one (signed : Bool) (b : BitVec 64) (fuel : Nat) (a : BitVec 64)
    (h : (forDown signed false a b 1).length < fuel) :
    loopIdx (cmpDown signed false b) (· - 1#64) fuel a = forDown signed false a b 1 :=
  forDown_sound signed false b 1 (by decide) (by have := (ord_bounds signed b).1; simpa using this) fuel a h

/-! ### `forUp`, `forDown` of the usual loop headers, in closed form -/

/-- `for i := a; i < b; i++` on `uint`: `a, a+1, …, b-1` -/
theorem forUp_uint_lt (a b : BitVec 64) :
    forUp false false a b 1 = (List.range (b.toNat - a.toNat)).map (fun m => BitVec.ofNat 64 (a.toNat + m)) := by
  unfold forUp
  simp only [Bool.false_eq_true, if_false, Nat.add_sub_cancel, Nat.div_one, Nat.mul_one]
  by_cases h : a.toNat < b.toNat
  · have hlt : a.ult b = true := by simp [BitVec.ult, h]
    rw [if_pos hlt]
    have hsub : (b - a).toNat = b.toNat - a.toNat := by
      rw [BitVec.toNat_sub]; have := a.isLt; have := b.isLt; omega
    rw [hsub]
    apply List.map_congr_left
    intro m _
    apply BitVec.eq_of_toNat_eq
    simp [BitVec.toNat_add]
  · have hlt : a.ult b = false := by simp [BitVec.ult, h]
    have : b.toNat - a.toNat = 0 := by omega
    simp [hlt, this]

/-- `for i := a; i <= b; i += k` / `i < b` on `int`, for bounds `0 ≤ a ≤ b < 2^63` -/
theorem forUp_int (incl : Bool) (a b k : Nat) (hab : if incl then a ≤ b else a < b) (hb : b < 2 ^ 63) :
    forUp true incl (BitVec.ofNat 64 a) (BitVec.ofNat 64 b) k =
      (List.range (if incl then (b - a) / k + 1 else (b - a + k - 1) / k)).map
        (fun m => BitVec.ofNat 64 (a + m * k)) := by
  have ha : a < 2 ^ 63 := by cases incl <;> simp at hab <;> omega
  have hle : a ≤ b := by cases incl <;> simp at hab <;> omega
  have hsub : (BitVec.ofNat 64 b - BitVec.ofNat 64 a).toNat = b - a := by
    rw [BitVec.toNat_sub, BitVec.toNat_ofNat, BitVec.toNat_ofNat]
    rw [Nat.mod_eq_of_lt (by omega : a < 2 ^ 64), Nat.mod_eq_of_lt (by omega : b < 2 ^ 64)]
    omega
  unfold forUp
  have henter : (if incl = true then (BitVec.ofNat 64 a).sle (BitVec.ofNat 64 b)
      else (BitVec.ofNat 64 a).slt (BitVec.ofNat 64 b)) = true := by
    cases incl
    · simp only [Bool.false_eq_true, if_false] at hab ⊢
      rw [BitVec.slt, toInt_ofNat_small a ha, toInt_ofNat_small b hb]
      exact decide_eq_true (by omega)
    · simp only [if_true] at hab ⊢
      rw [BitVec.sle, toInt_ofNat_small a ha, toInt_ofNat_small b hb]
      exact decide_eq_true (by omega)
  simp only [if_true, henter, hsub]
  apply List.map_congr_left
  intro m _
  apply BitVec.eq_of_toNat_eq
  simp [BitVec.toNat_add]

/-- `for i := 0; i < n; i++` on `int` -/
theorem forUp_range (n : Nat) (hn : n < 2 ^ 63) :
    forUp true false 0#64 (BitVec.ofNat 64 n) 1 = (List.range n).map (BitVec.ofNat 64) := by
  cases n with
  | zero => rfl
  | succ n =>
    have h := forUp_int false 0 (n + 1) 1 (Nat.succ_pos n) hn
    simp only [Bool.false_eq_true, if_false, Nat.sub_zero, Nat.add_sub_cancel, Nat.div_one, Nat.mul_one,
      Nat.zero_add] at h
    exact h

/-- `for i := w - 1; i >= 0; i--` on `int` -/
theorem forDown_int (w : Nat) (hw : w < 2 ^ 63) :
    forDown true true (BitVec.ofNat 64 w - 1#64) 0#64 1 = (List.range w).reverse.map (BitVec.ofNat 64) := by
  induction w with
  | zero => decide
  | succ w ih =>
    have e : BitVec.ofNat 64 (w + 1) - 1#64 = BitVec.ofNat 64 w :=
      (BitVec.ofNat_sub_ofNat_of_le (w + 1) 1 (by decide) (Nat.succ_pos w)).trans (by rw [Nat.add_sub_cancel])
    have hi := toInt_ofNat_small w (by omega)
    rw [e, forDown_step true true _ _ 1 (by decide)
        (by simp only [ord, minOrd, if_true]; omega)
        (by simp only [cmpDown, if_true, BitVec.sle, hi]; exact decide_eq_true (by simp)),
      show BitVec.ofNat 64 1 = (1#64 : BitVec 64) from rfl, ih (by omega), List.range_succ, List.reverse_append,
      List.reverse_singleton, List.singleton_append, List.map_cons]

/-- the list `forUp_int` yields, one element at a time -/
theorem map_range_succ_stride (a k n : Nat) :
    (List.range (n + 1)).map (fun m => BitVec.ofNat 64 (a + m * k)) =
      BitVec.ofNat 64 a :: (List.range n).map (fun m => BitVec.ofNat 64 (a + k + m * k)) := by
  rw [map_range_succ, Nat.zero_mul, Nat.add_zero]
  congr 1
  apply List.map_congr_left
  intro m _
  rw [Nat.add_mul, Nat.one_mul, Nat.add_comm (m * k) k, Nat.add_assoc]

/-! ### `shl`: `x << n` -/

theorem shl_eq {w : Nat} (x : BitVec w) (n : Nat) : shl x n = x <<< n := by
  unfold shl
  split
  · rename_i h
    apply BitVec.eq_of_getLsbD_eq
    intro i hi
    simp [BitVec.getLsbD_shiftLeft]
    intro _ hge
    omega
  · rfl

/-! ### math/big -/

theorem bigSign_eq (x : Int) : bigSign x = if x < 0 then BitVec.ofInt 64 (-1) else if x = 0 then 0#64 else 1#64 := by
  unfold bigSign
  rcases Int.lt_trichotomy x 0 with h | h | h
  · rw [Int.sign_eq_neg_one_of_neg h, if_pos h]
  · subst h; rfl
  · rw [Int.sign_eq_one_of_pos h, if_neg (by omega), if_neg (by omega)]; rfl

theorem bigSign_eq_zero (x : Int) : (bigSign x == 0#64) = decide (x = 0) := by
  rw [bigSign_eq]
  split
  · exact (decide_eq_false (by omega)).symm
  · split
    · subst x; rfl
    · next h => exact (decide_eq_false h).symm

theorem bigCmp_eq (x y : Int) : bigCmp x y = if x < y then BitVec.ofInt 64 (-1) else if x = y then 0#64 else 1#64 := by
  have h := bigSign_eq (x - y)
  rw [bigSign] at h
  rw [bigCmp, h]
  congr 1
  · exact propext ⟨fun h => by omega, fun h => by omega⟩
  · congr 1
    exact propext ⟨fun h => by omega, fun h => by omega⟩


end Iota.Go
