/-
Code tie for pkg/bech32/bech32.go: `Encode`, `Decode`, `validateCase`, `firstUpper`, `firstLower`, `isValidHRPChar`,
translated AS CODE by cmd/extract into `Iota/Gen/Bech32.lean` (`namespace api`; result `Option …`, `none` = Go run-time
panic), against the hand-written model `Iota/Model/Bech32.lean` (`Bech32.encode`, `Bech32.decode`, …).

What the translation does not define is a parameter of the generated functions: `strings.ToLower`, `strings.ToUpper`,
`strings.LastIndex` and the two tables of the package variable `charset`.  The tables are those `newEncoding` builds
(`encTable`, `decTable`: `Bech32CharsCode.newEncoding_charset`).  About the three library functions exactly the content of
the structure `Externs` is ASSUMED (ASCII case mapping on ASCII strings — nothing about other strings —, and
`LastIndex(s, "1")` = byte index of the last '1' or -1); `Externs.model` shows that the assumptions are satisfiable.

* `Decode_eq`: for every `E : Externs` and EVERY byte string `s` (ASCII or not, valid UTF-8 or not;
  `len(s) < 2^63`, which holds for every Go string: `len` is the list length read as a 64-bit `int`) the generated
  `Decode` returns the model's outcome: the same accepted pair, the same error variable, the same `SyntaxError` offset.
  `decode_never_panics` (`decode_never_panics_bits` for an arbitrary argument): `Decode` never panics.
  Points that needed an argument: the Go code ranges over the RUNES of the human-readable part, the model over its bytes
  (`hrp_loop`: the first rune failing `33 ≤ r ≤ 126` starts at the first byte failing the byte predicate, because the
  bytes before it are ASCII, hence runes of width 1, and a byte `≥ 0x80` at a rune start yields a rune `≥ 128` or U+FFFD,
  `runeValue_high`); `strings.ToLower` / `ToUpper` are only applied to strings already checked to be ASCII (both parts and
  the separator), so `lower_ascii` / `upper_ascii` suffice; `for i := range s` in `firstUpper` / `firstLower` is then the
  loop over all byte offsets (`runeStarts_all_ascii`); the `errors.As` branch maps the qualified base32 errors.
* `Encode_eq`: for every `E`, `hrp`, `src` with `len(src) < 2^60` and
  `len(hrp) + EncodedLen(len(src)) + 7 < 2^63` (`Encode_eq'`: `len(hrp) < 2^62`), the generated `Encode` returns the model's
  outcome; `encode_never_panics`.  The bounds only say that the length test at the top of `Encode` is evaluated without
  64-bit overflow; the one on `src` is sharp (`encode_panics_at_2_60`: with `len(src) = 2^60`, `EncodedLen` is negative, the
  test passes and `make` panics) — of no practical relevance, such a slice cannot exist.
* `isValidHRPChar_iff`, `isValidHRPChar_lt256`, `firstUpper_eq`, `firstLower_eq`, `validateCase_eq`: the small functions.
* the `example`s at the end evaluate the generated functions (kernel) on BIP-173 vectors and on rejected strings.

Core Lean only.
-/
import Iota.Gen.Bech32
import Iota.Model.Bech32
import Iota.Tie.GoFlow
import Iota.Tie.Bech32Code
import Iota.Tie.Base32Code
import Iota.Tie.Bech32CharsCode
import Iota.Proofs.Bech32Checksum
import Iota.Proofs.Bech32Strings

namespace Iota.Tie.Bech32ApiCode
open Iota Iota.Go
open Iota.Tie.Bech32Code (bv bv_cons bv_length bv_append bv_take bv_drop bv_getD ofBitVec_bv bv_ofBitVec toBitVec_bne)
open Iota.Tie.Bech32CharsCode (encTable decTable runeWidth_ascii)
open Iota.Gen.Bech32 (api.isValidHRPChar api.Decode api.Encode api.validateCase api.firstUpper api.firstLower
  base32.Decode base32.Encode base32.DecodedLen base32.EncodedLen chars.encoding_decode chars.encoding_encode
  bech32VerifyChecksum bech32CreateChecksum)

/-! ### what is assumed about the library functions -/

structure Externs where
  toLower : List (BitVec 8) → List (BitVec 8)
  toUpper : List (BitVec 8) → List (BitVec 8)
  lastIndex : List (BitVec 8) → List (BitVec 8) → BitVec 64
  /-- on ASCII strings `strings.ToLower` / `ToUpper` are the ASCII case mappings -/
  lower_ascii : ∀ s : List UInt8, (∀ c ∈ s, c.toNat < 128) → toLower (bv s) = bv (Bech32.lower s)
  upper_ascii : ∀ s : List UInt8, (∀ c ∈ s, c.toNat < 128) → toUpper (bv s) = bv (Bech32.upper s)
  /-- `strings.LastIndex(s, "1")` is the byte index of the last '1', or -1 -/
  lastIndex_sep : ∀ s : List UInt8, s.length < 2 ^ 62 →
    lastIndex (bv s) [49#8] =
      match Bech32.lastIndexSep s with
      | some i => BitVec.ofNat 64 i
      | none => BitVec.ofInt 64 (-1)

/-- the assumptions are satisfiable: the model's functions, transported to `List (BitVec 8)` -/
def Externs.model : Externs where
  toLower l := bv (Bech32.lower (l.map UInt8.ofBitVec))
  toUpper l := bv (Bech32.upper (l.map UInt8.ofBitVec))
  lastIndex l _ :=
    match Bech32.lastIndexSep (l.map UInt8.ofBitVec) with
    | some i => BitVec.ofNat 64 i
    | none => BitVec.ofInt 64 (-1)
  lower_ascii s _ := by rw [ofBitVec_bv]
  upper_ascii s _ := by rw [ofBitVec_bv]
  lastIndex_sep s _ := by rw [ofBitVec_bv]

theorem externs_satisfiable : Nonempty Externs := ⟨Externs.model⟩

/-! ### encodings of the model's outcomes -/

def kindName : Bech32.ErrKind → String
  | .invalidLength => "ErrInvalidLength"
  | .missingSeparator => "ErrMissingSeparator"
  | .invalidSeparator => "ErrInvalidSeparator"
  | .invalidCharacter => "ErrInvalidCharacter"
  | .mixedCase => "ErrMixedCase"
  | .invalidChecksum => "ErrInvalidChecksum"
  | .b32InvalidLength => "base32.ErrInvalidLength"
  | .b32NonZeroPadding => "base32.ErrNonZeroPadding"

/-- a model error as the translated code represents it: the name of the wrapped error variable and, for a
`*SyntaxError`, its offset -/
def encErr (e : Bech32.Err) : Option (String × Option (BitVec 64)) :=
  some (kindName e.1, e.2.map (BitVec.ofNat 64))

/-- an optional index as a Go `int`: `none ↦ -1` -/
def encIdx : Option Nat → BitVec 64
  | some i => BitVec.ofNat 64 i
  | none => BitVec.ofInt 64 (-1)

/-! ### `isValidHRPChar` and the runes of Go's UTF-8 decoder -/

/-- `r >= 33 && r <= 126` on an `int32` -/
theorem isValidHRPChar_toInt (r : BitVec 32) :
    api.isValidHRPChar r = (decide (33 ≤ r.toInt) && decide (r.toInt ≤ 126)) := by
  unfold api.isValidHRPChar BitVec.sle
  rfl

theorem isValidHRPChar_small (r : BitVec 32) (h : r.toNat < 2 ^ 31) :
    api.isValidHRPChar r = (decide (33 ≤ r.toNat) && decide (r.toNat ≤ 126)) := by
  rw [isValidHRPChar_toInt, BitVec.toInt_eq_toNat_of_lt (by omega)]
  congr 2 <;> exact propext (by omega)

/-- `runeWidth` in terms of the size `n` that the first byte announces: 1 (ill-formed), or `n` -/
theorem runeWidth_of_size (c : BitVec 8) (rest : List (BitVec 8)) (n : Nat) (hn : n = 1 ∨ n = 2 ∨ n = 3 ∨ n = 4)
    (hc : (if c.toNat < 0xC2 then 1 else if c.toNat < 0xE0 then 2 else if c.toNat < 0xF0 then 3
      else if c.toNat < 0xF5 then 4 else 1) = n) :
    runeWidth (c :: rest) = 1 ∨ runeWidth (c :: rest) = n ∧ utf8Second c.toNat (rest.getD 0 0).toNat = true := by
  have h : runeWidth (c :: rest) =
      if n == 1 then 1 else if rest.length + 1 < n then 1 else if !utf8Second c.toNat (rest.getD 0 0).toNat then 1
      else if n == 2 then 2 else if !utf8Cont (rest.getD 1 0).toNat then 1 else if n == 3 then 3
      else if !utf8Cont (rest.getD 2 0).toNat then 1 else 4 := by
    subst hc; rfl
  rw [h]
  by_cases hl : rest.length + 1 < n
  · exact .inl (by rw [if_pos hl, ite_self])
  rw [if_neg hl]
  cases utf8Second c.toNat (rest.getD 0 0).toNat
  · exact .inl (ite_self 1)
  rcases hn with rfl | rfl | rfl | rfl
  · exact .inl rfl
  · exact .inr ⟨rfl, rfl⟩
  · cases utf8Cont (rest.getD 1 0).toNat
    · exact .inl rfl
    · exact .inr ⟨rfl, rfl⟩
  · cases utf8Cont (rest.getD 1 0).toNat
    · exact .inl rfl
    cases utf8Cont (rest.getD 2 0).toNat
    · exact .inl rfl
    · exact .inr ⟨rfl, rfl⟩

/-- the shape of `runeWidth`: 1, or the length of the sequence the first byte announces -/
theorem runeWidth_cases (c : BitVec 8) (rest : List (BitVec 8)) (w : Nat) (hw : runeWidth (c :: rest) = w) :
    w = 1 ∨ (w = 2 ∧ 0xC2 ≤ c.toNat ∧ c.toNat < 0xE0) ∨
    (w = 3 ∧ 0xE0 ≤ c.toNat ∧ c.toNat < 0xF0 ∧ utf8Second c.toNat (rest.getD 0 0).toNat = true) ∨
    (w = 4 ∧ 0xF0 ≤ c.toNat ∧ c.toNat < 0xF5 ∧ utf8Second c.toNat (rest.getD 0 0).toNat = true) := by
  subst hw
  by_cases h1 : c.toNat < 0xC2
  · rcases runeWidth_of_size c rest 1 (.inl rfl) (if_pos h1) with h | ⟨h, _⟩ <;> exact .inl h
  by_cases h2 : c.toNat < 0xE0
  · rcases runeWidth_of_size c rest 2 (.inr (.inl rfl)) (by rw [if_neg h1, if_pos h2]) with h | ⟨h, _⟩
    · exact .inl h
    · exact .inr (.inl ⟨h, Nat.le_of_not_lt h1, h2⟩)
  by_cases h3 : c.toNat < 0xF0
  · rcases runeWidth_of_size c rest 3 (.inr (.inr (.inl rfl))) (by rw [if_neg h1, if_neg h2, if_pos h3]) with h | ⟨h, hs⟩
    · exact .inl h
    · exact .inr (.inr (.inl ⟨h, Nat.le_of_not_lt h2, h3, hs⟩))
  by_cases h4 : c.toNat < 0xF5
  · rcases runeWidth_of_size c rest 4 (.inr (.inr (.inr rfl))) (by rw [if_neg h1, if_neg h2, if_neg h3, if_pos h4])
      with h | ⟨h, hs⟩
    · exact .inl h
    · exact .inr (.inr (.inr ⟨h, Nat.le_of_not_lt h3, h4, hs⟩))
  · rcases runeWidth_of_size c rest 1 (.inl rfl) (by rw [if_neg h1, if_neg h2, if_neg h3, if_neg h4]) with h | ⟨h, _⟩ <;>
      exact .inl h

/-- on the rune of an ASCII byte (and on any rune value below 256) it is the model's byte predicate -/
theorem isValidHRPChar_byte (c : UInt8) :
    api.isValidHRPChar (BitVec.ofNat 32 c.toNat) = Bech32.isValidHRPChar c := by
  have hc : c.toNat < 256 := c.toNat_lt
  rw [isValidHRPChar_small _ (by rw [BitVec.toNat_ofNat]; omega), BitVec.toNat_ofNat,
    Nat.mod_eq_of_lt (by omega)]
  rfl

/-- on rune values below 256 the translated `isValidHRPChar` is the model's byte predicate … -/
theorem isValidHRPChar_lt256 (n : Nat) (hn : n < 256) :
    api.isValidHRPChar (BitVec.ofNat 32 n) = Bech32.isValidHRPChar (UInt8.ofNat n) := by
  have := isValidHRPChar_byte (UInt8.ofNat n)
  rwa [UInt8.toNat_ofNat', Nat.mod_eq_of_lt hn] at this

/-- … and on all rune values (an `int32`) it accepts exactly 33 … 126 -/
theorem isValidHRPChar_iff (r : BitVec 32) : api.isValidHRPChar r = true ↔ 33 ≤ r.toInt ∧ r.toInt ≤ 126 := by
  rw [isValidHRPChar_toInt]; simp

/-- an ASCII byte is the rune with that value -/
theorem runeValue_ascii (c : BitVec 8) (rest : List (BitVec 8)) (hc : c.toNat < 128) :
    runeValue (c :: rest) = BitVec.ofNat 32 c.toNat := by
  unfold runeValue
  rw [runeWidth_ascii c rest hc]
  simp [hc]

/-- what `utf8Second` says about the second byte of a sequence -/
theorem utf8Second_E0 (b0 b1 : Nat) (h : utf8Second b0 b1 = true) :
    b1 ≤ 0xBF ∧ 0x80 ≤ b1 ∧ (b0 = 0xE0 → 0xA0 ≤ b1) ∧ (b0 = 0xF0 → 0x90 ≤ b1) := by
  unfold utf8Second at h
  simp only [Bool.and_eq_true, decide_eq_true_eq] at h
  obtain ⟨hlo, hhi⟩ := h
  by_cases e0 : b0 = 0xE0
  · subst e0; simp at hlo hhi; omega
  by_cases f0 : b0 = 0xF0
  · subst f0; simp at hlo hhi; omega
  have e0' : (b0 == 0xE0) = false := by simpa using e0
  have f0' : (b0 == 0xF0) = false := by simpa using f0
  simp only [e0', f0', Bool.false_eq_true, if_false] at hlo
  refine ⟨?_, hlo, fun h => absurd h e0, fun h => absurd h f0⟩
  revert hhi
  split
  · intro; omega
  · split <;> intro <;> omega

/-- **a byte `≥ 0x80` at a rune start yields a rune `≥ 128`** (a decoded 2–4 byte sequence, or U+FFFD) -/
theorem runeValue_high (c : BitVec 8) (rest : List (BitVec 8)) (hc : 128 ≤ c.toNat) :
    127 < (runeValue (c :: rest)).toNat ∧ (runeValue (c :: rest)).toNat < 2 ^ 21 := by
  have hlt := c.isLt
  have g0 : (c :: rest).getD 0 0 = c := rfl
  have g1 : (c :: rest).getD 1 0 = rest.getD 0 0 := rfl
  rcases runeWidth_cases c rest _ rfl with h | ⟨h, h1, h2⟩ | ⟨h, h1, h2, h3⟩ | ⟨h, h1, h2, h3⟩
  all_goals
    unfold runeValue
    rw [h]
  · simp only [g0, if_neg (show ¬ c.toNat < 128 by omega)]
    decide
  · simp only [g0, BitVec.toNat_ofNat]
    omega
  all_goals
    have := utf8Second_E0 _ _ h3
    simp only [g0, g1, BitVec.toNat_ofNat]
    omega

/-! ### `Decode` in stages -/

abbrev DRes := List (BitVec 8) × List (BitVec 8) × Option (String × Option (BitVec 64))

/-- `Decode` after the checksum test -/
def cB32 (hrp : List (BitVec 8)) (hrpLen : BitVec 64) (data : List (BitVec 8)) : Flow DRes DRes :=
  if !(Go.sliceOK 0#64 ((BitVec.ofNat 64 data.length) - 6#64) data.length) then Go.Flow.panic else
  let data : List (BitVec 8) := (data.take ((BitVec.ofNat 64 data.length) - 6#64).toNat)
  if !(Go.nonneg (base32.DecodedLen (BitVec.ofNat 64 data.length))) then Go.Flow.panic else
  let dst : List (BitVec 8) := (List.replicate (base32.DecodedLen (BitVec.ofNat 64 data.length)).toNat 0#8)
  Go.Flow.bind (Go.call (base32.Decode dst data)) (fun (st_4 : BitVec 64 × Option (String × BitVec 64) × List (BitVec 8)) =>
  let dst : List (BitVec 8) := st_4.2.2
  let err_3 : Option (String × Option (BitVec 64)) := (Go.errOfAt (Go.errQualAt "base32" st_4.2.1))
  if (err_3).isSome then
    if (err_3).isSome then
      Go.Flow.done (([] : List (BitVec 8)), ([] : List (BitVec 8)), (some ((Go.errName err_3), some ((hrpLen + 1#64) + (Go.errOff err_3)))))
    else
    Go.Flow.done (([] : List (BitVec 8)), ([] : List (BitVec 8)), err_3)
  else
  Go.Flow.done (hrp, dst, (none : Option (String × Option (BitVec 64)))))

/-- `Decode` after `s = strings.ToLower(s)` -/
def cChars (charset_decMap : List (BitVec 8)) (s : List (BitVec 8)) (hrpLen : BitVec 64) : Flow DRes DRes :=
  if !(Go.sliceOK 0#64 hrpLen s.length) then Go.Flow.panic else
  let hrp : List (BitVec 8) := (s.take hrpLen.toNat)
  if !(Go.sliceFromS (hrpLen + 1#64) s.length) then Go.Flow.panic else
  let chars_2 : List (BitVec 8) := (s.drop (hrpLen + 1#64).toNat)
  Go.Flow.bind (Go.call (chars.encoding_decode charset_decMap chars_2)) (fun (st_3 : List (BitVec 8) × Option String) =>
  let data : List (BitVec 8) := st_3.1
  let err_2 : Option (String × Option (BitVec 64)) := (Go.errOfPlain st_3.2)
  if (err_2).isSome then
    Go.Flow.done (([] : List (BitVec 8)), ([] : List (BitVec 8)), (some ("ErrInvalidCharacter", some ((hrpLen + 1#64) + (BitVec.ofNat 64 data.length)))))
  else
  if ((BitVec.slt (BitVec.ofNat 64 data.length) 6#64) || (!(bech32VerifyChecksum hrp data))) then
    Go.Flow.done (([] : List (BitVec 8)), ([] : List (BitVec 8)), (some ("ErrInvalidChecksum", some ((BitVec.ofNat 64 s.length) - 6#64))))
  else
  cB32 hrp hrpLen data)

/-- `Decode` from the call of `validateCase` on -/
def cCase (dm : List (BitVec 8)) (tl tu : List (BitVec 8) → List (BitVec 8)) (s : List (BitVec 8)) (hrpLen : BitVec 64) :
    Flow DRes DRes :=
  Go.Flow.bind (Go.call (api.validateCase tl tu s)) (fun (st_2 : Option (String × BitVec 64)) =>
  let err : Option (String × Option (BitVec 64)) := (Go.errOfAt st_2)
  if (err).isSome then
    Go.Flow.done (([] : List (BitVec 8)), ([] : List (BitVec 8)), err)
  else
  cChars dm (tl s) hrpLen)

/-- the body of the loop over the runes of the human-readable part, in `Decode` and in `Encode`: return `R i` at the
first rune, starting at byte offset `i`, that fails `isValidHRPChar` -/
def hrpBody {ρ : Type} (R : BitVec 64 → ρ) (_ : Unit) (rk_1 : BitVec 64 × BitVec 32) : Flow ρ Unit :=
  if (!(api.isValidHRPChar rk_1.2)) then Go.Flow.done (R rk_1.1) else Go.Flow.run ()

/-- the body of the loop over the bytes of the data part -/
def dataBody (s : List (BitVec 8)) (_ : Unit) (i : BitVec 64) : Flow DRes Unit :=
  if !(Go.inRangeS i s.length) then Go.Flow.panic else
  if (BitVec.ule 128#8 (s.getD i.toNat 0#8)) then
    Go.Flow.done (([] : List (BitVec 8)), ([] : List (BitVec 8)), (some ("ErrInvalidCharacter", some i)))
  else
  Go.Flow.run ()

/-- `Decode` from the second loop on -/
def cData (dm : List (BitVec 8)) (tl tu : List (BitVec 8) → List (BitVec 8)) (s : List (BitVec 8)) (hrpLen : BitVec 64) :
    Flow DRes DRes :=
  Go.Flow.bind (Go.forIn (Go.forUp true false (hrpLen + 1#64) (BitVec.ofNat 64 s.length) 1) () (dataBody s))
    (fun (_ : Unit) => cCase dm tl tu s hrpLen)

/-- `Decode` from the first loop on -/
def cHrp (dm : List (BitVec 8)) (tl tu : List (BitVec 8) → List (BitVec 8)) (s : List (BitVec 8)) (hrpLen : BitVec 64) :
    Flow DRes DRes :=
  Go.Flow.bind (Go.forIn (Go.runes (s.take hrpLen.toNat)) ()
      (hrpBody fun i => (([] : List (BitVec 8)), ([] : List (BitVec 8)), some ("ErrInvalidCharacter", some i))))
    (fun (_ : Unit) => cData dm tl tu s hrpLen)

theorem Decode_unfold (dm : List (BitVec 8)) (li : List (BitVec 8) → List (BitVec 8) → BitVec 64)
    (tl tu : List (BitVec 8) → List (BitVec 8)) (s : List (BitVec 8)) :
    api.Decode dm li tl tu s = Flow.result (
      if (BitVec.slt 90#64 (BitVec.ofNat 64 s.length)) then
        Go.Flow.done (([] : List (BitVec 8)), ([] : List (BitVec 8)), (some ("ErrInvalidLength", some 90#64)))
      else
      if (li s [49#8] == (BitVec.ofInt 64 (-1))) then
        Go.Flow.done (([] : List (BitVec 8)), ([] : List (BitVec 8)), (some ("ErrMissingSeparator", none)))
      else
      if ((BitVec.slt (li s [49#8]) 1#64) || (BitVec.slt (BitVec.ofNat 64 s.length) (li s [49#8] + 6#64))) then
        Go.Flow.done (([] : List (BitVec 8)), ([] : List (BitVec 8)), (some ("ErrInvalidSeparator", some (li s [49#8]))))
      else
      if !(Go.sliceOK 0#64 (li s [49#8]) s.length) then Go.Flow.panic else
      cHrp dm tl tu s (li s [49#8])) := rfl

/-! ### the model's `decode` in the same stages -/

section
open Iota.Bech32

/-- the model's `decode` after the checksum test -/
def mB32 (hrp : Str) (hrpLen : Nat) (payload : List UInt8) : Except Err (Str × List UInt8) :=
  match b32Decode payload with
  | .error (.invalidLength, off) => .error (.b32InvalidLength, some (hrpLen + 1 + off))
  | .error (.nonZeroPadding, off) => .error (.b32NonZeroPadding, some (hrpLen + 1 + off))
  | .ok dst => .ok (hrp, dst)

/-- … after lower-casing (`len` is the length of the string) -/
def mChars (len : Nat) (sl : Str) (hrpLen : Nat) : Except Err (Str × List UInt8) :=
  match charsetDecode (sl.drop (hrpLen + 1)) with
  | .error n => .error (.invalidCharacter, some (hrpLen + 1 + n))
  | .ok data =>
    if data.length < checksumLength ∨ !verifyChecksum (sl.take hrpLen) data then
      .error (.invalidChecksum, some (len - checksumLength))
    else mB32 (sl.take hrpLen) hrpLen (data.take (data.length - checksumLength))

def mCase (s : Str) (hrpLen : Nat) : Except Err (Str × List UInt8) :=
  match validateCase s with
  | some off => .error (.mixedCase, some off)
  | none => mChars s.length (lower s) hrpLen

def mData (s : Str) (hrpLen : Nat) : Except Err (Str × List UInt8) :=
  match (s.drop (hrpLen + 1)).findIdx? (fun c => decide (c.toNat ≥ 128)) with
  | some i => .error (.invalidCharacter, some (hrpLen + 1 + i))
  | none => mCase s hrpLen

def mHrp (s : Str) (hrpLen : Nat) : Except Err (Str × List UInt8) :=
  match (s.take hrpLen).findIdx? (fun c => !isValidHRPChar c) with
  | some i => .error (.invalidCharacter, some i)
  | none => mData s hrpLen

theorem decode_stages (s : Str) : Bech32.decode s =
    if s.length > maxStringLength then .error (.invalidLength, some maxStringLength)
    else match lastIndexSep s with
    | none => .error (.missingSeparator, none)
    | some hrpLen =>
      if hrpLen < 1 ∨ hrpLen + checksumLength > s.length then .error (.invalidSeparator, some hrpLen)
      else mHrp s hrpLen := rfl

end

/-! ### the last stages of `Decode`: base32, charset -/

/-- the outcome of the model's `decode` as the translated `Decode` represents it -/
def encDec : Except Bech32.Err (Bech32.Str × List UInt8) → DRes
  | .ok (hrp, d) => (bv hrp, bv d, none)
  | .error e => ([], [], encErr e)

/-- the bounds check of `x[:b]` in the straight-line stages -/
theorem sliceOK_zero (b n : Nat) (hbn : b ≤ n) (hn : n < 2 ^ 63) : sliceOK 0#64 (BitVec.ofNat 64 b) n = true := by
  rw [Go.sliceOK_ofNat 0 b n (by decide) (by omega), decide_eq_true (Nat.zero_le b),
    decide_eq_true hbn]
  rfl

theorem cB32_eq (hrp data : List UInt8) (i : Nat) (h6 : 6 ≤ data.length) (hl : data.length * 5 < 2 ^ 63) :
    cB32 (bv hrp) (BitVec.ofNat 64 i) (bv data) = .done (encDec (mB32 hrp i (data.take (data.length - 6)))) := by
  have hpl : (data.take (data.length - 6)).length = data.length - 6 := by
    rw [List.length_take]; omega
  have hdl : (data.length - 6) * 5 < 2 ^ 63 := by omega
  unfold cB32
  rw [bv_length, BitVec.ofNat_sub_ofNat_of_le _ _ (by decide : 6 < 2 ^ 64) h6,
    sliceOK_zero _ _ (Nat.sub_le _ _) (by omega), toNat_ofNat_lt _ (by omega), bv_take]
  simp only [Bool.not_true, Bool.false_eq_true, if_false, bv_length, hpl]
  rw [Base32Code.DecodedLen_eq _ hdl, Go.nonneg_ofNat _ (by unfold Bech32.decodedLen; omega),
    toNat_ofNat_lt _ (by unfold Bech32.decodedLen; omega)]
  simp only [Bool.not_true, Bool.false_eq_true, if_false]
  have hfit : (Base32Code.decBytes (data.take (data.length - 6))).length ≤ (List.replicate (Bech32.decodedLen (data.length - 6)) 0#8).length := by
    rw [Base32Code.decBytes_length, List.length_replicate, hpl]; exact Base32Code.minDst_le _
  rw [Base32Code.decode_spec _ _ (by rw [hpl]; omega), if_pos hfit]
  unfold mB32
  cases hm : Bech32.b32Decode (data.take (data.length - 6)) with
  | ok bytes =>
    have hb := Base32Code.decBytes_of_ok _ 0 bytes hm
    have hlen := Base32Code.length_ok _ bytes hm
    rw [hpl] at hlen
    simp only [Go.call, Flow.bind_run, Base32Code.errOf, errQualAt, errOfAt, Option.map_none, Option.isSome_none,
      Bool.false_eq_true, if_false, encDec, hb]
    rw [← hlen, List.drop_of_length_le (by simp), List.append_nil]
  | error e =>
    obtain ⟨e, off⟩ := e
    cases e <;>
    simp only [Go.call, Flow.bind_run, Base32Code.errOf, errQualAt, errOfAt, Option.map_some, Option.isSome_some, if_true,
      Go.errName, Go.errOff, Option.getD_some, Option.bind_some, encDec, encErr, kindName, Base32Code.errName,
      ← BitVec.ofNat_add] <;> rfl


theorem cChars_eq (sl : List UInt8) (len i : Nat) (hlen : sl.length = len) (hi : i + 6 ≤ len) (hl : len * 5 < 2 ^ 63) :
    cChars decTable (bv sl) (BitVec.ofNat 64 i) = .done (encDec (mChars len sl i)) := by
  subst hlen
  have hcl : (sl.drop (i + 1)).length = sl.length - (i + 1) := List.length_drop
  unfold cChars
  rw [bv_length, sliceOK_zero i _ (by omega) (by omega), ← BitVec.ofNat_add,
    Go.sliceFromS_ofNat (i + 1) _ (by omega), decide_eq_true (show i + 1 ≤ sl.length by omega), toNat_ofNat_lt i (by omega),
    toNat_ofNat_lt (i + 1) (by omega), bv_take, bv_drop]
  simp only [Bool.not_true, Bool.false_eq_true, if_false]
  rw [Bech32CharsCode.decode_eq _ (by omega)]
  unfold mChars
  cases hc : Bech32.charsetDecode (sl.drop (i + 1)) with
  | error m =>
    have hm := (Bech32CharsCode.charsetDecode_error _ m hc).1
    simp only [Go.call, Flow.bind_run, errOfPlain, Option.map_some, Option.isSome_some, if_true, bv_length,
      List.length_map, List.length_take, Nat.min_eq_left (Nat.le_of_lt hm), ← BitVec.ofNat_add, encDec, encErr, kindName,
      Option.map_some]
  | ok ds =>
    have hds : ds.length = sl.length - (i + 1) := by
      rw [(Bech32CharsCode.charsetDecode_ok _ ds hc).1, List.length_map, hcl]
    simp only [Go.call, Flow.bind_run, errOfPlain, Option.map_none, Option.isSome_none, Bool.false_eq_true, if_false,
      bv_length, slt_ofNat ds.length 6 (by omega) (by omega), Bech32Code.verifyChecksum_eq, Bool.or_eq_true,
      decide_eq_true_eq]
    by_cases hck : ds.length < Bech32.checksumLength ∨ (!Bech32.verifyChecksum (sl.take i) ds) = true
    · rw [if_pos hck, if_pos (show ds.length < 6 ∨ _ from hck),
        BitVec.ofNat_sub_ofNat_of_le sl.length 6 (by decide : 6 < 2 ^ 64) (by omega)]
      rfl
    · rw [if_neg hck, if_neg (show ¬ (ds.length < 6 ∨ _) from hck)]
      exact cB32_eq (sl.take i) ds i (Nat.le_of_not_lt fun h => hck (.inl h)) (by omega)

/-! ### `firstUpper`, `firstLower`, `validateCase` on ASCII strings -/

/-- a loop without state over consecutive offsets `a, a+1, …` that returns `R off` at the first offset whose element
satisfies `q` -/
theorem forIn_firstIdx {ρ : Type} (R : BitVec 64 → ρ) (q : UInt8 → Bool) (body : Unit → BitVec 64 → Flow ρ Unit) :
    ∀ (l : List UInt8) (a : Nat),
      (∀ k, k < l.length → body () (BitVec.ofNat 64 (a + k)) =
        if q (l.getD k 0) then .done (R (BitVec.ofNat 64 (a + k))) else .run ()) →
      forIn ((List.range' a l.length).map (BitVec.ofNat 64)) () body =
        match l.findIdx? q with
        | some j => .done (R (BitVec.ofNat 64 (a + j)))
        | none => .run () := by
  intro l
  induction l with
  | nil => intro a _; rfl
  | cons c cs ih =>
    intro a h
    rw [List.length_cons, List.range'_succ, List.map_cons, forIn_cons]
    have h0 := h 0 (by simp)
    rw [Nat.add_zero] at h0
    rw [h0, List.findIdx?_cons]
    simp only [List.getD_cons_zero]
    cases hq : q c
    · simp only [Bool.false_eq_true, if_false, Flow.bind_run]
      rw [ih (a + 1) (fun k hk => by
        have := h (k + 1) (by simp; omega)
        rw [List.getD_cons_succ, show a + (k + 1) = a + 1 + k by omega] at this
        exact this)]
      cases cs.findIdx? q with
      | none => rfl
      | some j => simp only [Option.map_some]; rw [show a + 1 + j = a + (j + 1) by omega]
    · simp

theorem getD_map_lt {α β : Type} (f : α → β) (l : List α) (k : Nat) (hk : k < l.length) (d : α) (d' : β) :
    (l.map f).getD k d' = f (l.getD k d) := by
  simp only [List.getD_eq_getElem?_getD, List.getElem?_map, List.getElem?_eq_getElem hk, Option.map_some,
    Option.getD_some]

abbrev caseBody (other s : List (BitVec 8)) (_ : Unit) (i : BitVec 64) : Flow (BitVec 64) Unit :=
  if !(Go.inRangeS i other.length) then Go.Flow.panic else
  if ((other.getD i.toNat 0#8) != (s.getD i.toNat 0#8)) then Go.Flow.done i else Go.Flow.run ()

/-- **`firstUpper` / `firstLower` on an ASCII string**: both are the loop `caseBody` against the string `t s`, which on an
ASCII `s` is `s.map f` for the ASCII case mapping `f`; the result is the first byte that `f` changes (`none ↦ -1`) -/
theorem case_loop (F : (List (BitVec 8) → List (BitVec 8)) → List (BitVec 8) → Option (BitVec 64))
    (hF : ∀ t s, F t s = Flow.result
      (Flow.bind (forIn (runeStarts s) () (caseBody (t s) s)) fun _ => .done (BitVec.ofInt 64 (-1))))
    (t : List (BitVec 8) → List (BitVec 8)) (f : UInt8 → UInt8) (q : UInt8 → Bool)
    (hid : ∀ c, q c = false → f c = c) (hne : ∀ c, q c = true → f c ≠ c) (s : List UInt8)
    (ht : t (bv s) = bv (s.map f)) (hascii : ∀ c ∈ s, c.toNat < 128) (hl : s.length < 2 ^ 63) :
    F t (bv s) = some (encIdx (s.findIdx? q)) := by
  have hq : ∀ c, (f c != c) = q c := by
    intro c
    cases h : q c
    · rw [hid c h, bne_self_eq_false]
    · exact bne_iff_ne.mpr (hne c h)
  have hstarts : runeStarts (bv s) = (List.range' 0 s.length).map (BitVec.ofNat 64) := by
    rw [Bech32CharsCode.runeStarts_all_ascii, bv_length, List.range_eq_range']
    intro b hb
    obtain ⟨c, hc, rfl⟩ := List.mem_map.mp hb
    exact hascii c hc
  rw [hF, ht, hstarts, forIn_firstIdx id q _ s 0]
  · cases s.findIdx? q with
    | none => rfl
    | some j => simp [encIdx]
  · intro k hk
    rw [Nat.zero_add]
    simp only [caseBody, bv_length, List.length_map, Go.inRangeS_ofNat k _ (by omega), decide_eq_true hk, toNat_ofNat_lt k (by omega),
      bv_getD, getD_map_lt f s k hk 0 0, toBitVec_bne, hq, Bool.not_true, Bool.false_eq_true, if_false, id]

/-- **`firstUpper` on an ASCII string** is the model's (`none ↦ -1`); no panic -/
theorem firstUpper_eq (E : Externs) (s : List UInt8) (hascii : ∀ c ∈ s, c.toNat < 128) (hl : s.length < 2 ^ 63) :
    api.firstUpper E.toLower (bv s) = some (encIdx (Bech32.firstUpper s)) :=
  case_loop api.firstUpper (fun _ _ => rfl) E.toLower Bech32.toLowerAscii _ Proofs.Bech32.lower_id_c
    Proofs.Bech32.lower_ne_c s (E.lower_ascii s hascii) hascii hl

theorem firstLower_eq (E : Externs) (s : List UInt8) (hascii : ∀ c ∈ s, c.toNat < 128) (hl : s.length < 2 ^ 63) :
    api.firstLower E.toUpper (bv s) = some (encIdx (Bech32.firstLower s)) :=
  case_loop api.firstLower (fun _ _ => rfl) E.toUpper Bech32.toUpperAscii _ Proofs.Bech32.upper_id_c
    Proofs.Bech32.upper_ne_c s (E.upper_ascii s hascii) hascii hl

theorem validateCase_unfold (tl tu : List (BitVec 8) → List (BitVec 8)) (s : List (BitVec 8)) :
    api.validateCase tl tu s = Flow.result (
      Flow.bind (Go.call (api.firstUpper tl s)) fun upper =>
      Flow.bind (Go.call (api.firstLower tu s)) fun lower =>
      if ((BitVec.slt upper lower) && (BitVec.sle 0#64 upper)) then Flow.done (some ("ErrMixedCase", lower))
      else if ((BitVec.slt lower upper) && (BitVec.sle 0#64 lower)) then Flow.done (some ("ErrMixedCase", upper))
      else Flow.done (none : Option (String × BitVec 64))) := rfl

theorem encIdx_toInt (o : Option Nat) (h : ∀ i, o = some i → i < 2 ^ 63) :
    (encIdx o).toInt = match o with | some i => (i : Int) | none => -1 := by
  cases o with
  | none => rfl
  | some i => exact toInt_ofNat_small i (h i rfl)

/-- the comparison of the two indices in `validateCase` -/
theorem case_verdict (U L : Option Nat) (hU : ∀ i, U = some i → i < 2 ^ 63) (hL : ∀ i, L = some i → i < 2 ^ 63) :
    (if ((BitVec.slt (encIdx U) (encIdx L)) && (BitVec.sle 0#64 (encIdx U))) then
        (Flow.done (some ("ErrMixedCase", encIdx L)) : Flow (Option (String × BitVec 64)) (Option (String × BitVec 64)))
      else if ((BitVec.slt (encIdx L) (encIdx U)) && (BitVec.sle 0#64 (encIdx L))) then
        Flow.done (some ("ErrMixedCase", encIdx U))
      else Flow.done none).result =
    some ((match U, L with
      | some u, some l => if u < l then some l else if l < u then some u else none
      | _, _ => none).map fun off => ("ErrMixedCase", BitVec.ofNat 64 off)) := by
  rcases U with _ | u <;> rcases L with _ | l <;>
    simp only [BitVec.slt, BitVec.sle, encIdx_toInt _ hU, encIdx_toInt _ hL, BitVec.toInt_zero, Bool.and_eq_true,
      decide_eq_true_eq, Int.ofNat_lt, Int.natCast_nonneg, and_true]
  · rfl
  · rw [if_neg (by omega), if_neg (by omega)]; rfl
  · rw [if_neg (by omega), if_neg (by omega)]; rfl
  · by_cases h1 : u < l
    · rw [if_pos h1, if_pos h1]; rfl
    rw [if_neg h1, if_neg h1]
    by_cases h2 : l < u
    · rw [if_pos h2, if_pos h2]; rfl
    · rw [if_neg h2, if_neg h2]; rfl

/-- **`validateCase` on an ASCII string** is the model's; no panic -/
theorem validateCase_eq (E : Externs) (s : List UInt8) (hascii : ∀ c ∈ s, c.toNat < 128) (hl : s.length < 2 ^ 63) :
    api.validateCase E.toLower E.toUpper (bv s) =
      some ((Bech32.validateCase s).map fun off => ("ErrMixedCase", BitVec.ofNat 64 off)) := by
  rw [validateCase_unfold, firstUpper_eq E s hascii hl, firstLower_eq E s hascii hl]
  exact case_verdict _ _ (fun i h => Nat.lt_trans (Proofs.Bech32.findIdx_some_lt _ s i h) hl)
    (fun i h => Nat.lt_trans (Proofs.Bech32.findIdx_some_lt _ s i h) hl)

/-- **the call of `validateCase` on an ASCII string and the test of its result**, in `Decode` and in `Encode`: the
mixed-case error, or the rest `k` of the function -/
theorem validateCase_stage {ρ : Type} (E : Externs) (s : List UInt8) (hascii : ∀ c ∈ s, c.toNat < 128)
    (hl : s.length < 2 ^ 63) (R : Option (String × Option (BitVec 64)) → ρ) (k : Flow ρ ρ) :
    Flow.bind (Go.call (api.validateCase E.toLower E.toUpper (bv s)))
        (fun st_2 => if (Go.errOfAt st_2).isSome then Go.Flow.done (R (Go.errOfAt st_2)) else k) =
      match Bech32.validateCase s with
      | some off => .done (R (encErr (.mixedCase, some off)))
      | none => k := by
  rw [validateCase_eq E s hascii hl]
  cases Bech32.validateCase s <;> rfl

/-! ### the loop over the runes of the human-readable part -/

theorem valid_ascii {c : UInt8} (h : Bech32.isValidHRPChar c = true) : c.toNat < 128 := by
  have := (Proofs.Bech32.valid_iff_c c).mp h
  omega

/-- `a ++ "1" ++ b` is ASCII when `a` and `b` are: what `strings.ToLower` / `ToUpper` are applied to -/
theorem ascii_sep (a b : List UInt8) (ha : ∀ c ∈ a, c.toNat < 128) (hb : ∀ c ∈ b, c.toNat < 128) :
    ∀ c ∈ a ++ [Bech32.separator] ++ b, c.toNat < 128 := by
  intro c hc
  simp only [List.mem_append, List.mem_singleton] at hc
  rcases hc with (hc | hc) | hc
  · exact ha c hc
  · subst hc; decide
  · exact hb c hc

/-- the rune at the start of `c :: rest` passes `isValidHRPChar` exactly when the byte `c` passes the model's test: a byte
`≥ 0x80` starts a rune `≥ 128` or yields U+FFFD -/
theorem isValidHRPChar_rune (c : UInt8) (rest : List (BitVec 8)) :
    api.isValidHRPChar (runeValue (c.toBitVec :: rest)) = Bech32.isValidHRPChar c := by
  by_cases hc : c.toNat < 128
  · rw [runeValue_ascii _ _ (by rwa [UInt8.toNat_toBitVec]), UInt8.toNat_toBitVec, isValidHRPChar_byte]
  · have hv := runeValue_high c.toBitVec rest (by rw [UInt8.toNat_toBitVec]; omega)
    rw [isValidHRPChar_small _ (by omega)]
    have h1 : ¬ ((runeValue (c.toBitVec :: rest)).toNat ≤ 126) := by omega
    have h2 : ¬ (c.toNat ≤ 126) := by omega
    simp [Bech32.isValidHRPChar, h1, h2]

/-- **`for i, c := range hrp { if !isValidHRPChar(c) { return … i … } }`**: the loop over the runes returns at the first
BYTE that fails the model's test, with its byte offset -/
theorem hrp_loop {ρ : Type} (R : BitVec 64 → ρ) :
    ∀ (p : List UInt8) (fuel off : Nat), p.length ≤ fuel →
      forIn (runesFrom fuel off (bv p)) () (hrpBody R) =
        match p.findIdx? (fun c => !Bech32.isValidHRPChar c) with
        | some j => .done (R (BitVec.ofNat 64 (off + j)))
        | none => .run () := by
  intro p
  induction p with
  | nil => intro fuel off _; cases fuel <;> rfl
  | cons c cs ih =>
    intro fuel off hf
    obtain ⟨fuel, rfl⟩ : ∃ f, fuel = f + 1 := ⟨fuel - 1, by simp at hf; omega⟩
    rw [bv_cons]
    rw [show runesFrom (fuel + 1) off (c.toBitVec :: bv cs) =
      (BitVec.ofNat 64 off, runeValue (c.toBitVec :: bv cs)) ::
        runesFrom fuel (off + runeWidth (c.toBitVec :: bv cs)) ((c.toBitVec :: bv cs).drop (runeWidth (c.toBitVec :: bv cs)))
      from rfl, forIn_cons, hrpBody, isValidHRPChar_rune, List.findIdx?_cons]
    cases hv : Bech32.isValidHRPChar c
    · simp
    · have hw := runeWidth_ascii c.toBitVec (bv cs) (by rw [UInt8.toNat_toBitVec]; exact valid_ascii hv)
      simp only [Bool.not_true, Bool.false_eq_true, if_false, Flow.bind_run, hw, List.drop_succ_cons, List.drop_zero]
      rw [ih fuel (off + 1) (by simpa using hf)]
      cases cs.findIdx? (fun c => !Bech32.isValidHRPChar c) with
      | none => rfl
      | some j => simp only [Option.map_some]; rw [show off + 1 + j = off + (j + 1) by omega]

theorem runes_loop {ρ : Type} (R : BitVec 64 → ρ) (p : List UInt8) :
    forIn (runes (bv p)) () (hrpBody R) =
      match p.findIdx? (fun c => !Bech32.isValidHRPChar c) with
      | some j => .done (R (BitVec.ofNat 64 j))
      | none => .run () := by
  have := hrp_loop R p (bv p).length 0 (by rw [bv_length]; exact Nat.le_refl _)
  simpa [runes] using this

/-! ### the middle stages of `Decode`: `validateCase`, the loop over the data part, the loop over the human-readable part -/

theorem cCase_eq (E : Externs) (s : List UInt8) (i : Nat) (hascii : ∀ c ∈ s, c.toNat < 128)
    (hi : i + 6 ≤ s.length) (hl : s.length * 5 < 2 ^ 63) :
    cCase decTable E.toLower E.toUpper (bv s) (BitVec.ofNat 64 i) = .done (encDec (mCase s i)) := by
  refine (validateCase_stage E s hascii (by omega) (fun err => ([], [], err)) _).trans ?_
  unfold mCase
  cases Bech32.validateCase s with
  | some off => rfl
  | none =>
    rw [E.lower_ascii s hascii]
    exact cChars_eq (Bech32.lower s) s.length i (Proofs.Bech32.lower_length s) hi hl

/-- `for i := a; i < b; i++` on `int`, `0 ≤ a < b` -/
theorem forUp_lt (a b : Nat) (hab : a < b) (hb : b < 2 ^ 63) :
    forUp true false (BitVec.ofNat 64 a) (BitVec.ofNat 64 b) 1 = (List.range' a (b - a)).map (BitVec.ofNat 64) := by
  rw [forUp_int false a b 1 (by simpa using hab) hb, List.range'_eq_map_range, List.map_map]
  simp only [Bool.false_eq_true, if_false, Nat.add_sub_cancel, Nat.div_one, Nat.mul_one]
  rfl

theorem ule_128 (x : UInt8) : BitVec.ule 128#8 x.toBitVec = decide (x.toNat ≥ 128) := by
  simp [BitVec.ule, UInt8.toNat_toBitVec]

theorem cData_eq (E : Externs) (s : List UInt8) (i : Nat) (hhrp : ∀ c ∈ s.take i, c.toNat < 128)
    (hsplit : s = s.take i ++ [Bech32.separator] ++ s.drop (i + 1))
    (hi : i + 6 ≤ s.length) (hl : s.length * 5 < 2 ^ 63) :
    cData decTable E.toLower E.toUpper (bv s) (BitVec.ofNat 64 i) = .done (encDec (mData s i)) := by
  unfold cData mData
  have hdl : (s.drop (i + 1)).length = s.length - (i + 1) := List.length_drop
  rw [bv_length, ← BitVec.ofNat_add, forUp_lt (i + 1) s.length (by omega) (by omega), ← hdl,
    forIn_firstIdx (fun off => (([] : List (BitVec 8)), ([] : List (BitVec 8)), some ("ErrInvalidCharacter", some off)))
      (fun c => decide (c.toNat ≥ 128)) (dataBody (bv s)) (s.drop (i + 1)) (i + 1)]
  · cases hf : (s.drop (i + 1)).findIdx? (fun c => decide (c.toNat ≥ 128)) with
    | some j => simp only [Flow.bind_done, encDec, encErr, kindName, Option.map_some]
    | none =>
      simp only [Flow.bind_run]
      refine cCase_eq E s i ?_ hi hl
      rw [hsplit]
      exact ascii_sep _ _ hhrp fun c hc => by simpa using (Proofs.Bech32.findIdx_none_iff _ _).mp hf c hc
  · intro k hk
    rw [hdl] at hk
    simp only [dataBody, bv_length, Go.inRangeS_ofNat (i + 1 + k) s.length (by omega),
      decide_eq_true (show i + 1 + k < s.length by omega), toNat_ofNat_lt (i + 1 + k) (by omega), bv_getD, ule_128, getD_drop,
      Bool.not_true, Bool.false_eq_true, if_false]

theorem cHrp_eq (E : Externs) (s : List UInt8) (i : Nat)
    (hsplit : s = s.take i ++ [Bech32.separator] ++ s.drop (i + 1))
    (hi : i + 6 ≤ s.length) (hl : s.length * 5 < 2 ^ 63) :
    cHrp decTable E.toLower E.toUpper (bv s) (BitVec.ofNat 64 i) = .done (encDec (mHrp s i)) := by
  unfold cHrp mHrp
  rw [toNat_ofNat_lt i (by omega), bv_take, runes_loop]
  cases hf : (s.take i).findIdx? (fun c => !Bech32.isValidHRPChar c) with
  | some j => simp only [Flow.bind_done, encDec, encErr, kindName, Option.map_some]
  | none =>
    simp only [Flow.bind_run]
    refine cData_eq E s i ?_ hsplit hi hl
    intro c hc
    have := (Proofs.Bech32.findIdx_none_iff _ _).mp hf c hc
    exact valid_ascii (by simpa using this)

/-! ### **`Decode`, all byte strings** -/

theorem ofNat_beq_neg1 (i : Nat) (hi : i < 2 ^ 63) : (BitVec.ofNat 64 i == BitVec.ofInt 64 (-1)) = false := by
  rw [show BitVec.ofInt 64 (-1) = BitVec.ofNat 64 (2 ^ 64 - 1) from rfl, beq_ofNat _ _ (by omega) (by decide)]
  exact decide_eq_false (by omega)

/-- **`Decode` on ALL byte strings** (of a length Go can represent) is the model's `decode` -/
theorem Decode_eq (E : Externs) (s : List UInt8) (hlen : s.length < 2 ^ 63) :
    api.Decode decTable E.lastIndex E.toLower E.toUpper (bv s) =
      some (match Bech32.decode s with
        | .ok (hrp, d) => (bv hrp, bv d, none)
        | .error e => ([], [], encErr e)) := by
  show _ = some (encDec (Bech32.decode s))
  rw [Decode_unfold, decode_stages, bv_length, slt_ofNat 90 s.length (by omega) hlen]
  simp only [decide_eq_true_eq]
  by_cases h90 : s.length > Bech32.maxStringLength
  · rw [if_pos h90, if_pos (show 90 < s.length from h90)]
    rfl
  · rw [if_neg h90, if_neg (show ¬ 90 < s.length from h90)]
    have hn : s.length ≤ 90 := Nat.le_of_not_lt h90
    rw [E.lastIndex_sep s (by omega)]
    cases hli : Bech32.lastIndexSep s with
    | none => rfl
    | some i =>
      obtain ⟨hilt, hsplit, _⟩ := Proofs.Bech32.lastIndexSep_some s i hli
      simp only [ofNat_beq_neg1 i (by omega), Bool.false_eq_true, if_false, ← BitVec.ofNat_add,
        slt_ofNat i 1 (by omega) (by omega), slt_ofNat s.length (i + 6) (by omega) (by omega), Bool.or_eq_true,
        decide_eq_true_eq]
      by_cases hsep : i < 1 ∨ i + Bech32.checksumLength > s.length
      · rw [if_pos hsep, if_pos (show i < 1 ∨ s.length < i + 6 from hsep)]
        rfl
      · rw [if_neg hsep, if_neg (show ¬ (i < 1 ∨ s.length < i + 6) from hsep)]
        have hi : i + 6 ≤ s.length := Nat.le_of_not_lt fun h => hsep (.inr h)
        rw [sliceOK_zero i s.length (by omega) (by omega)]
        simp only [Bool.not_true, Bool.false_eq_true, if_false]
        rw [cHrp_eq E s i hsplit hi (by omega)]
        rfl

theorem decode_never_panics (E : Externs) (s : List UInt8) (hlen : s.length < 2 ^ 63) :
    api.Decode decTable E.lastIndex E.toLower E.toUpper (bv s) ≠ none := by
  rw [Decode_eq E s hlen]
  exact Option.some_ne_none _

/-! ### `Encode` in stages -/

abbrev ERes := List (BitVec 8) × Option (String × Option (BitVec 64))

/-- `Encode` after `hrpLower := strings.ToLower(hrp)` -/
def eTail (charset_enc : List (BitVec 8)) (strings_ToUpper : List (BitVec 8) → List (BitVec 8))
    (hrp hrpLower src : List (BitVec 8)) (dataLen : BitVec 64) : Flow ERes ERes :=
  if !(Go.nonneg ((base32.EncodedLen (BitVec.ofNat 64 src.length)) + 6#64)) then Go.Flow.panic else
  let data : List (BitVec 8) := (List.replicate ((base32.EncodedLen (BitVec.ofNat 64 src.length)) + 6#64).toNat 0#8)
  Go.Flow.bind (Go.call (base32.Encode data src)) (fun (st_3 : BitVec 64 × List (BitVec 8)) =>
  let data : List (BitVec 8) := st_3.2
  if !(Go.sliceOK 0#64 dataLen data.length) then Go.Flow.panic else
  if !(Go.sliceFromS dataLen data.length) then Go.Flow.panic else
  let data : List (BitVec 8) := (data.take dataLen.toNat ++ Go.copy (data.drop dataLen.toNat) (bech32CreateChecksum hrpLower (data.take dataLen.toNat)))
  Go.Flow.bind (Go.call (chars.encoding_encode charset_enc data)) (fun (st_4 : List (BitVec 8)) =>
  let chars_2 : List (BitVec 8) := st_4
  let res : List (BitVec 8) := ([] : List (BitVec 8))
  let res : List (BitVec 8) := (res ++ hrp)
  let res : List (BitVec 8) := (res ++ [49#8])
  let res : List (BitVec 8) := (res ++ chars_2)
  if (hrp == hrpLower) then
    Go.Flow.done (res, (none : Option (String × Option (BitVec 64))))
  else
  Go.Flow.done ((strings_ToUpper res), (none : Option (String × Option (BitVec 64))))))

/-- `Encode` from the call of `validateCase` on -/
def eCase (ce : List (BitVec 8)) (tl tu : List (BitVec 8) → List (BitVec 8)) (hrp src : List (BitVec 8))
    (dataLen : BitVec 64) : Flow ERes ERes :=
  Go.Flow.bind (Go.call (api.validateCase tl tu hrp)) (fun (st_2 : Option (String × BitVec 64)) =>
  let err : Option (String × Option (BitVec 64)) := (Go.errOfAt st_2)
  if (err).isSome then
    Go.Flow.done (([] : List (BitVec 8)), err)
  else
  eTail ce tu hrp (tl hrp) src dataLen)

theorem Encode_unfold (ce : List (BitVec 8)) (tl tu : List (BitVec 8) → List (BitVec 8)) (hrp src : List (BitVec 8)) :
    api.Encode ce tl tu hrp src = Flow.result (
      if (BitVec.slt 90#64 ((((BitVec.ofNat 64 hrp.length) + base32.EncodedLen (BitVec.ofNat 64 src.length)) + 6#64) + 1#64)) then
        Go.Flow.done (([] : List (BitVec 8)), (some ("ErrInvalidLength", none)))
      else
      if (BitVec.slt (BitVec.ofNat 64 hrp.length) 1#64) then
        Go.Flow.done (([] : List (BitVec 8)), (some ("ErrInvalidLength", none)))
      else
      Go.Flow.bind (Go.forIn (Go.runes hrp) ()
          (hrpBody fun _ => (([] : List (BitVec 8)), some ("ErrInvalidCharacter", (none : Option (BitVec 64))))))
        (fun (_ : Unit) =>
      eCase ce tl tu hrp src (base32.EncodedLen (BitVec.ofNat 64 src.length)))) := rfl

section
open Iota.Bech32

/-- the model's `encode` after the case check -/
def mTail (hrp : Str) (src : List UInt8) : Except Err Str :=
  let hrpLower := lower hrp
  let data := b32Encode src
  let chars := charsetEncode (data ++ createChecksum hrpLower data)
  let res := hrp ++ [separator] ++ chars
  if hrp = hrpLower then .ok res else .ok (upper res)

def mECase (hrp : Str) (src : List UInt8) : Except Err Str :=
  match validateCase hrp with
  | some off => .error (.mixedCase, some off)
  | none => mTail hrp src

theorem encode_stages (hrp : Str) (src : List UInt8) : Bech32.encode hrp src =
    if hrp.length + encodedLen src.length + checksumLength + 1 > maxStringLength then .error (.invalidLength, none)
    else if hrp.length < 1 then .error (.invalidLength, none)
    else if !hrp.all isValidHRPChar then .error (.invalidCharacter, none)
    else mECase hrp src := rfl

end

/-- the outcome of the model's `encode` as the translated `Encode` represents it -/
def encEnc : Except Bech32.Err Bech32.Str → ERes
  | .ok r => (bv r, none)
  | .error e => ([], encErr e)

theorem charsetEncode_ascii (syms : List UInt8) (h : ∀ s ∈ syms, s.toNat < 32) :
    ∀ c ∈ Bech32.charsetEncode syms, c.toNat < 128 := by
  intro c hc
  obtain ⟨s, hs, rfl⟩ := List.mem_map.mp hc
  exact (Proofs.Bech32.charset_spec s (h s hs)).2.1

theorem eTail_eq (E : Externs) (hrp src : List UInt8) (hascii : ∀ c ∈ hrp, c.toNat < 128)
    (hs : src.length < 2 ^ 60) :
    eTail encTable E.toUpper (bv hrp) (bv (Bech32.lower hrp)) (bv src) (BitVec.ofNat 64 (Bech32.encodedLen src.length)) =
      .done (encEnc (mTail hrp src)) := by
  have hel : Bech32.encodedLen src.length < 2 ^ 62 := by unfold Bech32.encodedLen; omega
  have hD : (bv (Bech32.b32Encode src)).length = Bech32.encodedLen src.length := by
    rw [bv_length, Proofs.Base32.b32Encode_length]
  have hC := Proofs.Bech32.createChecksum_spec (Bech32.lower hrp) (Bech32.b32Encode src)
  have hsym : ∀ s ∈ Bech32.b32Encode src ++ Bech32.createChecksum (Bech32.lower hrp) (Bech32.b32Encode src),
      s.toNat < 32 := by
    intro s hs
    rcases List.mem_append.mp hs with h | h
    · exact Proofs.Base32.b32Encode_lt src s h
    · exact hC.2 s h
  unfold eTail
  rw [bv_length, Base32Code.EncodedLen_eq _ hs, ← BitVec.ofNat_add,
    Go.nonneg_ofNat _ (by omega), toNat_ofNat_lt _ (by omega), toNat_ofNat_lt _ (by omega)]
  simp only [Bool.not_true, Bool.false_eq_true, if_false]
  -- `base32.Encode` fills the first `EncodedLen` entries of the buffer; the six after them take the checksum
  rw [Base32Code.encode_eq _ src hs (by simp), List.drop_replicate, Nat.add_sub_cancel_left]
  simp only [Go.call, Flow.bind_run]
  rw [List.length_append, hD, List.length_replicate, sliceOK_zero _ _ (by omega) (by omega),
    Go.sliceFromS_ofNat _ _ (by omega), decide_eq_true (Nat.le_add_right _ 6), List.take_left' hD, List.drop_left' hD,
    Bech32Code.createChecksum_eq, Go.copy_full _ _ (by rw [List.length_replicate, bv_length, hC.1]),
    ← bv_append]
  simp only [Bool.not_true, Bool.false_eq_true, if_false]
  rw [Bech32CharsCode.encode_ok _ (by rw [List.length_append, hC.1, ← bv_length, hD]; omega) hsym]
  simp only [Flow.bind_run, List.nil_append]
  rw [show ([49#8] : List (BitVec 8)) = bv [Bech32.separator] from rfl, ← bv_append, ← bv_append, Bech32Code.bv_beq]
  unfold mTail
  simp only [decide_eq_true_eq]
  by_cases hlow : hrp = Bech32.lower hrp
  · simp only [if_pos hlow, encEnc]
  · simp only [if_neg hlow, encEnc]
    rw [E.upper_ascii _ (ascii_sep _ _ hascii (charsetEncode_ascii _ hsym))]

/-! ### **`Encode`** -/

theorem eCase_eq (E : Externs) (hrp src : List UInt8) (hascii : ∀ c ∈ hrp, c.toNat < 128) (hh : hrp.length < 2 ^ 63)
    (hs : src.length < 2 ^ 60) :
    eCase encTable E.toLower E.toUpper (bv hrp) (bv src) (BitVec.ofNat 64 (Bech32.encodedLen src.length)) =
      .done (encEnc (mECase hrp src)) := by
  refine (validateCase_stage E hrp hascii hh (fun err => ([], err)) _).trans ?_
  unfold mECase
  cases Bech32.validateCase hrp with
  | some off => rfl
  | none =>
    rw [E.lower_ascii hrp hascii]
    exact eTail_eq E hrp src hascii hs

/-- **`Encode`** is the model's `encode`, as long as the length test at its top is evaluated without overflow -/
theorem Encode_eq (E : Externs) (hrp src : List UInt8) (hs : src.length < 2 ^ 60)
    (hsum : hrp.length + Bech32.encodedLen src.length + 7 < 2 ^ 63) :
    api.Encode encTable E.toLower E.toUpper (bv hrp) (bv src) =
      some (match Bech32.encode hrp src with
        | .ok r => (bv r, none)
        | .error e => ([], encErr e)) := by
  show _ = some (encEnc (Bech32.encode hrp src))
  rw [Encode_unfold, encode_stages, bv_length, bv_length, Base32Code.EncodedLen_eq _ hs,
    ← BitVec.ofNat_add, ← BitVec.ofNat_add,
    ← BitVec.ofNat_add, slt_ofNat 90 _ (by omega) (by omega), slt_ofNat hrp.length 1 (by omega) (by omega)]
  simp only [decide_eq_true_eq]
  by_cases h1 : hrp.length + Bech32.encodedLen src.length + Bech32.checksumLength + 1 > Bech32.maxStringLength
  · rw [if_pos h1, if_pos (show 90 < hrp.length + Bech32.encodedLen src.length + 6 + 1 from h1)]
    rfl
  rw [if_neg h1, if_neg (show ¬ 90 < hrp.length + Bech32.encodedLen src.length + 6 + 1 from h1)]
  by_cases h2 : hrp.length < 1
  · rw [if_pos h2, if_pos h2]
    rfl
  rw [if_neg h2, if_neg h2, runes_loop]
  cases hf : hrp.findIdx? (fun c => !Bech32.isValidHRPChar c) with
  | some j =>
    obtain ⟨c, hc, hbad⟩ := Proofs.Bech32.findIdx_some_get _ hrp j hf
    rw [if_pos (by rw [Bool.not_eq_true', List.all_eq_false]; exact ⟨c, hc, by simpa using hbad⟩)]
    rfl
  | none =>
    have hvalid : ∀ c ∈ hrp, Bech32.isValidHRPChar c = true := by
      intro c hc
      simpa using (Proofs.Bech32.findIdx_none_iff _ _).mp hf c hc
    rw [if_neg (by rw [List.all_eq_true.mpr hvalid]; decide)]
    simp only [Flow.bind_run]
    rw [eCase_eq E hrp src (fun c hc => valid_ascii (hvalid c hc)) (by omega) hs]
    rfl

/-- the same for `len(hrp) < 2^62`, `len(src) < 2^60` -/
theorem Encode_eq' (E : Externs) (hrp src : List UInt8) (hh : hrp.length < 2 ^ 62) (hs : src.length < 2 ^ 60) :
    api.Encode encTable E.toLower E.toUpper (bv hrp) (bv src) =
      some (match Bech32.encode hrp src with
        | .ok r => (bv r, none)
        | .error e => ([], encErr e)) :=
  Encode_eq E hrp src hs (by unfold Bech32.encodedLen; omega)

theorem encode_never_panics (E : Externs) (hrp src : List UInt8) (hh : hrp.length < 2 ^ 62) (hs : src.length < 2 ^ 60) :
    api.Encode encTable E.toLower E.toUpper (bv hrp) (bv src) ≠ none := by
  rw [Encode_eq' E hrp src hh hs]
  exact Option.some_ne_none _

/-! ### every argument; sharpness of the bound on `src` -/

/-- `bv` is onto: the statements about `bv s` cover every argument of the generated functions -/
theorem decode_never_panics_bits (E : Externs) (l : List (BitVec 8)) (hlen : l.length < 2 ^ 63) :
    api.Decode decTable E.lastIndex E.toLower E.toUpper l ≠ none := by
  have := decode_never_panics E (l.map UInt8.ofBitVec) (by simpa using hlen)
  rwa [bv_ofBitVec] at this

theorem encode_never_panics_bits (E : Externs) (hrp src : List (BitVec 8)) (hh : hrp.length < 2 ^ 62)
    (hs : src.length < 2 ^ 60) : api.Encode encTable E.toLower E.toUpper hrp src ≠ none := by
  have := encode_never_panics E (hrp.map UInt8.ofBitVec) (src.map UInt8.ofBitVec) (by simpa using hh) (by simpa using hs)
  rwa [bv_ofBitVec, bv_ofBitVec] at this

/-- **the bound on `src` is sharp**: for a (hypothetical) `src` of `2^60` bytes `base32.EncodedLen(len(src))` overflows to a
negative `int`, the length test at the top of `Encode` passes, and `make([]uint8, EncodedLen(len(src))+6)` panics -/
theorem encode_panics_at_2_60 (E : Externs) (src : List UInt8) (hs : src.length = 2 ^ 60) :
    api.Encode encTable E.toLower E.toUpper (bv [97]) (bv src) = none := by
  rw [Encode_unfold, bv_length, bv_length, hs, runes_loop, if_neg (by decide), if_neg (by decide),
    show ([97] : List UInt8).findIdx? (fun c => !Bech32.isValidHRPChar c) = none by decide]
  simp only [Flow.bind_run]
  rw [eCase, validateCase_stage E [97] (by decide) (by decide) (fun err => ([], err)),
    show Bech32.validateCase [97] = none by decide]
  unfold eTail
  rw [bv_length, hs, if_pos (by decide)]
  rfl

/-! ### non-vacuity: the generated functions evaluated with the concrete library functions `Externs.model` -/

abbrev DecodeM (s : List (BitVec 8)) := api.Decode decTable Externs.model.lastIndex Externs.model.toLower Externs.model.toUpper s
abbrev EncodeM (hrp src : List (BitVec 8)) := api.Encode encTable Externs.model.toLower Externs.model.toUpper hrp src

/-- "a12uel5l" (BIP-173 test vector): hrp "a", no data -/
example : DecodeM (bv [97, 49, 50, 117, 101, 108, 53, 108]) = some (bv [97], [], none) := by decide +kernel

/-- "A12UEL5L": the same, lower-cased -/
example : DecodeM (bv [65, 49, 50, 85, 69, 76, 53, 76]) = some (bv [97], [], none) := by decide +kernel

/-- "A12uEL5L": mixed case, reported at the first lower-case letter after the upper-case `A` (offset 3) -/
example : DecodeM (bv [65, 49, 50, 117, 69, 76, 53, 76]) = some ([], [], some ("ErrMixedCase", some 3#64)) := by
  decide +kernel

/-- "é1qqqqqq" (bytes C3 A9 31 71…): the rune U+00E9 is rejected at byte offset 0 -/
example : DecodeM (bv [0xC3, 0xA9, 49, 113, 113, 113, 113, 113, 113]) =
    some ([], [], some ("ErrInvalidCharacter", some 0#64)) := by decide +kernel

/-- "a\x801qqqqqq": an ill-formed byte (U+FFFD) after a valid one: offset 1 -/
example : DecodeM (bv [97, 0x80, 49, 113, 113, 113, 113, 113, 113]) =
    some ([], [], some ("ErrInvalidCharacter", some 1#64)) := by decide +kernel

/-- `Encode("a", nil) = "a12uel5l"` -/
example : EncodeM (bv [97]) [] = some (bv [97, 49, 50, 117, 101, 108, 53, 108], none) := by decide +kernel

/-- `Encode("A", nil) = "A12UEL5L"`: an upper-case `hrp` gives an upper-case string (`strings.ToUpper`) -/
example : EncodeM (bv [65]) [] = some (bv [65, 49, 50, 85, 69, 76, 53, 76], none) := by decide +kernel

/-- `Encode("aB", nil)`: mixed case, offset of the first upper-case letter after the lower-case one -/
example : EncodeM (bv [97, 66]) [] = some ([], some ("ErrMixedCase", some 1#64)) := by decide +kernel

/-- "abcdef1qpzry9x8gf2tvdw0s3jn54khce6mua7lmqqqxw" (BIP-173): the 32 symbols 0 … 31 are the 20 bytes 00 44 32 14 … -/
example : DecodeM (bv [97, 98, 99, 100, 101, 102, 49, 113, 112, 122, 114, 121, 57, 120, 56, 103, 102, 50, 116, 118, 100, 119, 48, 115, 51, 106, 110, 53, 52, 107, 104, 99, 101, 54, 109, 117, 97, 55, 108, 109, 113, 113, 113, 120, 119]) =
    some (bv [97, 98, 99, 100, 101, 102], bv [0, 68, 50, 20, 199, 66, 84, 182, 53, 207, 132, 101, 58, 86, 215, 198, 117, 190, 119, 223], none) := by decide +kernel

example : EncodeM (bv [97, 98, 99, 100, 101, 102]) (bv [0, 68, 50, 20, 199, 66, 84, 182, 53, 207, 132, 101, 58, 86, 215, 198, 117, 190, 119, 223]) =
    some (bv [97, 98, 99, 100, 101, 102, 49, 113, 112, 122, 114, 121, 57, 120, 56, 103, 102, 50, 116, 118, 100, 119, 48, 115, 51, 106, 110, 53, 52, 107, 104, 99, 101, 54, 109, 117, 97, 55, 108, 109, 113, 113, 113, 120, 119], none) := by decide +kernel

/-- the last character changed: `ErrInvalidChecksum` at `len(s) - 6` -/
example : DecodeM (bv [97, 98, 99, 100, 101, 102, 49, 113, 112, 122, 114, 121, 57, 120, 56, 103, 102, 50, 116, 118, 100, 119, 48, 115, 51, 106, 110, 53, 52, 107, 104, 99, 101, 54, 109, 117, 97, 55, 108, 109, 113, 113, 113, 120, 113]) = some ([], [], some ("ErrInvalidChecksum", some 39#64)) := by
  decide +kernel

/-- "a1pv7wwwr": a valid checksum over ONE data symbol: `base32.ErrInvalidLength` through the `errors.As` branch, offset
`hrpLen + 1 + 0` -/
example : DecodeM (bv [97, 49, 112, 118, 55, 119, 119, 119, 114]) = some ([], [], some ("base32.ErrInvalidLength", some 2#64)) := by
  decide +kernel

/-- "a1llttal5m": two data symbols with non-zero padding bits: `base32.ErrNonZeroPadding` at `hrpLen + 1 + 1` -/
example : DecodeM (bv [97, 49, 108, 108, 116, 116, 97, 108, 53, 109]) = some ([], [], some ("base32.ErrNonZeroPadding", some 3#64)) := by
  decide +kernel

/-! the remaining guards -/

/-- 91 bytes: `ErrInvalidLength` as a `SyntaxError` at offset 90 -/
example : DecodeM (List.replicate 91 97#8) = some ([], [], some ("ErrInvalidLength", some 90#64)) := by decide +kernel

/-- "aqqqqqq": no separator (a plain error, no offset) -/
example : DecodeM (bv [97, 113, 113, 113, 113, 113, 113]) = some ([], [], some ("ErrMissingSeparator", none)) := by
  decide +kernel

/-- "1qqqqqq": the separator at position 0 -/
example : DecodeM (bv [49, 113, 113, 113, 113, 113, 113]) = some ([], [], some ("ErrInvalidSeparator", some 0#64)) := by
  decide +kernel
/-- "aaa1qqq": fewer than six characters after the separator -/
example : DecodeM (bv [97, 97, 97, 49, 113, 113, 113]) = some ([], [], some ("ErrInvalidSeparator", some 3#64)) := by
  decide +kernel

/-- a byte ≥ 0x80 in the data part: offset of that byte -/
example : DecodeM (bv [97, 49, 0x80, 113, 113, 113, 113, 113]) = some ([], [], some ("ErrInvalidCharacter", some 2#64)) := by
  decide +kernel
/-- a non-charset ASCII character (`b`) in the data part -/
example : DecodeM (bv [97, 49, 98, 113, 113, 113, 113, 113, 113]) = some ([], [], some ("ErrInvalidCharacter", some 2#64)) := by
  decide +kernel

/-- `Encode`: empty prefix -/
example : EncodeM [] [] = some ([], some ("ErrInvalidLength", none)) := by decide +kernel
/-- `Encode`: a prefix of 84 characters (84 + 1 + 6 > 90) -/
example : EncodeM (List.replicate 84 97#8) [] = some ([], some ("ErrInvalidLength", none)) := by decide +kernel
/-- `Encode`: a space in the prefix -/
example : EncodeM (bv [32]) [] = some ([], some ("ErrInvalidCharacter", none)) := by decide +kernel

end Iota.Tie.Bech32ApiCode
