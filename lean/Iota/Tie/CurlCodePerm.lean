/-
Code tie for pkg/curl/transform.go: `transformGeneric`, translated AS CODE by cmd/extract into `Iota/Gen/Curl.lean`
(`Gen.Curl.code.transformGeneric : List (BitVec 64) → … → Option (List (BitVec 64) × … )`, `none` = run-time panic,
the four components = the final contents of the caller's four arrays), against the model `Curl.transformGeneric`
of `Iota/Model/Curl.lean`.

* `transformGeneric_eq`: for all four planes (lists of length 729 = the lists of `Plane`s) the translated code and the
  model agree: same panic behaviour, same final contents of all four arrays.
* `sBox_eq`: the translated `sBox` is the model's.
* `transformGeneric_some` / `transformGeneric_ne_none`: with `Proofs.Curl.transformGeneric_eq` the translated code
  never panics on arrays of length 729 and returns the closed form (`roundsW 81` in the to-arrays, `roundsW 80` left
  in the from-arrays).

Route: the generated definition is restated once (`code_eq`, by `rfl`) in terms of `roundC` / `bodyC` / `qC` (a quarter
of the inner loop body, in continuation-passing style); the model's `loopBody` is restated as four quarters `qM`;
`qC_rel` ties one quarter (all inputs, including the failing index checks), `bodyC_rel` the body, `inner_rel` the inner
loop (`Go.forUp true true 1 725 4` = 182 indices), `roundC_eq` a round, `rounds_eq` the 81 rounds with the tag
bookkeeping of the swapped array pointers, ended by `Go.byTag`.
-/
import Iota.Gen.Curl
import Iota.Model.Curl
import Iota.Tie.GoFlow
import Iota.Proofs.Curl.Transform

namespace Iota.Tie.CurlCodePerm
open Iota Iota.Go

abbrev W := BitVec 64
abbrev Res := List W × List W × List W × List W
/-- an array-pointer variable: (tag, content) -/
abbrev PL := Nat × List W
abbrev InSt := PL × PL × W × W × W × W × W
abbrev OutSt := PL × PL × PL × PL

/-- a quarter of the inner loop body, in continuation-passing style: `t` is the index already updated -/
def qC {σ : Type} (lfrom hfrom : PL) (t idx : W) (lto hto : PL) (pL pH : W)
    (K : PL → PL → W → W → Flow Res σ) : Flow Res σ :=
  if !(Go.inRangeS t 729) then Go.Flow.panic else
  let nL : W := (lfrom.2.getD t.toNat 0#64)
  if !(Go.inRangeS t 729) then Go.Flow.panic else
  let nH : W := (hfrom.2.getD t.toNat 0#64)
  let r : W × W := Gen.Curl.code.sBox pL pH nL nH
  if !(Go.inRangeS idx 729) then Go.Flow.panic else
  let lto : PL := (lto.1, lto.2.set idx.toNat r.1)
  if !(Go.inRangeS idx 729) then Go.Flow.panic else
  let hto : PL := (hto.1, hto.2.set idx.toNat r.2)
  K lto hto nL nH

def bodyC (lfrom hfrom : PL) (st : InSt) (i : W) : Flow Res InSt :=
  let t1 : W := st.2.2.2.2.2.2 + 364#64
  qC lfrom hfrom t1 (i + 0#64) st.1 st.2.1 st.2.2.2.2.1 st.2.2.2.2.2.1 fun lto hto aL aH =>
  let t2 : W := t1 - 365#64
  qC lfrom hfrom t2 (i + 1#64) lto hto aL aH fun lto hto bL bH =>
  let t3 : W := t2 + 364#64
  qC lfrom hfrom t3 (i + 2#64) lto hto bL bH fun lto hto aL aH =>
  let t4 : W := t3 - 365#64
  qC lfrom hfrom t4 (i + 3#64) lto hto aL aH fun lto hto bL bH =>
  Go.Flow.run (lto, hto, aL, aH, bL, bH, t4)

def roundC (st : OutSt) (_r : W) : Flow Res OutSt :=
  let lto : PL := st.1
  let hto : PL := st.2.1
  let lfrom : PL := st.2.2.1
  let hfrom : PL := st.2.2.2
  let aL : W := lfrom.2.getD 0 0#64
  let aH : W := hfrom.2.getD 0 0#64
  let bL : W := lfrom.2.getD 364 0#64
  let bH : W := hfrom.2.getD 364 0#64
  let s : W × W := Gen.Curl.code.sBox aL aH bL bH
  let lto : PL := (lto.1, lto.2.set 0 s.1)
  let hto : PL := (hto.1, hto.2.set 0 s.2)
  Go.Flow.bind (Go.forIn (Go.forUp true true 1#64 725#64 4) (lto, hto, aL, aH, bL, bH, 364#64) (bodyC lfrom hfrom))
    fun st7 => Go.Flow.run (lfrom, hfrom, st7.1, st7.2.1)

def finC (st : OutSt) : Flow Res Res :=
  let lto : PL := st.1
  let hto : PL := st.2.1
  let lfrom : PL := st.2.2.1
  let hfrom : PL := st.2.2.2
  Go.Flow.done ((Go.byTag [lto, hto, lfrom, hfrom] 0), (Go.byTag [lto, hto, lfrom, hfrom] 1), (Go.byTag [lto, hto, lfrom, hfrom] 2), (Go.byTag [lto, hto, lfrom, hfrom] 3))

theorem code_eq (lto hto lfrom hfrom : List W) :
    Gen.Curl.code.transformGeneric lto hto lfrom hfrom =
      Go.Flow.result (Go.Flow.bind
        (Go.forIn (Go.forDown true false 81#64 0#64 1) ((0, lto), (1, hto), (2, lfrom), (3, hfrom)) roundC) finC) := rfl


/-! ### the model, restated in the same shape -/

open Iota.Curl (Plane LoopSt Bufs rd wr)

def qM (lfrom hfrom : Plane) (t i : Nat) (lto hto : Plane) (pL pH : W)
    (k : Plane → Plane → W → W → Option LoopSt) : Option LoopSt :=
  (rd lfrom t).bind fun nL => (rd hfrom t).bind fun nH =>
  (wr lto i (Curl.sBox pL pH nL nH).1).bind fun lto' =>
  (wr hto i (Curl.sBox pL pH nL nH).2).bind fun hto' => k lto' hto' nL nH

theorem sBox_eq (aL aH bL bH : BitVec 64) : Gen.Curl.code.sBox aL aH bL bH = Curl.sBox aL aH bL bH := rfl

/-! ### `m - 365` on 64-bit words: out of range when it wraps around -/

theorem inRangeS_sub365 (m : Nat) (h : m < 365) :
    Go.inRangeS (BitVec.ofNat 64 m - 365#64) 729 = false := by
  unfold Go.inRangeS
  rw [BitVec.toNat_sub, BitVec.toNat_ofNat, BitVec.toNat_ofNat]
  have : decide ((2 ^ 64 - 365 % 2 ^ 64 + m % 2 ^ 64) % 2 ^ 64 < 729) = false := decide_eq_false (by omega)
  rw [this, Bool.and_false]

/-! ### the inner loop body -/

def enc (tl th : Nat) (aL aH : W) (s : LoopSt) : InSt :=
  ((tl, s.lto.toList), (th, s.hto.toList), aL, aH, s.bL, s.bH, BitVec.ofNat 64 s.t)

/-- the code's outcome is the model's outcome (`aL`, `aH` are dead at the loop head and not part of the model state).
An inductive predicate, not a definition by cases on the model's outcome: elaboration must not be tempted to
evaluate the model. -/
inductive Rel (tl th : Nat) : Flow Res InSt → Option LoopSt → Prop
  | panic : Rel tl th .panic none
  | run (aL aH : W) (s : LoopSt) (h : s.t < 729) : Rel tl th (.run (enc tl th aL aH s)) (some s)

theorem qC_panic {σ : Type} (lfrom hfrom : PL) (t idx : W) (lto hto : PL) (pL pH : W)
    (K : PL → PL → W → W → Flow Res σ) (h : Go.inRangeS t 729 = false) :
    qC lfrom hfrom t idx lto hto pL pH K = .panic := by
  unfold qC; rw [h]; rfl

theorem qC_rel (lfrom hfrom : Plane) (fl fh tl th tn i : Nat) (htn : tn < 2 ^ 63) (hi : i < 2 ^ 63)
    (lto hto : Plane) (pL pH : W) (K : PL → PL → W → W → Flow Res InSt)
    (k : Plane → Plane → W → W → Option LoopSt)
    (hK : tn < 729 → ∀ lto' hto' nL nH,
      Rel tl th (K (tl, lto'.toList) (th, hto'.toList) nL nH) (k lto' hto' nL nH)) :
    Rel tl th (qC (fl, lfrom.toList) (fh, hfrom.toList) (BitVec.ofNat 64 tn) (BitVec.ofNat 64 i)
        (tl, lto.toList) (th, hto.toList) pL pH K)
      (qM lfrom hfrom tn i lto hto pL pH k) := by
  unfold qC qM rd wr
  simp only [Go.inRangeS_ofNat tn 729 htn, Go.inRangeS_ofNat i 729 hi, toNat_ofNat_lt tn (by omega), toNat_ofNat_lt i (by omega)]
  by_cases h1 : tn < 729
  · by_cases h2 : i < 729
    · simp only [h1, h2, dif_pos, decide_true, Bool.not_true, Bool.false_eq_true, if_false, Option.bind_some]
      rw [getD_toList _ _ h1, getD_toList _ _ h1, ← Vector.toList_set, ← Vector.toList_set, sBox_eq]
      exact hK h1 _ _ _ _
    · simp [h1, h2]
      exact Rel.panic
  · simp [h1]
    exact Rel.panic


/-- `loopBody` as four quarters, with the four values of `t` named (tactics such as `subst` put `t - 365` into weak
head normal form, which unfolds `Nat.sub` 365 times: the subtractions stay in hypotheses, for `omega`) -/
theorem loopBody_eq' (lfrom hfrom : Plane) (i t : Nat) (bL bH : W) (lto hto : Plane) (t1 t2 t3 t4 : Nat)
    (h1 : t1 = t + 364) (h2 : t2 = t1 - 365) (h3 : t3 = t2 + 364) (h4 : t4 = t3 - 365) :
    Curl.loopBody lfrom hfrom i ⟨t, bL, bH, lto, hto⟩ =
      qM lfrom hfrom t1 (i + 0) lto hto bL bH fun lto hto aL aH =>
      if t1 < 365 then none else
      qM lfrom hfrom t2 (i + 1) lto hto aL aH fun lto hto bL bH =>
      qM lfrom hfrom t3 (i + 2) lto hto bL bH fun lto hto aL aH =>
      if t3 < 365 then none else
      qM lfrom hfrom t4 (i + 3) lto hto aL aH fun lto hto bL bH =>
      some { t := t4, bL := bL, bH := bH, lto := lto, hto := hto } := by
  rw [h4, h3, h2, h1]; rfl

theorem bodyC_rel (lfrom hfrom : Plane) (fl fh tl th : Nat) (aL aH : W) (s : LoopSt) (i : Nat)
    (ht : s.t < 729) (hi : i < 2 ^ 62) :
    Rel tl th (bodyC (fl, lfrom.toList) (fh, hfrom.toList) (enc tl th aL aH s) (BitVec.ofNat 64 i))
      (Curl.loopBody lfrom hfrom i s) := by
  obtain ⟨t, bL, bH, lto, hto⟩ := s
  simp only at ht
  obtain ⟨t1, h1⟩ : ∃ t1, t1 = t + 364 := ⟨_, rfl⟩
  obtain ⟨t2, h2⟩ : ∃ t2, t2 = t1 - 365 := ⟨_, rfl⟩
  obtain ⟨t3, h3⟩ : ∃ t3, t3 = t2 + 364 := ⟨_, rfl⟩
  obtain ⟨t4, h4⟩ : ∃ t4, t4 = t3 - 365 := ⟨_, rfl⟩
  rw [loopBody_eq' lfrom hfrom i t bL bH lto hto t1 t2 t3 t4 h1 h2 h3 h4]
  unfold bodyC enc
  simp only [← BitVec.ofNat_add]
  rw [← h1]
  apply @qC_rel lfrom hfrom fl fh tl th _ _ (by omega) (by omega)
  intro c0 lto1 hto1 aL1 aH1
  by_cases c1 : t1 < 365
  · rw [if_pos c1, qC_panic _ _ _ _ _ _ _ _ _ (inRangeS_sub365 _ c1)]; exact Rel.panic
  rw [if_neg c1, BitVec.ofNat_sub_ofNat_of_le t1 365 (by decide) (by omega), ← h2]
  apply @qC_rel lfrom hfrom fl fh tl th _ _ (by omega) (by omega)
  intro c2 lto2 hto2 bL2 bH2
  simp only [← BitVec.ofNat_add]
  rw [← h3]
  apply @qC_rel lfrom hfrom fl fh tl th _ _ (by omega) (by omega)
  intro c3 lto3 hto3 aL3 aH3
  by_cases c4 : t3 < 365
  · rw [if_pos c4, qC_panic _ _ _ _ _ _ _ _ _ (inRangeS_sub365 _ c4)]; exact Rel.panic
  rw [if_neg c4, BitVec.ofNat_sub_ofNat_of_le t3 365 (by decide) (by omega), ← h4]
  apply @qC_rel lfrom hfrom fl fh tl th _ _ (by omega) (by omega)
  intro c5 lto4 hto4 bL4 bH4
  exact Rel.run aL3 aH3 ⟨t4, bL4, bH4, lto4, hto4⟩ c5

/-! ### the inner loop -/

/-- the `n` loop indices `i, i+4, …` -/
def idxs (n i : Nat) : List W := (List.range n).map fun m => BitVec.ofNat 64 (i + m * 4)

theorem idxs_succ (n i : Nat) : idxs (n + 1) i = BitVec.ofNat 64 i :: idxs n (i + 4) :=
  Go.map_range_succ_stride i 4 n

theorem forUp_idxs : Go.forUp true true 1#64 725#64 4 = idxs 182 1 :=
  Go.forUp_int true 1 725 4 (by decide) (by decide)

theorem innerLoop_succ (lfrom hfrom : Plane) (n i : Nat) (s : LoopSt) :
    Curl.innerLoop lfrom hfrom (n + 1) i s =
      (Curl.loopBody lfrom hfrom i s).bind fun s' => Curl.innerLoop lfrom hfrom n (i + 4) s' := rfl

theorem inner_rel (lfrom hfrom : Plane) (fl fh tl th : Nat) (n : Nat) :
    ∀ (i : Nat) (aL aH : W) (s : LoopSt), s.t < 729 → i + 4 * n < 2 ^ 62 →
      Rel tl th (Go.forIn (idxs n i) (enc tl th aL aH s) (bodyC (fl, lfrom.toList) (fh, hfrom.toList)))
        (Curl.innerLoop lfrom hfrom n i s) := by
  induction n with
  | zero =>
    intro i aL aH s ht _
    exact Rel.run aL aH s ht
  | succ n ih =>
    intro i aL aH s ht hi
    rw [idxs_succ, Go.forIn_cons, innerLoop_succ]
    have hb := bodyC_rel lfrom hfrom fl fh tl th aL aH s i ht (by omega)
    generalize bodyC _ _ _ _ = f at hb ⊢
    generalize Curl.loopBody lfrom hfrom i s = o at hb ⊢
    cases hb with
    | panic => exact Rel.panic
    | run aL' aH' s' ht' => exact ih (i + 4) aL' aH' s' ht' (by omega)

/-! ### one round -/

theorem rd0 (v : Plane) (i : Nat) (h : i < 729) : rd v i = some v[i] := by unfold rd; rw [dif_pos h]
theorem wr0 (v : Plane) (i : Nat) (x : W) (h : i < 729) : wr v i x = some (v.set i x) := by
  unfold wr; rw [dif_pos h]

/-- the state with which a round enters the inner loop -/
def st0 (lto hto lfrom hfrom : Plane) : LoopSt :=
  let s := Curl.sBox (lfrom[0]'(by decide)) (hfrom[0]'(by decide)) (lfrom[364]'(by decide)) (hfrom[364]'(by decide))
  { t := 364, bL := lfrom[364]'(by decide), bH := hfrom[364]'(by decide),
    lto := lto.set 0 s.1 (by decide), hto := hto.set 0 s.2 (by decide) }

theorem roundGo_eq (lto hto lfrom hfrom : Plane) :
    Curl.roundGo lto hto lfrom hfrom =
      (Curl.innerLoop lfrom hfrom 182 1 (st0 lto hto lfrom hfrom)).bind fun s => some (s.lto, s.hto) := by
  unfold Curl.roundGo
  rw [rd0 lfrom 0 (by decide), rd0 hfrom 0 (by decide), rd0 lfrom 364 (by decide), rd0 hfrom 364 (by decide)]
  simp only [Option.bind_eq_bind, Option.bind_some]
  rw [wr0 lto 0 _ (by decide), Option.bind_some, wr0 hto 0 _ (by decide), Option.bind_some]
  rfl

/-- a model outcome as a code outcome -/
def roundOut (tl th fl fh : Nat) (lfrom hfrom : Plane) : Option (Plane × Plane) → Flow Res OutSt
  | none => .panic
  | some lh => .run ((fl, lfrom.toList), (fh, hfrom.toList), (tl, lh.1.toList), (th, lh.2.toList))

theorem roundC_eq (lto hto lfrom hfrom : Plane) (tl th fl fh : Nat) (r : W) :
    roundC ((tl, lto.toList), (th, hto.toList), (fl, lfrom.toList), (fh, hfrom.toList)) r =
      roundOut tl th fl fh lfrom hfrom (Curl.roundGo lto hto lfrom hfrom) := by
  rw [roundGo_eq]
  unfold roundC
  simp only [forUp_idxs, st0]
  have hr := inner_rel lfrom hfrom fl fh tl th 182 1 (lfrom[0]'(by decide)) (hfrom[0]'(by decide)) (st0 lto hto lfrom hfrom)
    (by decide : (364 : Nat) < 729) (by omega)
  simp only [enc, st0, Vector.toList_set] at hr
  rw [getD_toList lfrom 0 (by decide), getD_toList hfrom 0 (by decide), getD_toList lfrom 364 (by decide),
    getD_toList hfrom 364 (by decide), sBox_eq]
  generalize Go.forIn _ _ _ = f at hr ⊢
  generalize Curl.innerLoop lfrom hfrom 182 1 _ = o at hr ⊢
  cases hr <;> rfl

/-! ### the rounds, with the pointer swap -/

/-- the four array-pointer variables `(lto, hto, lfrom, hfrom)` of the code, for the model's buffers `b` (named
after the caller's arrays): not swapped they carry the tags 0, 1, 2, 3; swapped, `lto`/`hto` point to the caller's
from-arrays (tags 2, 3) and `lfrom`/`hfrom` to the caller's to-arrays (tags 0, 1) -/
def encB (swapped : Bool) (b : Bufs) : OutSt :=
  if swapped then ((2, b.lfrom.toList), (3, b.hfrom.toList), (0, b.lto.toList), (1, b.hto.toList))
  else ((0, b.lto.toList), (1, b.hto.toList), (2, b.lfrom.toList), (3, b.hfrom.toList))

def out (b : Bufs) : Res := (b.lto.toList, b.hto.toList, b.lfrom.toList, b.hfrom.toList)

def toFlow : Option Bufs → Flow Res Res
  | none => .panic
  | some b => .done (out b)

theorem finC_encB (swapped : Bool) (b : Bufs) : finC (encB swapped b) = .done (out b) := by
  cases swapped <;> rfl

theorem roundsGo_succ_false (n : Nat) (b : Bufs) :
    Curl.roundsGo (n + 1) false b =
      (Curl.roundGo b.lto b.hto b.lfrom b.hfrom).bind fun lh =>
        Curl.roundsGo n true { b with lto := lh.1, hto := lh.2 } := by
  rw [Curl.roundsGo]
  simp only [Bool.false_eq_true, if_false, Option.bind_eq_bind]

theorem roundsGo_succ_true (n : Nat) (b : Bufs) :
    Curl.roundsGo (n + 1) true b =
      (Curl.roundGo b.lfrom b.hfrom b.lto b.hto).bind fun lh =>
        Curl.roundsGo n false { b with lfrom := lh.1, hfrom := lh.2 } := by
  rw [Curl.roundsGo]
  simp only [if_true, Option.bind_eq_bind]

/-- the loop over the rounds (the loop variable is not used by the body: only the number of rounds matters) -/
theorem rounds_eq (l : List W) : ∀ (swapped : Bool) (b : Bufs),
    (Go.forIn l (encB swapped b) roundC).bind finC = toFlow (Curl.roundsGo l.length swapped b) := by
  induction l with
  | nil =>
    intro swapped b
    rw [Go.forIn_nil, Go.Flow.bind_run, finC_encB]
    rfl
  | cons r l ih =>
    intro swapped b
    rw [Go.forIn_cons, List.length_cons]
    cases swapped with
    | false =>
      rw [roundsGo_succ_false]
      rw [show encB false b = ((0, b.lto.toList), (1, b.hto.toList), (2, b.lfrom.toList), (3, b.hfrom.toList))
        from rfl, roundC_eq]
      cases Curl.roundGo b.lto b.hto b.lfrom b.hfrom with
      | none => rfl
      | some lh => exact ih true { b with lto := lh.1, hto := lh.2 }
    | true =>
      rw [roundsGo_succ_true]
      rw [show encB true b = ((2, b.lfrom.toList), (3, b.hfrom.toList), (0, b.lto.toList), (1, b.hto.toList))
        from rfl, roundC_eq]
      cases Curl.roundGo b.lfrom b.hfrom b.lto b.hto with
      | none => rfl
      | some lh => exact ih false { b with lfrom := lh.1, hfrom := lh.2 }

/-! ### `transformGeneric` as code = the model; no panic on planes -/

/-- **the translated code is the model, for all four planes**: same panic behaviour, same final contents of all
four arrays -/
theorem transformGeneric_eq (b : Curl.Bufs) :
    Gen.Curl.code.transformGeneric b.lto.toList b.hto.toList b.lfrom.toList b.hfrom.toList =
      (Curl.transformGeneric b).map
        (fun r => (r.lto.toList, r.hto.toList, r.lfrom.toList, r.hfrom.toList)) := by
  rw [code_eq]
  have h := rounds_eq (Go.forDown true false 81#64 0#64 1) false b
  rw [show (Go.forDown true false 81#64 0#64 1).length = 81 by decide] at h
  rw [show ((0, b.lto.toList), (1, b.hto.toList), (2, b.lfrom.toList), (3, b.hfrom.toList)) = encB false b
    from rfl, h]
  unfold Curl.transformGeneric Curl.numRounds
  cases Curl.roundsGo 81 false b <;> rfl

/-- the translated code never panics on arrays of length 729, and its result is the closed form of
`Proofs.Curl.transformGeneric_eq` -/
theorem transformGeneric_some (b : Curl.Bufs) :
    Gen.Curl.code.transformGeneric b.lto.toList b.hto.toList b.lfrom.toList b.hfrom.toList =
      some ((Spec.CurlW.roundsW 81 (b.lfrom, b.hfrom)).1.toList, (Spec.CurlW.roundsW 81 (b.lfrom, b.hfrom)).2.toList,
        (Spec.CurlW.roundsW 80 (b.lfrom, b.hfrom)).1.toList, (Spec.CurlW.roundsW 80 (b.lfrom, b.hfrom)).2.toList) := by
  rw [transformGeneric_eq, Proofs.Curl.transformGeneric_eq]
  rfl

/-- … for any four lists of length 729 -/
theorem transformGeneric_ne_none (lto hto lfrom hfrom : List (BitVec 64))
    (h1 : lto.length = 729) (h2 : hto.length = 729) (h3 : lfrom.length = 729) (h4 : hfrom.length = 729) :
    Gen.Curl.code.transformGeneric lto hto lfrom hfrom ≠ none := by
  have h := transformGeneric_some
    { lto := ⟨lto.toArray, by simpa using h1⟩, hto := ⟨hto.toArray, by simpa using h2⟩,
      lfrom := ⟨lfrom.toArray, by simpa using h3⟩, hfrom := ⟨hfrom.toArray, by simpa using h4⟩ }
  simp only [Vector.toList_mk] at h
  rw [h]
  exact Option.some_ne_none _


end Iota.Tie.CurlCodePerm
