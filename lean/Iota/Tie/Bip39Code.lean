/-
Code tie for pkg/bip39: the four helpers without library calls — `entropyBitsToWordCount`, `wordCountToEntropyBits`,
`padBytes`, `validateEntropy` — translated AS CODE by cmd/extract into `Iota/Gen/Bip39.lean` (`Gen.Bip39.code.*`; Go `int`
is `BitVec 64`, `[]byte` is `List (BitVec 8)`, `none` = run-time panic), against the model of `Iota/Model/Bip39.lean`.
Their text is not pinned: a rewrite that keeps the meaning re-proves, a changed constant or comparison breaks a theorem.
-/
import Iota.Gen.Bip39
import Iota.Model.Bip39
import Iota.Tie.BV

namespace Iota.Tie.Bip39Code
open Iota Iota.Go
open Iota.Tie.Bech32Code (bv bv_length bv_append bv_replicate)

/-- `entropyBitsToWordCount` is `3·n / 32` as long as `3·n` does not overflow -/
theorem entropyBitsToWordCount_eq (n : Nat) (h : 3 * n < 2 ^ 63) :
    Gen.Bip39.code.entropyBitsToWordCount (BitVec.ofNat 64 n) = BitVec.ofNat 64 (Bip39.entropyBitsToWordCount n) := by
  unfold Gen.Bip39.code.entropyBitsToWordCount Bip39.entropyBitsToWordCount
  rw [← BitVec.ofNat_mul]
  exact sdiv_ofNat (3 * n) 32 h (by decide)

/-- `wordCountToEntropyBits` is `32·n / 3` as long as `32·n` does not overflow -/
theorem wordCountToEntropyBits_eq (n : Nat) (h : 32 * n < 2 ^ 63) :
    Gen.Bip39.code.wordCountToEntropyBits (BitVec.ofNat 64 n) = BitVec.ofNat 64 (Bip39.wordCountToEntropyBits n) := by
  unfold Gen.Bip39.code.wordCountToEntropyBits Bip39.wordCountToEntropyBits
  rw [← BitVec.ofNat_mul]
  exact sdiv_ofNat (32 * n) 3 h (by decide)

/-- `padBytes(b, size)`: panics exactly when `b` is longer than `size`; otherwise `b` with leading zero bytes up to `size` -/
theorem padBytes_eq (b : List UInt8) (size : Nat) (hb : b.length < 2 ^ 63) (hs : size < 2 ^ 63) :
    Gen.Bip39.code.padBytes (bv b) (BitVec.ofNat 64 size) =
      if size < b.length then none else some (bv (Bip39.padBytes b size)) := by
  unfold Gen.Bip39.code.padBytes Bip39.padBytes
  simp only [bv_length]
  rw [slt_ofNat size b.length hs hb]
  by_cases h : size < b.length
  · simp [h, Flow.result]
  · rw [BitVec.ofNat_sub_ofNat_of_le size b.length (by omega) (by omega)]
    simp only [h, decide_false, Bool.false_eq_true, if_false, Go.nonneg_ofNat (size - b.length) (by omega), Bool.not_true,
      Flow.result]
    rw [toNat_ofNat_lt _ (by omega), bv_append, bv_replicate]
    rfl

/-- `validateEntropy`: nil exactly for 16, 20, …, 64 bytes (128 … 512 bits in steps of 32), `ErrInvalidEntropySize` otherwise -/
theorem validateEntropy_eq (e : List UInt8) (h : e.length < 2 ^ 59) :
    Gen.Bip39.code.validateEntropy (bv e) =
      if (e.length * 8) % Bip39.entropyMultiple = 0 ∧ Bip39.entropyMinBits ≤ e.length * 8 ∧ e.length * 8 ≤ Bip39.entropyMaxBits
      then none else some "ErrInvalidEntropySize" := by
  unfold Gen.Bip39.code.validateEntropy Bip39.entropyMultiple Bip39.entropyMinBits Bip39.entropyMaxBits
  simp only [bv_length]
  have hlt : e.length * 8 < 2 ^ 63 := by omega
  rw [← BitVec.ofNat_mul, srem_ofNat _ 32 hlt (by decide), slt_ofNat _ 128 hlt (by decide), slt_ofNat 512 _ (by decide) hlt,
    bne, beq_ofNat _ 0 (by omega) (by decide)]
  by_cases h1 : e.length * 8 % 32 = 0 <;> by_cases h2 : e.length * 8 < 128 <;> by_cases h3 : 512 < e.length * 8 <;>
    simp [h1, h2, h3] <;> omega

end Iota.Tie.Bip39Code
