/-
C15, the clause "which is what an independent bottom-up construction yields and what RFC 6962 audit paths verify
against".  Definitions: Iota/Spec/MerkleTree.lean.  Core Lean only.
-/
import Iota.Spec.MerkleTree
import Iota.Proofs.Merkle

namespace Iota.Proofs.MerkleTree
open Iota.Merkle Iota.Spec.Merkle Iota.Spec.MerkleTree

variable (H : Bytes → Bytes)

/-! ## A. the bottom-up construction computes MTH -/

/-- `IsMTH` over a list of *nodes* (a single node is its own root). -/
inductive IsTree : List Bytes → Bytes → Prop
  | single (x : Bytes) : IsTree [x] x
  | node (L : List Bytes) (k e : Nat) (l r : Bytes) :
      2 ≤ L.length → k = 2 ^ e → k < L.length → L.length ≤ 2 * k →
      IsTree (L.take k) l → IsTree (L.drop k) r → IsTree L (hashNode H l r)

theorem length_pairUp : ∀ L : List Bytes, (pairUp H L).length = (L.length + 1) / 2 := by
  intro L
  fun_induction pairUp H L with
  | case1 l r rest ih => simp only [List.length_cons, ih]; omega
  | case2 x => simp
  | case3 => simp

/-- one pairing pass commutes with a split at an even position. -/
theorem pairUp_split : ∀ (k : Nat) (L : List Bytes),
    (pairUp H L).take k = pairUp H (L.take (2 * k)) ∧ (pairUp H L).drop k = pairUp H (L.drop (2 * k))
  | 0, L => by simp [pairUp]
  | k + 1, [] => by simp [pairUp]
  | k + 1, [x] => by
    rw [show 2 * (k + 1) = 2 * k + 1 + 1 by omega]
    simp [pairUp]
  | k + 1, l :: r :: rest => by
    have ih := pairUp_split k rest
    rw [show 2 * (k + 1) = 2 * k + 1 + 1 by omega]
    simp only [pairUp, List.take_succ_cons, List.drop_succ_cons, ih, and_self]

/-- Key lemma: a tree over the paired-up level is a tree over the level itself (the split point doubles). -/
theorem isTree_of_pairUp {P : List Bytes} {h : Bytes} (t : IsTree H P h) :
    ∀ L, P = pairUp H L → IsTree H L h := by
  induction t with
  | single x =>
    intro L hL
    match L, hL with
    | [_], hL => cases hL; exact IsTree.single x
    | [l, r], hL =>
      cases hL
      exact IsTree.node [l, r] 1 0 l r (by simp) rfl (by simp) (by simp) (IsTree.single l) (IsTree.single r)
    | _ :: _ :: _ :: _, hL =>
      have := congrArg List.length hL
      rw [length_pairUp] at this
      simp only [List.length_cons, List.length_nil] at this
      omega
  | node P k e l r h2 hk hlt hle _ _ ihl ihr =>
    intro L hL
    have hlen := length_pairUp H L
    rw [← hL] at hlen
    exact IsTree.node L (2 * k) (e + 1) l r (by omega) (by rw [hk, Nat.pow_succ]; omega) (by omega) (by omega)
      (ihl _ (by rw [hL, (pairUp_split H k L).1])) (ihr _ (by rw [hL, (pairUp_split H k L).2]))

theorem isTree_collapse (L : List Bytes) (hL : L ≠ []) : IsTree H L (collapse H L) := by
  fun_induction collapse H L with
  | case1 => exact absurd rfl hL
  | case2 x => exact IsTree.single x
  | case3 l r rest ih => exact isTree_of_pairUp H (ih (by simp [pairUp])) _ rfl

/-- a tree over the leaf hashes is RFC 6962's MTH of the leaves. -/
theorem isMTH_of_isTree (L : List Bytes) (h : Bytes) (t : IsTree H L h) :
    ∀ D : List Bytes, L = D.map (hashLeaf H) → IsMTH H D h := by
  induction t with
  | single x =>
    intro D hD
    match D, hD with
    | [d], hD => simp at hD; subst hD; exact IsMTH.leaf d
  | node L k e l r h2 hk hlt hle _ _ ihl ihr =>
    intro D hD
    have hlen : L.length = D.length := by rw [hD, List.length_map]
    exact IsMTH.node D k e l r (by omega) hk (by omega) (by omega)
      (ihl _ (by rw [hD, List.map_take])) (ihr _ (by rw [hD, List.map_drop]))

/-- the bottom-up construction satisfies the RFC 6962 relation, for every list of leaves and every `H`. -/
theorem bottomUp_isMTH (D : List Bytes) : IsMTH H D (bottomUp H D) := by
  unfold bottomUp
  match D with
  | [] => rw [List.map_nil, collapse]; exact IsMTH.empty
  | d :: ds =>
    exact isMTH_of_isTree H _ _ (isTree_collapse H _ (by simp)) _ rfl

/-- **Headline A.**  `Hash` returns what the independent bottom-up construction yields. -/
theorem hash_eq_bottomUp {ε : Type} (D : List Bytes) (h63 : D.length ≤ 2 ^ 63) :
    hash (ε := ε) H (D.map .ok) = .ok (bottomUp H D) :=
  (Proofs.Merkle.hash_eq_mth H D h63 _).mpr (bottomUp_isMTH H D)

/-! ## B. RFC 6962 MTH / audit paths, and the RFC 9162 iterative verifier -/

/-- the split point is a power of two `k` with `k < n ≤ 2k` (for every `n ≥ 2`; no upper bound). -/
theorem splitPoint_spec (n : Nat) (h2 : 2 ≤ n) :
    ∃ e, splitPoint n = 2 ^ e ∧ splitPoint n < n ∧ n ≤ 2 * splitPoint n :=
  ⟨_, rfl, Proofs.Merkle.pow_log2_pred n h2⟩

theorem splitPoint_eq (n e : Nat) (hlo : 2 ^ e < n) (hhi : n ≤ 2 ^ (e + 1)) : splitPoint n = 2 ^ e := by
  have ⟨h1, h2⟩ := Proofs.Merkle.pow_log2_pred n (Nat.lt_of_le_of_lt Nat.one_le_two_pow hlo)
  rw [Nat.pow_succ, Nat.mul_comm] at hhi
  exact congrArg (2 ^ ·) (Proofs.Merkle.pow2_split_unique n _ e h1 h2 hlo hhi)

theorem mth_nil : mth H [] = H [] := by rw [mth]; simp
theorem mth_single (d : Bytes) : mth H [d] = hashLeaf H d := by rw [mth]; simp
theorem mth_split (D : List Bytes) (h2 : 2 ≤ D.length) :
    mth H D = hashNode H (mth H (D.take (splitPoint D.length))) (mth H (D.drop (splitPoint D.length))) := by
  rw [mth]
  have : ¬ D.length < 2 := by omega
  simp only [this, dite_false]

theorem auditPath_small (D : List Bytes) (m : Nat) (h : D.length < 2) : auditPath H D m = [] := by
  rw [auditPath]; simp [h]
theorem auditPath_left (D : List Bytes) (m : Nat) (h2 : 2 ≤ D.length) (hm : m < splitPoint D.length) :
    auditPath H D m = auditPath H (D.take (splitPoint D.length)) m ++ [mth H (D.drop (splitPoint D.length))] := by
  rw [auditPath]
  have : ¬ D.length < 2 := by omega
  simp only [this, dite_false, hm, if_true]
theorem auditPath_right (D : List Bytes) (m : Nat) (h2 : 2 ≤ D.length) (hm : splitPoint D.length ≤ m) :
    auditPath H D m =
      auditPath H (D.drop (splitPoint D.length)) (m - splitPoint D.length) ++ [mth H (D.take (splitPoint D.length))] := by
  rw [auditPath]
  have : ¬ D.length < 2 := by omega
  have hm' : ¬ m < splitPoint D.length := by omega
  simp only [this, dite_false, hm', if_false]

/-- the function `mth` satisfies the RFC 6962 relation `IsMTH` (Iota/Spec/Merkle.lean), for every list. -/
theorem mth_isMTH (D : List Bytes) : IsMTH H D (mth H D) := by
  induction D using Proofs.Merkle.split_induction splitPoint splitPoint_pos_lt with
  | nil => rw [mth_nil]; exact IsMTH.empty
  | one d => rw [mth_single]; exact IsMTH.leaf d
  | node D h2 ihl ihr =>
    obtain ⟨e, hke, hklt, hkle⟩ := splitPoint_spec D.length h2
    rw [mth_split H D h2]
    exact IsMTH.node D _ e _ _ h2 hke hklt hkle ihl ihr

/-! ### the verifier, step by step -/

theorem rfp_nil (fn sn : Nat) (r : Bytes) :
    rootFromPath H fn sn r [] = if sn = 0 then some r else none := by
  simp [rootFromPath]

/-- the current node is a right child: the path element goes on the left. -/
theorem rfp_right (fn sn : Nat) (r p : Bytes) (path : List Bytes) (hsn : sn ≠ 0) (hodd : fn % 2 = 1) :
    rootFromPath H fn sn r (p :: path) = rootFromPath H (fn / 2) (sn / 2) (hashNode H p r) path := by
  have hs : shiftOdd fn sn = (fn, sn) := by rw [shiftOdd]; simp [hodd]
  simp [rootFromPath, hsn, hodd, hs]

/-- the current node is a left child with a sibling: the path element goes on the right. -/
theorem rfp_left (fn sn : Nat) (r p : Bytes) (path : List Bytes) (heven : fn % 2 = 0) (hlt : fn < sn) :
    rootFromPath H fn sn r (p :: path) = rootFromPath H (fn / 2) (sn / 2) (hashNode H r p) path := by
  have h1 : sn ≠ 0 := by omega
  have h2 : ¬ (fn % 2 = 1 ∨ fn = sn) := by omega
  simp [rootFromPath, h1, h2]

theorem shiftOdd_two_mul (F S : Nat) (hF : F ≠ 0) : shiftOdd (2 * F) (2 * S) = shiftOdd F S := by
  rw [shiftOdd]
  have h : ¬ (2 * F % 2 = 1 ∨ 2 * F = 0) := by omega
  simp only [h, if_false]
  congr 1 <;> omega

/-- the current node is the unpaired last node of its level: it is the same node one level up. -/
theorem rfp_double (F : Nat) (r : Bytes) (path : List Bytes) :
    rootFromPath H (2 * F) (2 * F) r path = rootFromPath H F F r path := by
  by_cases hF : F = 0
  · subst hF; rfl
  have h1 : 2 * F ≠ 0 := by omega
  match path with
  | [] => rw [rfp_nil, rfp_nil]; simp [hF, h1]
  | p :: path => simp [rootFromPath, hF, h1, shiftOdd_two_mul F F hF]

/-- one level up from a left child with something to its right (`P` leaves under each node of the level). -/
theorem rfp_up_left (P b sn : Nat) (hp : 0 < P) (h : P * (2 * b) + P ≤ sn) (r p : Bytes) (path : List Bytes) :
    rootFromPath H (2 * b) (sn / P) r (p :: path) = rootFromPath H b (sn / (P * 2)) (hashNode H r p) path := by
  have hlt : 2 * b + 1 ≤ sn / P := (Nat.le_div_iff_mul_le hp).mpr (by rw [Nat.mul_comm]; exact h)
  rw [rfp_left H _ _ _ _ _ (by omega) (by omega), ← Nat.div_div_eq_div_mul]
  congr 1; omega

/-- one level up from a right child. -/
theorem rfp_up_right (P b sn : Nat) (hp : 0 < P) (h : P * (2 * b) + P ≤ sn) (r p : Bytes) (path : List Bytes) :
    rootFromPath H (2 * b + 1) (sn / P) r (p :: path) = rootFromPath H b (sn / (P * 2)) (hashNode H p r) path := by
  have hlt : 2 * b + 1 ≤ sn / P := (Nat.le_div_iff_mul_le hp).mpr (by rw [Nat.mul_comm]; exact h)
  rw [rfp_right H _ _ _ _ _ (by omega) (by omega), ← Nat.div_div_eq_div_mul]
  congr 1; omega

/-- one level up from the last node of a level when it is a left child without sibling. -/
theorem rfp_up_last (P b t : Nat) (ht : t < P) (r : Bytes) (path : List Bytes) :
    rootFromPath H (2 * b) ((P * (2 * b) + t) / P) r path =
      rootFromPath H b ((P * (2 * b) + t) / (P * 2)) r path := by
  have hd : (P * (2 * b) + t) / P = 2 * b := by
    rw [Nat.mul_add_div (by omega), Nat.div_eq_of_lt ht]; rfl
  rw [← Nat.div_div_eq_div_mul, hd, rfp_double]
  congr 1; omega

/-- Main lemma.  `D` is a subtree with at most `2^e` leaves whose first leaf has index `2^e * b` in the whole tree, and
either it is the last subtree (`sn` is the index of its last leaf) or it is a complete subtree (`2^e` leaves) with
something to its right.  Walking the audit path of leaf `m` of `D` takes the verifier from that leaf to the node `b`,
`e` levels up, with the value `MTH(D)`. -/
theorem rfp_subtree : ∀ (e : Nat) (D : List Bytes), D.length ≤ 2 ^ e →
    ∀ (m b sn : Nat) (leaf : Bytes) (rest : List Bytes), D[m]? = some leaf →
    (sn = 2 ^ e * b + (D.length - 1) ∨ (D.length = 2 ^ e ∧ 2 ^ e * b + 2 ^ e ≤ sn)) →
    rootFromPath H (2 ^ e * b + m) sn (hashLeaf H leaf) (auditPath H D m ++ rest) =
      rootFromPath H b (sn / 2 ^ e) (mth H D) rest := by
  intro e
  induction e with
  | zero =>
    intro D hle m b sn leaf rest hm hsn
    have hmn := (List.getElem?_eq_some_iff.mp hm).1
    obtain ⟨d, rfl⟩ := List.length_eq_one_iff.mp (by omega : D.length = 1)
    obtain rfl : m = 0 := by simpa using hmn
    cases hm
    rw [auditPath_small H _ _ (by simp), mth_single]
    simp
  | succ e ih =>
    intro D hle m b sn leaf rest hm hsn
    have hp : 0 < 2 ^ e := Nat.pow_pos (by omega)
    have hmn : m < D.length := (List.getElem?_eq_some_iff.mp hm).1
    have hsp : 2 ^ e < D.length → splitPoint D.length = 2 ^ e := fun h => splitPoint_eq _ e h hle
    simp only [Nat.pow_succ, Nat.mul_assoc] at hle hsn ⊢
    generalize 2 ^ e = P at *
    by_cases hnP : D.length ≤ P
    · -- the subtree does not reach this level: its root is carried up unchanged
      have hsn' : sn = P * (2 * b) + (D.length - 1) := by omega
      rw [ih D hnP m (2 * b) sn leaf rest hm (Or.inl hsn'), hsn']
      exact rfp_up_last H P b (D.length - 1) (by omega) _ _
    · have h2 : 2 ≤ D.length := by omega
      have hk := hsp (by omega)
      have hsn' : P * (2 * b) + P ≤ sn := by omega
      rw [mth_split H D h2, hk]
      by_cases hmP : m < P
      · have hl : (D.take P).length = P := by rw [List.length_take]; omega
        rw [auditPath_left H D m h2 (by omega), hk, List.append_assoc,
          ih (D.take P) (Nat.le_of_eq hl) m (2 * b) sn leaf _
            (by rw [List.getElem?_take_of_lt hmP]; exact hm) (Or.inr ⟨hl, hsn'⟩)]
        exact rfp_up_left H P b sn hp hsn' _ _ _
      · obtain ⟨m', rfl⟩ : ∃ m', m = P + m' := ⟨m - P, by omega⟩
        have hb : P * (2 * b + 1) = P * (2 * b) + P := Nat.mul_succ ..
        rw [auditPath_right H D _ h2 (by omega), hk, List.append_assoc, Nat.add_sub_cancel_left,
          ← Nat.add_assoc, ← hb,
          ih (D.drop P) (by rw [List.length_drop]; omega) m' (2 * b + 1) sn leaf _
            (by rw [List.getElem?_drop]; exact hm)
            (by rw [List.length_drop]; exact hsn.imp (fun h => by omega) (fun h => ⟨by omega, by omega⟩))]
        exact rfp_up_right H P b sn hp hsn' _ _ _

/-- **Headline B(i), completeness.**  For every `H`, every list of leaves and every leaf index `m < n`, the iterative
verifier run on the RFC 6962 audit path of leaf `m` computes `MTH(D)`. -/
theorem verifyPath_auditPath (D : List Bytes) (m : Nat) (leaf : Bytes) (hm : D[m]? = some leaf) :
    verifyPath H m D.length leaf (auditPath H D m) = some (mth H D) := by
  have hmn : m < D.length := (List.getElem?_eq_some_iff.mp hm).1
  have hpow : D.length ≤ 2 ^ D.length := Nat.le_of_lt Nat.lt_two_pow_self
  have := rfp_subtree H D.length D hpow m 0 (D.length - 1) leaf [] hm (Or.inl (by omega))
  rw [Nat.mul_zero, Nat.zero_add, List.append_nil] at this
  unfold verifyPath
  rw [if_pos hmn, this, rfp_nil]
  have : (D.length - 1) / 2 ^ D.length = 0 := Nat.div_eq_of_lt (by omega)
  simp [this]

/-! ### the three constructions agree, and agree with the model of the Go code -/

/-- RFC recursion = bottom-up construction, for every list (no size bound). -/
theorem mth_eq_bottomUp (D : List Bytes) : mth H D = bottomUp H D :=
  Proofs.Merkle.isMTH_functional H D _ _ (mth_isMTH H D) (bottomUp_isMTH H D)

theorem hash_eq_mth {ε : Type} (D : List Bytes) (h63 : D.length ≤ 2 ^ 63) :
    hash (ε := ε) H (D.map .ok) = .ok (mth H D) :=
  (Proofs.Merkle.hash_eq_mth H D h63 _).mpr (mth_isMTH H D)

/-- **Headline B(i), against the model.**  The root returned by `Hash` is the one the RFC 9162 verifier computes
from the RFC 6962 audit path of any leaf. -/
theorem hash_verifies {ε : Type} (D : List Bytes) (h63 : D.length ≤ 2 ^ 63) (root : Bytes)
    (hroot : hash (ε := ε) H (D.map .ok) = .ok root) (m : Nat) (leaf : Bytes) (hm : D[m]? = some leaf) :
    verifyPath H m D.length leaf (auditPath H D m) = some root := by
  rw [hash_eq_mth H D h63] at hroot
  cases hroot
  exact verifyPath_auditPath H D m leaf hm

theorem hash_verifyInclusion {ε : Type} (D : List Bytes) (h63 : D.length ≤ 2 ^ 63) (root : Bytes)
    (hroot : hash (ε := ε) H (D.map .ok) = .ok root) (m : Nat) (leaf : Bytes) (hm : D[m]? = some leaf) :
    verifyInclusion H m D.length leaf (auditPath H D m) root = true := by
  unfold verifyInclusion
  rw [hash_verifies H D h63 root hroot m leaf hm]
  simp

/-! ### B(ii): path length -/

/-- an audit path in a tree of `n ≤ 2^e` leaves has at most `e` elements, i.e. at most `⌈log₂ n⌉`, and exactly `e`
in a complete tree (`n = 2^e`). -/
theorem auditPath_length : ∀ (e : Nat) (D : List Bytes) (m : Nat), D.length ≤ 2 ^ e →
    (auditPath H D m).length ≤ e ∧ (D.length = 2 ^ e → (auditPath H D m).length = e) := by
  intro e
  induction e with
  | zero =>
    intro D m hle
    rw [auditPath_small H D m (Nat.lt_succ_of_le hle)]
    exact ⟨Nat.le_refl _, fun _ => rfl⟩
  | succ e ih =>
    intro D m hle
    have hs : 2 ^ (e + 1) = 2 * 2 ^ e := by rw [Nat.pow_succ]; omega
    have hp : 0 < 2 ^ e := Nat.pow_pos (by omega)
    by_cases hnP : D.length ≤ 2 ^ e
    · exact ⟨Nat.le_succ_of_le (ih D m hnP).1, fun h => by omega⟩
    · have h2 : 2 ≤ D.length := by omega
      have hk : splitPoint D.length = 2 ^ e := splitPoint_eq _ e (by omega) hle
      by_cases hm : m < splitPoint D.length
      · rw [auditPath_left H D m h2 hm, List.length_append, List.length_singleton]
        have := ih (D.take (splitPoint D.length)) m (by rw [List.length_take, hk]; omega)
        exact ⟨by omega, fun h => by rw [this.2 (by rw [List.length_take, hk]; omega)]⟩
      · rw [auditPath_right H D m h2 (by omega), List.length_append, List.length_singleton]
        have := ih (D.drop (splitPoint D.length)) (m - splitPoint D.length) (by rw [List.length_drop, hk]; omega)
        exact ⟨by omega, fun h => by rw [this.2 (by rw [List.length_drop, hk]; omega)]⟩

theorem auditPath_length_pow2 : ∀ (e : Nat) (D : List Bytes) (m : Nat), D.length = 2 ^ e →
    (auditPath H D m).length = e :=
  fun e D m h => (auditPath_length H e D m (Nat.le_of_eq h)).2 h

/-- `⌈log₂ n⌉` (0 for `n ≤ 1`). -/
def clog2 (n : Nat) : Nat := if n ≤ 1 then 0 else Nat.log2 (n - 1) + 1

/-- `clog2 n` is the least `e` with `n ≤ 2^e`. -/
theorem clog2_spec (n : Nat) : n ≤ 2 ^ clog2 n ∧ ∀ e, n ≤ 2 ^ e → clog2 n ≤ e := by
  unfold clog2
  by_cases h : n ≤ 1
  · simp [h]
  · simp only [h, if_false]
    refine ⟨?_, fun e he => ?_⟩
    · have := @Nat.lt_log2_self (n - 1); omega
    · have : (n - 1).log2 < e := (Nat.log2_lt (by omega)).mpr (by omega)
      omega

/-- **Headline B(ii).** -/
theorem auditPath_length_le_clog2 (D : List Bytes) (m : Nat) : (auditPath H D m).length ≤ clog2 D.length :=
  (auditPath_length H _ D m (clog2_spec D.length).1).1

/-! ### B(iii): soundness, relative to collision-freeness on the strings actually hashed -/

/-- The verifier's control flow depends only on `fn`, `sn` and the number of path elements, so two runs from the same
position that end in the same root either started from the same node with the same path or feed `H` two different
strings with the same image at the same step. -/
theorem rfp_injective (len : Nat) (hlen : ∀ x, (H x).length = len) (X : Bytes) :
    ∀ (path path' : List Bytes) (fn sn : Nat) (r r' : Bytes), r.length = len → r'.length = len →
    (∀ x ∈ rootFromPathInputs H fn sn r path, ∀ y ∈ rootFromPathInputs H fn sn r' path', H x = H y → x = y) →
    rootFromPath H fn sn r path = some X → rootFromPath H fn sn r' path' = some X →
    r = r' ∧ path = path' := by
  intro path
  induction path with
  | nil =>
    intro path' fn sn r r' _ _ _ h1 h2
    rw [rfp_nil] at h1
    by_cases hsn : sn = 0
    · match path' with
      | [] =>
        rw [rfp_nil] at h2
        simp only [hsn, if_true, Option.some.injEq] at h1 h2
        exact ⟨h1.trans h2.symm, rfl⟩
      | p' :: path' => simp [rootFromPath, hsn] at h2
    · simp [hsn] at h1
  | cons p path ih =>
    intro path' fn sn r r' hr hr' hcf h1 h2
    match path' with
    | [] =>
      rw [rfp_nil] at h2
      by_cases hsn : sn = 0
      · simp [rootFromPath, hsn] at h1
      · simp [hsn] at h2
    | p' :: path' =>
      by_cases hsn : sn = 0
      · simp [rootFromPath, hsn] at h1
      by_cases hc : fn % 2 = 1 ∨ fn = sn
      · simp only [rootFromPath, rootFromPathInputs, hsn, hc, if_true, if_false] at h1 h2 hcf
        have := ih path' _ _ _ _ (hlen _) (hlen _)
          (fun x hx y hy => hcf x (List.mem_cons_of_mem _ hx) y (List.mem_cons_of_mem _ hy)) h1 h2
        have he := hcf _ List.mem_cons_self _ List.mem_cons_self this.1
        have he' := List.append_inj' (List.cons.inj he).2 (hr.trans hr'.symm)
        exact ⟨he'.2, by rw [he'.1, this.2]⟩
      · simp only [rootFromPath, rootFromPathInputs, hsn, hc, if_false] at h1 h2 hcf
        have := ih path' _ _ _ _ (hlen _) (hlen _)
          (fun x hx y hy => hcf x (List.mem_cons_of_mem _ hx) y (List.mem_cons_of_mem _ hy)) h1 h2
        have he := hcf _ List.mem_cons_self _ List.mem_cons_self this.1
        have he' := List.append_inj (List.cons.inj he).2 (hr.trans hr'.symm)
        exact ⟨he'.1, by rw [he'.2, this.2]⟩

/-- **B(iii), soundness.**  Let `H` have fixed output length.  If a path verifies for index `m` and leaf content `leaf'`
against `MTH(D)`, and `H` has no collision between the strings hashed in that run and the strings hashed when
verifying the genuine audit path of leaf `m` (the preimages of the leaf and of the tree nodes above it), then `leaf'`
is leaf `m` of `D` and the path is the genuine audit path. -/
theorem verifyPath_sound (len : Nat) (hlen : ∀ x, (H x).length = len) (D : List Bytes) (m : Nat) (leaf' : Bytes)
    (path' : List Bytes)
    (hcf : ∀ d, D[m]? = some d → ∀ x ∈ verifyPathInputs H m D.length d (auditPath H D m),
      ∀ y ∈ verifyPathInputs H m D.length leaf' path', H x = H y → x = y)
    (hv : verifyPath H m D.length leaf' path' = some (mth H D)) :
    D[m]? = some leaf' ∧ path' = auditPath H D m := by
  unfold verifyPath at hv
  by_cases hm : m < D.length
  · have hd : D[m]? = some D[m] := List.getElem?_eq_getElem hm
    have hc := verifyPath_auditPath H D m D[m] hd
    unfold verifyPath at hc
    rw [if_pos hm] at hv hc
    have hcf' := hcf _ hd
    unfold verifyPathInputs at hcf'
    have := rfp_injective H len hlen _ _ _ _ _ _ _ (hlen _) (hlen _)
      (fun x hx y hy => hcf' x (List.mem_cons_of_mem _ hx) y (List.mem_cons_of_mem _ hy)) hc hv
    have he := hcf' _ List.mem_cons_self _ List.mem_cons_self this.1
    exact ⟨by rw [hd, (List.cons.inj he).2], this.2.symm⟩
  · rw [if_neg hm] at hv; cases hv

/-- the same, as "a forged inclusion proof exhibits a collision of `H`". -/
theorem verifyPath_forgery_collision (len : Nat) (hlen : ∀ x, (H x).length = len) (D : List Bytes) (m : Nat)
    (leaf' : Bytes) (path' : List Bytes) (hv : verifyPath H m D.length leaf' path' = some (mth H D)) :
    (D[m]? = some leaf' ∧ path' = auditPath H D m) ∨
    ∃ d, D[m]? = some d ∧ ∃ x ∈ verifyPathInputs H m D.length d (auditPath H D m),
      ∃ y ∈ verifyPathInputs H m D.length leaf' path', x ≠ y ∧ H x = H y := by
  refine Classical.or_iff_not_imp_right.mpr fun hn => verifyPath_sound H len hlen D m leaf' path' ?_ hv
  intro d hd x hx y hy hxy
  exact Classical.byContradiction fun hne => hn ⟨d, hd, x, hx, y, hy, hne, hxy⟩

/-! ## C. non-vacuity: the constructions evaluated on small trees -/
section Examples

/-- a toy "hash" with 4-byte output that depends on the length and the first three bytes of its input. -/
private def toy : Bytes → Bytes := fun b => [b.length.toUInt8] ++ (b ++ [0, 0, 0]).take 3
/-- `n` distinct leaves of varying length. -/
private def leaves (n : Nat) : List Bytes := (List.range n).map fun i => List.replicate (i % 3 + 1) i.toUInt8

private def rootOf {ε : Type} : Except ε Bytes → Option Bytes
  | .ok r => some r
  | .error _ => none

/-- model = bottom-up = RFC recursion, and every leaf's audit path verifies against that root. -/
private def agree (H : Bytes → Bytes) (n : Nat) : Bool :=
  let D := leaves n
  rootOf (hash (ε := Unit) H (D.map .ok)) == some (bottomUp H D) && bottomUp H D == mth H D &&
  (List.range n).all fun m =>
    verifyInclusion H m n (D.getD m []) (auditPath H D m) (bottomUp H D) &&
    (auditPath H D m).length ≤ clog2 n

example : agree toy 0 ∧ agree toy 1 ∧ agree toy 2 ∧ agree toy 3 ∧ agree toy 4 ∧ agree toy 5 ∧ agree toy 6 ∧
    agree toy 7 ∧ agree toy 8 ∧ agree toy 9 ∧ agree toy 13 := by decide +kernel
example : agree id 0 ∧ agree id 1 ∧ agree id 2 ∧ agree id 3 ∧ agree id 5 ∧ agree id 7 ∧ agree id 11 := by
  decide +kernel

/-! with `H = id` the tree shape is visible in the result -/
example : bottomUp id [] = [] ∧ bottomUp id [[7]] = [0, 7] ∧ bottomUp id [[7], [8]] = [1, 0, 7, 0, 8] := by
  decide +kernel
example : bottomUp id [[7], [8], [9]] = [1, 1, 0, 7, 0, 8, 0, 9] := by decide +kernel
example : rootOf (hash (ε := Unit) id [.ok [7], .ok [8], .ok [9]]) = some [1, 1, 0, 7, 0, 8, 0, 9] := by
  decide +kernel
/-- five leaves: ((a b) (c d)) e -/
example : bottomUp id [[10], [11], [12], [13], [14]] =
    [1, 1, 1, 0, 10, 0, 11, 1, 0, 12, 0, 13, 0, 14] := by decide +kernel
example : mth id [[10], [11], [12], [13], [14]] = [1, 1, 1, 0, 10, 0, 11, 1, 0, 12, 0, 13, 0, 14] := by
  decide +kernel
/-- the audit path of the last of five leaves is the single node over the first four;
that of leaf 2 is `d`, `(a b)`, `e`. -/
example : auditPath id [[10], [11], [12], [13], [14]] 4 = [[1, 1, 0, 10, 0, 11, 1, 0, 12, 0, 13]] := by
  decide +kernel
example : auditPath id [[10], [11], [12], [13], [14]] 2 = [[0, 13], [1, 0, 10, 0, 11], [0, 14]] := by
  decide +kernel
example : verifyPath id 2 5 [12] [[0, 13], [1, 0, 10, 0, 11], [0, 14]] =
    some [1, 1, 1, 0, 10, 0, 11, 1, 0, 12, 0, 13, 0, 14] := by decide +kernel

/-! the verifier is not trivially accepting (`H = id`, which is collision-free): a wrong leaf, a wrong index, a tree
size that does not fit the path, a truncated or an extended path, and an index outside the tree all fail -/
example : verifyInclusion id 2 5 [9, 9] (auditPath id (leaves 5) 2) (bottomUp id (leaves 5)) = false := by
  decide +kernel
example : verifyInclusion id 3 5 ((leaves 5).getD 2 []) (auditPath id (leaves 5) 2) (bottomUp id (leaves 5))
    = false := by decide +kernel
example : verifyPath id 2 9 ((leaves 5).getD 2 []) (auditPath id (leaves 5) 2) = none := by decide +kernel
example : verifyPath id 2 5 ((leaves 5).getD 2 []) ((auditPath id (leaves 5) 2).take 2) = none := by
  decide +kernel
example : verifyPath id 2 5 ((leaves 5).getD 2 []) (auditPath id (leaves 5) 2 ++ [[1]]) = none := by
  decide +kernel
example : verifyPath id 5 5 [] [] = none := by decide +kernel

/-! B(iii): the strings hashed by the verifier; `toy` has fixed output length; and because `toy` is weak, a forged
leaf does verify against the genuine root -- with the collision the soundness theorem promises (third node preimage:
`[1, 9, 1, 2, 0, 9, 1, 4, 0]` and `[1, 9, 1, 2, 0, 9, 1, 3, 0]` both hash to `[9, 1, 9, 1]`). -/
example : verifyPathInputs id 2 5 [12] [[0, 13], [1, 0, 10, 0, 11], [0, 14]] =
    [[0, 12], [1, 0, 12, 0, 13], [1, 1, 0, 10, 0, 11, 1, 0, 12, 0, 13],
     [1, 1, 1, 0, 10, 0, 11, 1, 0, 12, 0, 13, 0, 14]] := by decide +kernel
example : ∀ x, (toy x).length = 4 := by intro x; simp [toy]
example : verifyPath toy 2 5 [9, 9] (auditPath toy (leaves 5) 2) = some (mth toy (leaves 5)) ∧
    (leaves 5)[2]? = some [2, 2, 2] ∧
    [1, 9, 1, 2, 0, 9, 1, 4, 0] ∈ verifyPathInputs toy 2 5 [2, 2, 2] (auditPath toy (leaves 5) 2) ∧
    [1, 9, 1, 2, 0, 9, 1, 3, 0] ∈ verifyPathInputs toy 2 5 [9, 9] (auditPath toy (leaves 5) 2) ∧
    toy [1, 9, 1, 2, 0, 9, 1, 4, 0] = toy [1, 9, 1, 2, 0, 9, 1, 3, 0] := by decide +kernel

end Examples

end Iota.Proofs.MerkleTree
