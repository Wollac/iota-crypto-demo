/-
base32 regrouping (pkg/bech32/internal/base32): arithmetic form of every symbol / byte of a
quantum, the round trips on a full quantum, and the short quanta as full quanta of zero-padded input; then by
induction along the quantum loops the whole-string results `b32_decode_encode`, `b32_encode_of_decode`, and the
shape of an encoding (`b32Encode_lt`, `b32Encode_length`).
-/
import Iota.Spec.Bip173
import Iota.Proofs.Digits

namespace Iota.Proofs.Base32
open Iota.Bech32 Iota.Proofs Iota.Spec.Bip173

/-! ### symbol / byte functions of a quantum -/

def e0 (b0 : UInt8) : UInt8 := b0 >>> 3
def e1 (b0 b1 : UInt8) : UInt8 := ((b1 >>> 6) &&& (31 : UInt8)) ||| ((b0 <<< 2) &&& (31 : UInt8))
def e2 (b1 : UInt8) : UInt8 := (b1 >>> 1) &&& (31 : UInt8)
def e3 (b1 b2 : UInt8) : UInt8 := ((b2 >>> 4) &&& (31 : UInt8)) ||| ((b1 <<< 4) &&& (31 : UInt8))
def e4 (b2 b3 : UInt8) : UInt8 := (b3 >>> 7) ||| ((b2 <<< 1) &&& (31 : UInt8))
def e5 (b3 : UInt8) : UInt8 := (b3 >>> 2) &&& (31 : UInt8)
def e6 (b3 b4 : UInt8) : UInt8 := (b4 >>> 5) ||| ((b3 <<< 3) &&& (31 : UInt8))
def e7 (b4 : UInt8) : UInt8 := b4 &&& (31 : UInt8)

def o0 (s0 s1 : UInt8) : UInt8 := (s0 <<< 3) ||| (s1 >>> 2)
def o1 (s1 s2 s3 : UInt8) : UInt8 := (s1 <<< 6) ||| (s2 <<< 1) ||| (s3 >>> 4)
def o2 (s3 s4 : UInt8) : UInt8 := (s3 <<< 4) ||| (s4 >>> 1)
def o3 (s4 s5 s6 : UInt8) : UInt8 := (s4 <<< 7) ||| (s5 <<< 2) ||| (s6 >>> 3)
def o4 (s6 s7 : UInt8) : UInt8 := (s6 <<< 5) ||| s7

theorem encQuantum_5 (b0 b1 b2 b3 b4 : UInt8) : encQuantum [b0, b1, b2, b3, b4] =
    [e0 b0, e1 b0 b1, e2 b1, e3 b1 b2, e4 b2 b3, e5 b3, e6 b3 b4, e7 b4] := by
  simp [encQuantum, e0, e1, e2, e3, e4, e5, e6, e7]

theorem encQuantum_1 (b0 : UInt8) : encQuantum [b0] = [e0 b0, e1 b0 0] := by
  simp [encQuantum, e0, e1]
theorem encQuantum_2 (b0 b1 : UInt8) : encQuantum [b0, b1] = [e0 b0, e1 b0 b1, e2 b1, e3 b1 0] := by
  simp [encQuantum, e0, e1, e2, e3]
theorem encQuantum_3 (b0 b1 b2 : UInt8) : encQuantum [b0, b1, b2] =
    [e0 b0, e1 b0 b1, e2 b1, e3 b1 b2, e4 b2 0] := by
  simp [encQuantum, e0, e1, e2, e3, e4]
theorem encQuantum_4 (b0 b1 b2 b3 : UInt8) : encQuantum [b0, b1, b2, b3] =
    [e0 b0, e1 b0 b1, e2 b1, e3 b1 b2, e4 b2 b3, e5 b3, e6 b3 0] := by
  simp [encQuantum, e0, e1, e2, e3, e4, e5, e6]

theorem decQuantum_8 (s0 s1 s2 s3 s4 s5 s6 s7 : UInt8) : decQuantum [s0, s1, s2, s3, s4, s5, s6, s7] =
    [o0 s0 s1, o1 s1 s2 s3, o2 s3 s4, o3 s4 s5 s6, o4 s6 s7] := by
  simp [decQuantum, o0, o1, o2, o3, o4]
theorem decQuantum_2 (s0 s1 : UInt8) : decQuantum [s0, s1] = [o0 s0 s1] := by
  simp [decQuantum, o0]
theorem decQuantum_4 (s0 s1 s2 s3 : UInt8) : decQuantum [s0, s1, s2, s3] = [o0 s0 s1, o1 s1 s2 s3] := by
  simp [decQuantum, o0, o1]
theorem decQuantum_5 (s0 s1 s2 s3 s4 : UInt8) : decQuantum [s0, s1, s2, s3, s4] =
    [o0 s0 s1, o1 s1 s2 s3, o2 s3 s4] := by
  simp [decQuantum, o0, o1, o2]
theorem decQuantum_7 (s0 s1 s2 s3 s4 s5 s6 : UInt8) : decQuantum [s0, s1, s2, s3, s4, s5, s6] =
    [o0 s0 s1, o1 s1 s2 s3, o2 s3 s4, o3 s4 s5 s6] := by
  simp [decQuantum, o0, o1, o2, o3]

/-! ### shifts and masks of a byte in arithmetic form -/

theorem toNat_shr (b : UInt8) (k : Nat) (hk : k < 8) : (b >>> (OfNat.ofNat k : UInt8)).toNat = b.toNat / 2 ^ k := by
  rw [UInt8.toNat_shiftRight, UInt8.toNat_ofNat_of_lt (by show k < 256; omega), Nat.mod_eq_of_lt hk,
    Nat.shiftRight_eq_div_pow]

theorem toNat_shl (b : UInt8) (k : Nat) (hk : k < 8) :
    (b <<< (OfNat.ofNat k : UInt8)).toNat = b.toNat * 2 ^ k % 256 := by
  rw [UInt8.toNat_shiftLeft, UInt8.toNat_ofNat_of_lt (by show k < 256; omega), Nat.mod_eq_of_lt hk,
    Nat.shiftLeft_eq]

/-- `m` is the mask `2^k - 1`. -/
theorem toNat_mask (b m : UInt8) (k : Nat) (hm : m.toNat + 1 = 2 ^ k) : (b &&& m).toNat = b.toNat % 2 ^ k := by
  rw [UInt8.toNat_and, ← Nat.and_two_pow_sub_one_eq_mod, ← hm]
  rfl

theorem p_shr5 (b : UInt8) : (b >>> 5).toNat = b.toNat / 32 := toNat_shr b 5 (by omega)
theorem p_m31 (b : UInt8) : (b &&& (31 : UInt8)).toNat = b.toNat % 32 := toNat_mask b 31 5 rfl

/-- OR of a multiple of `2^i` with a value below `2^i` is their sum. -/
theorem or_eq_add (x y i : Nat) (hx : x % 2 ^ i = 0) (hy : y < 2 ^ i) : x ||| y = x + y := by
  rw [← Nat.div_add_mod x (2 ^ i), hx, Nat.add_zero, Nat.mul_comm, ← Nat.shiftLeft_eq,
    ← Nat.shiftLeft_add_eq_or_of_lt hy]

/-! ### arithmetic form of the symbols -/

theorem e0_nat (b0 : UInt8) : (e0 b0).toNat = b0.toNat / 8 := toNat_shr b0 3 (by omega)
theorem e1_nat (b0 b1 : UInt8) : (e1 b0 b1).toNat = (b0.toNat % 8) * 4 + b1.toNat / 64 := by
  unfold e1
  have := b1.toNat_lt
  rw [UInt8.toNat_or, toNat_mask _ 31 5 rfl, toNat_mask _ 31 5 rfl, toNat_shr _ 6 (by omega),
    toNat_shl _ 2 (by omega), Nat.or_comm, or_eq_add _ _ 2 (by omega) (by omega)]
  omega
theorem e2_nat (b1 : UInt8) : (e2 b1).toNat = (b1.toNat / 2) % 32 := by
  unfold e2
  rw [toNat_mask _ 31 5 rfl, toNat_shr _ 1 (by omega)]
theorem e3_nat (b1 b2 : UInt8) : (e3 b1 b2).toNat = (b1.toNat % 2) * 16 + b2.toNat / 16 := by
  unfold e3
  have := b2.toNat_lt
  rw [UInt8.toNat_or, toNat_mask _ 31 5 rfl, toNat_mask _ 31 5 rfl, toNat_shr _ 4 (by omega),
    toNat_shl _ 4 (by omega), Nat.or_comm, or_eq_add _ _ 4 (by omega) (by omega)]
  omega
theorem e4_nat (b2 b3 : UInt8) : (e4 b2 b3).toNat = (b2.toNat % 16) * 2 + b3.toNat / 128 := by
  unfold e4
  have := b3.toNat_lt
  rw [UInt8.toNat_or, toNat_mask _ 31 5 rfl, toNat_shr _ 7 (by omega), toNat_shl _ 1 (by omega),
    Nat.or_comm, or_eq_add _ _ 1 (by omega) (by omega)]
  omega
theorem e5_nat (b3 : UInt8) : (e5 b3).toNat = (b3.toNat / 4) % 32 := by
  unfold e5
  rw [toNat_mask _ 31 5 rfl, toNat_shr _ 2 (by omega)]
theorem e6_nat (b3 b4 : UInt8) : (e6 b3 b4).toNat = (b3.toNat % 4) * 8 + b4.toNat / 32 := by
  unfold e6
  have := b4.toNat_lt
  rw [UInt8.toNat_or, toNat_mask _ 31 5 rfl, toNat_shr _ 5 (by omega), toNat_shl _ 3 (by omega),
    Nat.or_comm, or_eq_add _ _ 3 (by omega) (by omega)]
  omega
theorem e7_nat (b4 : UInt8) : (e7 b4).toNat = b4.toNat % 32 := toNat_mask b4 31 5 rfl

/-! ### arithmetic form of the decoded bytes (symbols < 32) -/

theorem o0_nat (s0 s1 : UInt8) (h0 : s0.toNat < 32) (h1 : s1.toNat < 32) :
    (o0 s0 s1).toNat = s0.toNat * 8 + s1.toNat / 4 := by
  unfold o0
  rw [UInt8.toNat_or, toNat_shl _ 3 (by omega), toNat_shr _ 2 (by omega),
    or_eq_add _ _ 3 (by omega) (by omega)]
  omega

theorem o1_nat (s1 s2 s3 : UInt8) (h2 : s2.toNat < 32) (h3 : s3.toNat < 32) :
    (o1 s1 s2 s3).toNat = (s1.toNat % 4) * 64 + s2.toNat * 2 + s3.toNat / 16 := by
  unfold o1
  rw [UInt8.toNat_or, UInt8.toNat_or, toNat_shl _ 6 (by omega), toNat_shl _ 1 (by omega),
    toNat_shr _ 4 (by omega), or_eq_add (s1.toNat * 2 ^ 6 % 256) _ 6 (by omega) (by omega),
    or_eq_add _ _ 1 (by omega) (by omega)]
  omega

theorem o2_nat (s3 s4 : UInt8) (h4 : s4.toNat < 32) :
    (o2 s3 s4).toNat = (s3.toNat % 16) * 16 + s4.toNat / 2 := by
  unfold o2
  rw [UInt8.toNat_or, toNat_shl _ 4 (by omega), toNat_shr _ 1 (by omega),
    or_eq_add _ _ 4 (by omega) (by omega)]
  omega

theorem o3_nat (s4 s5 s6 : UInt8) (h5 : s5.toNat < 32) (h6 : s6.toNat < 32) :
    (o3 s4 s5 s6).toNat = (s4.toNat % 2) * 128 + s5.toNat * 4 + s6.toNat / 8 := by
  unfold o3
  rw [UInt8.toNat_or, UInt8.toNat_or, toNat_shl _ 7 (by omega), toNat_shl _ 2 (by omega),
    toNat_shr _ 3 (by omega), or_eq_add (s4.toNat * 2 ^ 7 % 256) _ 7 (by omega) (by omega),
    or_eq_add _ _ 2 (by omega) (by omega)]
  omega

theorem o4_nat (s6 s7 : UInt8) (h7 : s7.toNat < 32) :
    (o4 s6 s7).toNat = (s6.toNat % 8) * 32 + s7.toNat := by
  unfold o4
  rw [UInt8.toNat_or, toNat_shl _ 5 (by omega), or_eq_add _ _ 5 (by omega) (by omega)]
  omega

/-! ### symbols are below 32 -/

theorem encQuantum_lt_5 : ∀ bs : List UInt8, bs.length = 5 → ∀ s ∈ encQuantum bs, s.toNat < 32
  | [b0, b1, b2, b3, b4], _, s, hs => by
    have := b0.toNat_lt; have := b1.toNat_lt; have := b2.toNat_lt; have := b3.toNat_lt; have := b4.toNat_lt
    rw [encQuantum_5] at hs
    simp only [List.mem_cons, List.not_mem_nil, or_false] at hs
    rcases hs with rfl | rfl | rfl | rfl | rfl | rfl | rfl | rfl
    · rw [e0_nat]; omega
    · rw [e1_nat]; omega
    · rw [e2_nat]; omega
    · rw [e3_nat]; omega
    · rw [e4_nat]; omega
    · rw [e5_nat]; omega
    · rw [e6_nat]; omega
    · rw [e7_nat]; omega

/-! ### a full quantum: both directions keep the 40-bit value, so each undoes the other -/

/-- value of a symbol string, most significant symbol first. -/
def val32 (ss : List UInt8) : Nat := ss.foldl (fun a s => a * 32 + s.toNat) 0

theorem val_enc : ∀ bs : List UInt8, bs.length = 5 →
    (encQuantum bs).length = 8 ∧ val32 (encQuantum bs) = valBE bs
  | [b0, b1, b2, b3, b4], _ => by
    have := b0.toNat_lt; have := b1.toNat_lt; have := b2.toNat_lt; have := b3.toNat_lt; have := b4.toNat_lt
    rw [encQuantum_5]
    simp only [val32, valBE, List.foldl_cons, List.foldl_nil, e0_nat, e1_nat, e2_nat, e3_nat, e4_nat, e5_nat,
      e6_nat, e7_nat]
    exact ⟨rfl, by omega⟩

theorem val_dec : ∀ ss : List UInt8, ss.length = 8 → (∀ s ∈ ss, s.toNat < 32) →
    (decQuantum ss).length = 5 ∧ valBE (decQuantum ss) = val32 ss
  | [s0, s1, s2, s3, s4, s5, s6, s7], _, h => by
    have h0 := h s0 (by simp); have h1 := h s1 (by simp); have h2 := h s2 (by simp)
    have h3 := h s3 (by simp); have h4 := h s4 (by simp); have h5 := h s5 (by simp)
    have h6 := h s6 (by simp); have h7 := h s7 (by simp)
    rw [decQuantum_8]
    simp only [val32, valBE, List.foldl_cons, List.foldl_nil, o0_nat _ _ h0 h1, o1_nat _ _ _ h2 h3,
      o2_nat _ _ h4, o3_nat _ _ _ h5 h6, o4_nat _ _ h7]
    exact ⟨rfl, by omega⟩

theorem dec_enc_5 (bs : List UInt8) (h : bs.length = 5) : decQuantum (encQuantum bs) = bs := by
  obtain ⟨hl, hv⟩ := val_enc bs h
  obtain ⟨hl', hv'⟩ := val_dec _ hl (encQuantum_lt_5 bs h)
  exact Digits.foldl_pos_inj 256 (by omega) UInt8.toNat (fun _ _ => UInt8.toNat_inj.mp) _ _ (hl'.trans h.symm)
    (fun x _ => x.toNat_lt) (fun x _ => x.toNat_lt) (hv'.trans hv)

theorem enc_dec_8 (ss : List UInt8) (h : ss.length = 8) (hlt : ∀ s ∈ ss, s.toNat < 32) :
    encQuantum (decQuantum ss) = ss := by
  obtain ⟨hl, hv⟩ := val_dec ss h hlt
  obtain ⟨hl', hv'⟩ := val_enc _ hl
  exact Digits.foldl_pos_inj 32 (by omega) UInt8.toNat (fun _ _ => UInt8.toNat_inj.mp) _ _ (hl'.trans h.symm)
    (encQuantum_lt_5 _ hl) hlt (hv'.trans hv)

/-! ### a short quantum is the full quantum of the zero-padded input, cut off -/

theorem encQuantum_pad : ∀ t : List UInt8, 1 ≤ t.length → t.length ≤ 5 →
    encQuantum (t ++ List.replicate (5 - t.length) 0) =
      encQuantum t ++ List.replicate (8 - encodedLen t.length) 0 ∧
    (encQuantum t).length = encodedLen t.length
  | [b0], _, _ => by simp [encodedLen, List.replicate, encQuantum_1, encQuantum_5]; decide
  | [b0, b1], _, _ => by simp [encodedLen, List.replicate, encQuantum_2, encQuantum_5]; decide
  | [b0, b1, b2], _, _ => by simp [encodedLen, List.replicate, encQuantum_3, encQuantum_5]; decide
  | [b0, b1, b2, b3], _, _ => by simp [encodedLen, encQuantum_4, encQuantum_5]; decide
  | [b0, b1, b2, b3, b4], _, _ => by simp [encodedLen, encQuantum_5]

/-- the mask test on the low `8 - j` bits is the test that `j` places further left nothing remains. -/
theorem shl_eq_zero_iff (x m : UInt8) (j : Nat) (hj : j < 8) (hm : m.toNat + 1 = 2 ^ (8 - j)) :
    x <<< (OfNat.ofNat j : UInt8) = 0 ↔ x &&& m = 0 := by
  rw [← UInt8.toNat_inj, ← UInt8.toNat_inj, toNat_shl x j hj, toNat_mask x m _ hm]
  have : 256 = 2 ^ (8 - j) * 2 ^ j := by rw [← Nat.pow_add, Nat.sub_add_cancel (by omega)]
  rw [this, Nat.mul_mod_mul_right]
  have := Nat.pow_pos (n := j) (show 0 < 2 by omega)
  show _ * _ = 0 ↔ _ = 0
  rw [Nat.mul_eq_zero]
  omega

/-- decoding the zero-padded symbols gives the short result followed by the bytes the padding bits
spill into; `padCheck` passes exactly when those are zero. -/
theorem decQuantum_pad : ∀ s : List UInt8, (s.length = 2 ∨ s.length = 4 ∨ s.length = 5 ∨ s.length = 7) →
    (decQuantum s).length = decodedLen s.length ∧
    decQuantum s = (decQuantum (s ++ List.replicate (8 - s.length) 0)).take (decodedLen s.length) ∧
    (padCheck s = none ↔ decQuantum (s ++ List.replicate (8 - s.length) 0) =
      decQuantum s ++ List.replicate (5 - decodedLen s.length) 0)
  | [s0, s1], _ => by
    simp [decodedLen, List.replicate, decQuantum_2, decQuantum_8, padCheck, o1, o2, o3, o4]
    exact (shl_eq_zero_iff s1 3 6 (by omega) rfl).symm
  | [s0, s1, s2, s3], _ => by
    simp [decodedLen, List.replicate, decQuantum_4, decQuantum_8, padCheck, o1, o2, o3, o4]
    exact (shl_eq_zero_iff s3 15 4 (by omega) rfl).symm
  | [s0, s1, s2, s3, s4], _ => by
    simp [decodedLen, List.replicate, decQuantum_5, decQuantum_8, padCheck, o1, o2, o3, o4]
    exact (shl_eq_zero_iff s4 1 7 (by omega) rfl).symm
  | [s0, s1, s2, s3, s4, s5, s6], _ => by
    simp [decodedLen, decQuantum_7, decQuantum_8, padCheck, o1, o2, o3, o4]
    exact (shl_eq_zero_iff s6 7 5 (by omega) rfl).symm

/-- the symbol `padCheck` objects to is the last one. -/
theorem padCheck_some (s : List UInt8) (o : Nat) (h : padCheck s = some o) : o + 1 = s.length := by
  unfold padCheck at h
  simp only at h
  repeat' split at h
  all_goals simp only [Option.some.injEq, reduceCtorEq] at h
  all_goals omega

theorem encQuantum_lt (t : List UInt8) (h1 : 1 ≤ t.length) (h5 : t.length ≤ 5) :
    ∀ s ∈ encQuantum t, s.toNat < 32 := fun s hs =>
  encQuantum_lt_5 _ (by simp; omega) s
    ((encQuantum_pad t h1 h5).1 ▸ List.mem_append_left _ hs)

theorem dec_enc_short (t : List UInt8) (h1 : 1 ≤ t.length) (h4 : t.length ≤ 4) :
    padCheck (encQuantum t) = none ∧ decQuantum (encQuantum t) = t := by
  obtain ⟨hA, hL⟩ := encQuantum_pad t h1 (by omega)
  obtain ⟨_, hB, hP⟩ := decQuantum_pad (encQuantum t) (by rw [hL]; unfold encodedLen; omega)
  have hm : decodedLen (encodedLen t.length) = t.length := by unfold decodedLen encodedLen; omega
  rw [hL, ← hA, dec_enc_5 (t ++ List.replicate (5 - t.length) 0) (by simp; omega), hm] at hB hP
  rw [List.take_left' rfl] at hB
  exact ⟨hP.mpr (by rw [hB]), hB⟩

theorem enc_dec_short (s : List UInt8) (hk : s.length = 2 ∨ s.length = 4 ∨ s.length = 5 ∨ s.length = 7)
    (hlt : ∀ x ∈ s, x.toNat < 32) (hp : padCheck s = none) : encQuantum (decQuantum s) = s := by
  obtain ⟨hl, _, hP⟩ := decQuantum_pad s hk
  have hm : 1 ≤ decodedLen s.length ∧ decodedLen s.length ≤ 4 ∧ encodedLen (decodedLen s.length) = s.length := by
    unfold decodedLen encodedLen; omega
  have hA := (encQuantum_pad (decQuantum s) (by omega) (by omega)).1
  rw [hl, ← hP.mp hp, hm.2.2, enc_dec_8 _ (by simp; omega)] at hA
  · exact (List.append_cancel_right hA).symm
  · intro x hx
    rcases List.mem_append.mp hx with h | h
    · exact hlt x h
    · rw [List.eq_of_mem_replicate h]; decide

/-! ### the quantum loops -/

theorem b32Encode_5 (b0 b1 b2 b3 b4 : UInt8) (rest : List UInt8) :
    b32Encode (b0 :: b1 :: b2 :: b3 :: b4 :: rest) = encQuantum [b0, b1, b2, b3, b4] ++ b32Encode rest := by
  rw [b32Encode]

theorem decodeAux_8 (read : Nat) (s0 s1 s2 s3 s4 s5 s6 s7 : UInt8) (rest : List UInt8) :
    b32DecodeAux read (s0 :: s1 :: s2 :: s3 :: s4 :: s5 :: s6 :: s7 :: rest) =
      match b32DecodeAux (read + 8) rest with
      | .ok bs => .ok (decQuantum [s0, s1, s2, s3, s4, s5, s6, s7] ++ bs)
      | .error e => .error e := by
  rw [b32DecodeAux]
  cases b32DecodeAux (read + 8) rest <;> rfl

theorem length_lt_5 {α : Type} : ∀ l : List α, (∀ a b c d e r, l = a :: b :: c :: d :: e :: r → False) →
    l.length < 5
  | [], _ | [_], _ | [_, _], _ | [_, _, _], _ | [_, _, _, _], _ => by simp
  | a :: b :: c :: d :: e :: r, h => (h a b c d e r rfl).elim

theorem length_lt_8 {α : Type} : ∀ l : List α,
    (∀ a b c d e f g h r, l = a :: b :: c :: d :: e :: f :: g :: h :: r → False) → l.length < 8
  | [], _ | [_], _ | [_, _], _ | [_, _, _], _ | [_, _, _, _], _ | [_, _, _, _, _], _
  | [_, _, _, _, _, _], _ | [_, _, _, _, _, _, _], _ => by simp
  | a :: b :: c :: d :: e :: f :: g :: h :: r, h' => (h' a b c d e f g h r rfl).elim

theorem decode_encode_aux (bs : List UInt8) : ∀ read, b32DecodeAux read (b32Encode bs) = .ok bs := by
  fun_induction b32Encode bs with
  | case1 => intro read; simp [b32DecodeAux]
  | case2 b0 b1 b2 b3 b4 rest ih =>
    intro read
    rw [encQuantum_5]
    simp only [List.cons_append, List.nil_append]
    rw [decodeAux_8, ih, ← encQuantum_5, dec_enc_5 _ rfl]
    rfl
  | case3 tail hne h5 =>
    intro read
    have h1 := List.length_pos_iff.mpr hne
    have h4 := length_lt_5 tail h5
    obtain ⟨hp, hd⟩ := dec_enc_short tail h1 (by omega)
    have hL := (encQuantum_pad tail h1 (by omega)).2
    have hk : (encQuantum tail).length = 2 ∨ (encQuantum tail).length = 4 ∨ (encQuantum tail).length = 5 ∨
        (encQuantum tail).length = 7 := by rw [hL]; unfold encodedLen; omega
    rw [b32DecodeAux.eq_3 _ _ (by intro h; rw [h] at hk; simp at hk)
      (by intro _ _ _ _ _ _ _ _ _ h; rw [h] at hk; simp at hk), if_neg (by omega), hp, hd]

/-- `base32.Decode` inverts `base32.Encode`. -/
theorem b32_decode_encode (bs : List UInt8) : b32Decode (b32Encode bs) = .ok bs :=
  decode_encode_aux bs 0

/-! ### every accepted symbol string is an encoding -/

theorem encode_of_decode_aux (syms : List UInt8) : ∀ (read : Nat) (bs : List UInt8),
    (∀ s ∈ syms, s.toNat < 32) → b32DecodeAux read syms = .ok bs → syms = b32Encode bs := by
  intro read
  fun_induction b32DecodeAux read syms with
  | case1 read =>
    intro bs _ h
    simp only [Except.ok.injEq] at h
    rw [← h]; simp [b32Encode]
  | case2 read s0 s1 s2 s3 s4 s5 s6 s7 rest bs' hrec ih =>
    intro bs hlt h
    simp only [Except.ok.injEq] at h
    have hq := enc_dec_8 [s0, s1, s2, s3, s4, s5, s6, s7] rfl (fun s hs => hlt s (List.mem_append_left rest hs))
    have hr := ih bs' (fun s hs => hlt s (by simp [hs])) hrec
    rw [decQuantum_8] at h
    simp only [List.cons_append, List.nil_append] at h
    rw [← h, b32Encode_5, ← decQuantum_8, hq, ← hr]
    rfl
  | case3 read s0 s1 s2 s3 s4 s5 s6 s7 rest e hrec ih =>
    intro bs _ h; simp at h
  | case4 read tail hne h8 hlen =>
    intro bs _ h; simp at h
  | case5 read tail hne h8 hlen off hpad =>
    intro bs _ h; simp at h
  | case6 read tail hne h8 hlen hpad =>
    intro bs hlt h
    simp only [Except.ok.injEq] at h
    have h1 := List.length_pos_iff.mpr hne
    have h7 := length_lt_8 tail h8
    have hk : tail.length = 2 ∨ tail.length = 4 ∨ tail.length = 5 ∨ tail.length = 7 := by omega
    have hl := (decQuantum_pad tail hk).1
    have hm : 1 ≤ decodedLen tail.length ∧ decodedLen tail.length ≤ 4 := by unfold decodedLen; omega
    rw [← h, b32Encode.eq_3 _ (by intro e; rw [e] at hl; simp at hl; omega)
      (by intro _ _ _ _ _ _ e; rw [e] at hl; simp at hl; omega), enc_dec_short tail hk hlt hpad]

/-- `base32.Decode` accepts a symbol string only if it is the encoding of its result. -/
theorem b32_encode_of_decode (syms bs : List UInt8) (hlt : ∀ s ∈ syms, s.toNat < 32)
    (h : b32Decode syms = .ok bs) : syms = b32Encode bs :=
  encode_of_decode_aux syms 0 bs hlt h

/-! ### shape of the encoding -/

theorem b32Encode_lt (bs : List UInt8) : ∀ s ∈ b32Encode bs, s.toNat < 32 := by
  fun_induction b32Encode bs with
  | case1 => intro s hs; simp at hs
  | case2 b0 b1 b2 b3 b4 rest ih =>
    intro s hs
    rcases List.mem_append.mp hs with h | h
    · exact encQuantum_lt_5 _ rfl s h
    · exact ih s h
  | case3 tail hne h5 =>
    exact encQuantum_lt tail (List.length_pos_iff.mpr hne) (by have := length_lt_5 tail h5; omega)

theorem b32Encode_length (bs : List UInt8) : (b32Encode bs).length = encodedLen bs.length := by
  fun_induction b32Encode bs with
  | case1 => rfl
  | case2 b0 b1 b2 b3 b4 rest ih =>
    rw [List.length_append, ih, encQuantum_5]
    simp [encodedLen]; omega
  | case3 tail hne h5 =>
    exact (encQuantum_pad tail (List.length_pos_iff.mpr hne) (by have := length_lt_5 tail h5; omega)).2

end Iota.Proofs.Base32
