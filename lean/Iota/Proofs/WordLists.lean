/-
The committed official BIP-39 lists have 2048 pairwise distinct words each.
Distinctness is checked inside the kernel on numeric keys (distinct keys mean distinct words, whatever the
key function): the Japanese keys are split on one bit after the other, and only keys that agree on all the
bits used are compared with each other; the English list is sorted, so each key is compared with the next.
-/
import Iota.Spec.Bip39Words

namespace Iota.Proofs.WordLists
open Iota.Spec.Bip39Words

def key (w : List UInt8) : Nat := w.foldl (fun acc b => acc * 257 + (b.toNat + 1)) 0

theorem key_snoc (w : List UInt8) (b : UInt8) : key (w ++ [b]) = key w * 257 + (b.toNat + 1) := by
  simp [key, List.foldl_append]

theorem revInd {α} {motive : List α → Prop} (l : List α) (nil : motive [])
    (snoc : ∀ l a, motive l → motive (l ++ [a])) : motive l := by
  have : ∀ r : List α, motive r.reverse := by
    intro r
    induction r with
    | nil => exact nil
    | cons a r ih => rw [List.reverse_cons]; exact snoc _ _ ih
  have h := this l.reverse
  rwa [List.reverse_reverse] at h

theorem key_inj (a : List UInt8) : ∀ b, key a = key b → a = b := by
  induction a using revInd with
  | nil =>
    intro b
    induction b using revInd with
    | nil => intro _; rfl
    | snoc ys y _ => intro h; rw [key_snoc] at h; simp [key] at h
  | snoc xs x ih =>
    intro b
    induction b using revInd with
    | nil => intro h; rw [key_snoc] at h; simp [key] at h
    | snoc ys y _ =>
      intro h
      rw [key_snoc, key_snoc] at h
      have hx := x.toNat_lt; have hy := y.toNat_lt
      have h1 : x.toNat = y.toNat := by omega
      have h2 : key xs = key ys := by omega
      rw [ih ys h2, UInt8.toNat_inj.mp h1]

def notIn (x : Nat) : List Nat → Bool
  | [] => true
  | y :: ys => if x == y then false else notIn x ys

def allDistinct : List Nat → Bool
  | [] => true
  | x :: xs => notIn x xs && allDistinct xs

theorem notIn_iff (x : Nat) (l : List Nat) : notIn x l = true ↔ x ∉ l := by
  induction l with
  | nil => simp [notIn]
  | cons y ys ih =>
    simp only [notIn, List.mem_cons, not_or]
    by_cases h : x = y
    · simp [h]
    · simp [h, ih]

theorem nodup_of_allDistinct (l : List Nat) (h : allDistinct l = true) : l.Nodup := by
  induction l with
  | nil => exact List.nodup_nil
  | cons x xs ih =>
    simp only [allDistinct, Bool.and_eq_true] at h
    exact List.nodup_cons.mpr ⟨(notIn_iff x xs).mp h.1, ih h.2⟩

/-! The kernel evaluates by name: a list handed on as `l.filter p` would be filtered again at every
use. The functions below pass each intermediate value to a continuation only once it is evaluated. -/

def force {α : Sort _} (x : Nat) (k : Nat → α) : α :=
  match x with
  | 0 => k 0
  | n + 1 => k (n + 1)

theorem force_eq {α : Sort _} (x : Nat) (k : Nat → α) : force x k = k x := by
  cases x <;> rfl

/-- `k (ws.map f)` -/
def keysK {α : Sort _} (f : List UInt8 → Nat) : List (List UInt8) → (List Nat → α) → α
  | [], k => k []
  | w :: ws, k => force (f w) fun x => keysK f ws fun xs => k (x :: xs)

theorem keysK_eq {α : Sort _} (f : List UInt8 → Nat) (ws : List (List UInt8)) (k : List Nat → α) :
    keysK f ws k = k (ws.map f) := by
  induction ws generalizing k with
  | nil => rfl
  | cons w ws ih => rw [keysK, force_eq, ih]; rfl

/-- distinct keys, whatever the key function and the check `c`, mean distinct words. -/
theorem nodup_of_keys (f : List UInt8 → Nat) (c : List Nat → Bool) (hc : ∀ l, c l = true → l.Nodup)
    (ws : List (List UInt8)) (h : keysK f ws c = true) : ws.Nodup := by
  rw [keysK_eq] at h
  exact List.Pairwise.of_map f (fun a b h hab => h (congrArg f hab)) (hc _ h)

/-- `key` of the word padded to eight letters: it grows with the bytewise order of the words. -/
def padKey (w : List UInt8) : Nat := key w * 257 ^ (8 - w.length)

def increasing : List Nat → Bool
  | x :: y :: l => Nat.blt x y && increasing (y :: l)
  | _ => true

theorem pairwise_of_increasing : ∀ l : List Nat, increasing l = true → l.Pairwise (· < ·)
  | [], _ => .nil
  | [_], _ => List.pairwise_singleton ..
  | x :: y :: l, h => by
    rw [increasing, Bool.and_eq_true, Nat.blt_eq] at h
    have ih := pairwise_of_increasing (y :: l) h.2
    refine List.pairwise_cons.mpr ⟨fun a ha => ?_, ih⟩
    rcases List.mem_cons.mp ha with rfl | ha
    · exact h.1
    · exact Nat.lt_trans h.1 (List.rel_of_pairwise_cons ih ha)

/-- `k (l.filter p) (l.filter (!p ·))` -/
def partK (p : Nat → Bool) : List Nat → (List Nat → List Nat → Bool) → Bool
  | [], k => k [] []
  | x :: xs, k => partK p xs fun a b => bif p x then k (x :: a) b else k a (x :: b)

theorem partK_eq (p : Nat → Bool) (l : List Nat) (k : List Nat → List Nat → Bool) :
    partK p l k = k (l.filter p) (l.filter fun x => !p x) := by
  induction l generalizing k with
  | nil => rfl
  | cons x xs ih => rw [partK, ih]; cases h : p x <;> simp [h]

/-- a list is duplicate-free if its two parts under a predicate are: elements of different parts differ. -/
theorem nodup_of_parts (p : Nat → Bool) (l : List Nat) (h1 : (l.filter p).Nodup)
    (h2 : (l.filter fun x => !p x).Nodup) : l.Nodup := by
  induction l with
  | nil => exact List.nodup_nil
  | cons x xs ih =>
    cases h : p x
    · simp only [List.filter_cons, h, Bool.not_false, if_true, Bool.false_eq_true, if_false] at h1 h2
      rw [List.nodup_cons] at h2 ⊢
      exact ⟨fun hm => h2.1 (List.mem_filter.mpr ⟨hm, by simp [h]⟩), ih h1 h2.2⟩
    · simp only [List.filter_cons, h, Bool.not_true, if_true, Bool.false_eq_true, if_false] at h1 h2
      rw [List.nodup_cons] at h1 ⊢
      exact ⟨fun hm => h1.1 (List.mem_filter.mpr ⟨hm, h⟩), ih h1.2 h2⟩

/-- split on the bits `d-1 … 0`, then compare within the parts. -/
def distinctBy : Nat → List Nat → Bool
  | 0, l => allDistinct l
  | d + 1, l => partK (fun x => x.testBit d) l fun a b => distinctBy d a && distinctBy d b

theorem nodup_of_distinctBy (d : Nat) (l : List Nat) (h : distinctBy d l = true) : l.Nodup := by
  induction d generalizing l with
  | zero => exact nodup_of_allDistinct l h
  | succ d ih =>
    rw [distinctBy, partK_eq, Bool.and_eq_true] at h
    exact nodup_of_parts _ l (ih _ h.1) (ih _ h.2)

theorem english_length : english.length = 2048 := by decide +kernel
theorem japanese_length : japanese.length = 2048 := by decide +kernel
/-- the English list is sorted, so one pass over neighbours suffices. -/
theorem english_nodup : english.Nodup :=
  nodup_of_keys padKey increasing (fun _ h => (pairwise_of_increasing _ h).imp Nat.ne_of_lt) english
    (by decide +kernel)
theorem japanese_nodup : japanese.Nodup :=
  nodup_of_keys key (distinctBy 11) (nodup_of_distinctBy 11) japanese (by decide +kernel)

end Iota.Proofs.WordLists
