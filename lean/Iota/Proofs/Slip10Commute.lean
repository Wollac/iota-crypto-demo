/-
C08 at the level of the API: for an extended private key on a Weierstrass curve and a non-hardened index,
`DeriveChild` followed by `Public` and `Public` followed by `DeriveChild` return the same thing — the same
error after the same number of retries, or the same key, chain code and fingerprint.

One field differs by construction and is not observable: Go's `ExtendedKey.Public` copies the unexported
`parent` as it is (the parent's PRIVATE key), while `DeriveChild` on the public parent remembers the parent's
PUBLIC key.  `parent` is read by `Fingerprint` only, and only through `parent.Public().Bytes()`, so the
statement is made with `parent` made public on the left (`pubView`), and separately on everything
observable (`observe`: key, key bytes, chain code, fingerprint).

Last section: the instance for secp256k1 with no group hypothesis (`deriveChild_public_commutes_secp256k1`), the
curve being `secpW'` = `secpW` with the SEC1 compressed encoding as `serP`, lawful by Proofs/Secp/Slip10Instance.
-/
import Iota.Proofs.Slip10
import Iota.Proofs.Slip10Shift
import Iota.Proofs.Slip10Spec
import Iota.Proofs.Secp.Slip10Instance

namespace Iota.Proofs.Slip10Commute
open Iota.Slip10 Iota.Proofs.Slip10Shift

/-- `ExtendedKey.Public` with the remembered parent key made public as well. -/
def pubView {κ : Type} (c : Curve κ) (e : ExtKey κ) : ExtKey κ :=
  { chainCode := e.chainCode, key := c.pub e.key, parent := e.parent.map c.pub }

/-- everything the API shows of an extended key: `Key`, `Key.Bytes()`, `ChainCode`, `Fingerprint()`. -/
def observe {κ : Type} (c : Curve κ) (hash160 : Bytes → Bytes) (e : ExtKey κ) : κ × Bytes × Bytes × Bytes :=
  (e.key, c.bytes e.key, e.chainCode, fingerprint c hash160 e)

/-- `pubView` and `ExtendedKey.Public` show the same, when `Public` of a public key is itself. -/
theorem observe_pubView {κ : Type} (c : Curve κ) (hpp : ∀ k, c.pub (c.pub k) = c.pub k)
    (hash160 : Bytes → Bytes) (e : ExtKey κ) :
    observe c hash160 (pubView c e) = observe c hash160 (ExtKey.public c e) := by
  cases e with
  | mk cc key parent =>
    cases parent with
    | none => rfl
    | some p => simp [observe, pubView, ExtKey.public, fingerprint, hpp]

theorem wCurve_pub_pub {Pt : Type} (w : WCurve Pt) (hk : Bytes) (k : WKey Pt) :
    (wCurve w hk).pub ((wCurve w hk).pub k) = (wCurve w hk).pub k := by
  cases k <;> rfl

section
variable {Pt : Type} [AddCommGroup Pt] (hmac : Bytes → Bytes → Bytes)

/-- the two `step2` loops run in lock-step from the same candidate: both reject it (and continue with the same
next candidate), or both accept it with matching keys. -/
theorem childLoop_public_commutes (w : WCurve Pt) (g : Pt) (hw : LawfulW w g) (hk : Bytes) (cpar : Bytes)
    (k : Nat) (hkb : k < 256 ^ 40) (hn : w.n < 256 ^ 40) (par par' : Option (WKey Pt)) (i fuel : Nat)
    (I : Bytes) :
    (childLoop hmac (wCurve w hk) { chainCode := cpar, key := .priv k, parent := par } i fuel I).map
        (pubView (wCurve w hk)) =
      childLoop hmac (wCurve w hk)
        { chainCode := cpar, key := (wCurve w hk).pub (.priv k), parent := par' } i fuel I := by
  induction fuel generalizing I with
  | zero => rfl
  | succ fuel ih =>
    simp only [childLoop, shift_pub_priv w g hw hk k hkb hn]
    cases (wCurve w hk).shift (.priv k) (I.take 32) with
    | ok k' => rfl
    | error x =>
      cases x with
      | invalidKey => exact ih _
      | other x => rfl

/-- **C08, API level**: for an extended private key `e` (any `k` that fits `Public`'s 40-byte buffer, in particular
`k < n`) and a non-hardened index `i`,
and for every fuel, `DeriveChild(i)` then `Public` equals `Public` then `DeriveChild(i)` as `Except` values:
the same error (in particular `.outOfFuel` for the same fuel, i.e. the same number of retries), or the same
key and chain code, with the parent's public key remembered. -/
theorem deriveChild_public_commutes (w : WCurve Pt) (g : Pt) (hw : LawfulW w g) (hk : Bytes)
    (e : ExtKey (WKey Pt)) (k : Nat) (hek : e.key = .priv k) (hkb : k < 256 ^ 40)
    (hn : w.n < 256 ^ 40) (i : Nat) (hi : i < hardened) (fuel : Nat) :
    (deriveChild hmac (wCurve w hk) fuel e i).map (pubView (wCurve w hk)) =
      deriveChild hmac (wCurve w hk) fuel (ExtKey.public (wCurve w hk) e) i := by
  cases e with
  | mk cc key parent =>
    simp only at hek
    subst hek
    rw [Iota.Proofs.Slip10.deriveChild_normal hmac _ fuel _ i hi rfl,
      Iota.Proofs.Slip10.deriveChild_normal hmac _ fuel _ i hi rfl]
    exact childLoop_public_commutes hmac w g hw hk cc k hkb hn parent parent i fuel _

/-- … hence everything observable agrees: key, key bytes (`serP`), chain code and fingerprint of
`Public(DeriveChild(e, i))` and of `DeriveChild(Public(e), i)`; and the errors. -/
theorem deriveChild_public_commutes_observable (w : WCurve Pt) (g : Pt) (hw : LawfulW w g) (hk : Bytes)
    (hash160 : Bytes → Bytes) (e : ExtKey (WKey Pt)) (k : Nat) (hek : e.key = .priv k) (hkb : k < 256 ^ 40)
    (hn : w.n < 256 ^ 40) (i : Nat) (hi : i < hardened) (fuel : Nat) :
    (deriveChild hmac (wCurve w hk) fuel e i).map
        (fun a => observe (wCurve w hk) hash160 (ExtKey.public (wCurve w hk) a)) =
      (deriveChild hmac (wCurve w hk) fuel (ExtKey.public (wCurve w hk) e) i).map
        (observe (wCurve w hk) hash160) := by
  rw [← deriveChild_public_commutes hmac w g hw hk e k hek hkb hn i hi fuel]
  cases deriveChild hmac (wCurve w hk) fuel e i with
  | error x => rfl
  | ok a =>
    show Except.ok _ = Except.ok _
    rw [observe_pubView _ (wCurve_pub_pub w hk)]

theorem deriveChild_public_error_iff (w : WCurve Pt) (g : Pt) (hw : LawfulW w g) (hk : Bytes)
    (e : ExtKey (WKey Pt)) (k : Nat) (hek : e.key = .priv k) (hk0 : 0 < k) (hkn : k < w.n)
    (hn : w.n < 256 ^ 40) (i : Nat) (hi : i < hardened) (fuel : Nat) (x : Err) :
    deriveChild hmac (wCurve w hk) fuel e i = .error x ↔
      deriveChild hmac (wCurve w hk) fuel (ExtKey.public (wCurve w hk) e) i = .error x := by
  rw [← deriveChild_public_commutes hmac w g hw hk e k hek (hkn.trans hn) hn i hi fuel]
  cases deriveChild hmac (wCurve w hk) fuel e i with
  | error y => exact Iff.rfl
  | ok a => exact ⟨fun h => (by cases h), fun h => (by cases h)⟩

/-- both succeed together, with the same key, chain code, key bytes and fingerprint. -/
theorem deriveChild_public_ok (w : WCurve Pt) (g : Pt) (hw : LawfulW w g) (hk : Bytes)
    (hash160 : Bytes → Bytes) (e : ExtKey (WKey Pt)) (k : Nat) (hek : e.key = .priv k) (hk0 : 0 < k)
    (hkn : k < w.n) (hn : w.n < 256 ^ 40) (i : Nat) (hi : i < hardened) (fuel : Nat) (a : ExtKey (WKey Pt))
    (ha : deriveChild hmac (wCurve w hk) fuel e i = .ok a) :
    ∃ b, deriveChild hmac (wCurve w hk) fuel (ExtKey.public (wCurve w hk) e) i = .ok b ∧
      b.key = (ExtKey.public (wCurve w hk) a).key ∧
      b.chainCode = (ExtKey.public (wCurve w hk) a).chainCode ∧
      (wCurve w hk).bytes b.key = (wCurve w hk).bytes (ExtKey.public (wCurve w hk) a).key ∧
      fingerprint (wCurve w hk) hash160 b =
        fingerprint (wCurve w hk) hash160 (ExtKey.public (wCurve w hk) a) := by
  have h := deriveChild_public_commutes hmac w g hw hk e k hek (hkn.trans hn) hn i hi fuel
  rw [ha] at h
  refine ⟨pubView (wCurve w hk) a, h.symm, rfl, rfl, rfl, ?_⟩
  have := observe_pubView (wCurve w hk) (wCurve_pub_pub w hk) hash160 a
  exact congrArg (fun t => t.2.2.2) this

end

/-! ### secp256k1 with its real `serP`, no group hypothesis -/

section secp
open Iota.Proofs.Secp Iota.Secp256k1

/-- `elliptic.MarshalCompressed` on a coordinate pair: `byte(y.Bit(0)) | 2`, then `x.FillBytes` into 32 bytes.
(Go 1.23: `panicIfNotOnCurve` lets `(0, 0)` — the point at infinity — pass, so that pair is encoded like any
other: `0x02` followed by 32 zero bytes.) -/
def sec1 (xy : Int × Int) : Bytes := (if xy.2 % 2 = 1 then 3 else 2) :: fill32 xy.1.toNat

/-- `secpW` with `compress` = SEC1 compressed encoding of the canonical coordinates. -/
noncomputable def secpW' : WCurve Curve.Point :=
  { secpW with compress := fun p => sec1 (ofPoint p) }

theorem secpW'_lawful : LawfulW secpW' (G Fp) where
  add_eq := secpW_lawful.add_eq
  baseMul_eq := secpW_lawful.baseMul_eq
  inf_iff := secpW_lawful.inf_iff
  order := secpW_lawful.order
  n_pos := secpW_lawful.n_pos

theorem sec1_length (xy : Int × Int) : (sec1 xy).length = 33 := by
  simp [sec1, fill32]

theorem secpW'_compress_length (p : Curve.Point) : (secpW'.compress p).length = 33 := sec1_length _

/-- the encoding of a finite point: parity byte, then the big-endian x coordinate. -/
theorem secpW'_compress_some (x y : Fp) (h : Curve.Nonsingular x y) :
    secpW'.compress (.some x y h) =
      (if (y.val : Int) % 2 = 1 then 3 else 2) :: fill32 x.val := rfl

/-- … which is SLIP-0010's `serP` of the coordinates. -/
theorem secpW'_compress_eq_spec (x y : Fp) (h : Curve.Nonsingular x y) :
    secpW'.compress (.some x y h) = Spec.Slip10.serPxy x.val y.val := by
  rw [secpW'_compress_some, Spec.Slip10.serPxy, Slip10Spec.ser256_eq]
  congr 1
  by_cases hy : y.val % 2 = 0
  · have : ¬ ((y.val : Int) % 2 = 1) := by omega
    simp only [hy, this, if_true, if_false]
  · have : (y.val : Int) % 2 = 1 := by omega
    simp only [hy, this, if_true, if_false]

/-- what `PublicKey.Bytes` would give for the point at infinity `(0, 0)`. -/
theorem secpW'_compress_zero : secpW'.compress 0 = 2 :: List.replicate 32 0 := by
  show sec1 (ofPoint 0) = _
  rw [ofPoint_zero]
  decide

/-- **C08 for secp256k1, API level, no assumption on the group**: the curve operations run the model of
pkg/slip10/elliptic/internal/btccurve, key bytes are SEC1-compressed. -/
theorem deriveChild_public_commutes_secp256k1 (hmac : Bytes → Bytes → Bytes) (hk : Bytes)
    (e : ExtKey (WKey Curve.Point)) (k : Nat) (hek : e.key = .priv k) (hk0 : 0 < k) (hkn : k < N.toNat)
    (i : Nat) (hi : i < hardened) (fuel : Nat) :
    (deriveChild hmac (wCurve secpW' hk) fuel e i).map (pubView (wCurve secpW' hk)) =
      deriveChild hmac (wCurve secpW' hk) fuel (ExtKey.public (wCurve secpW' hk) e) i :=
  deriveChild_public_commutes hmac secpW' (G Fp) secpW'_lawful hk e k hek (hkn.trans secpW_n_lt) secpW_n_lt i hi fuel

end secp

end Iota.Proofs.Slip10Commute
