/-
C17: `pkg/slip10/btccurve/secp256k1.go` (model `Iota.Secp256k1`) computes in the group of
secp256k1.  The one assumption is that `P` is prime, as `[Fact (Nat.Prime P.toNat)]`; `Fp = ZMod P`,
`E : y² = x³ + 7` over `Fp`, and `E.Point` is Mathlib's `WeierstrassCurve.Affine.Point` with its
`AddCommGroup` structure.

* the formulas `dblF` / `addF` / `addGen` over any commutative ring, which S1 and S2 are stated against – `Iota/Proofs/Secp/Formulas.lean`
* S0 `modInverse` – `Iota/Proofs/Secp/ModInv.lean`
* S1 cast layer  – `Iota/Proofs/Secp/Cast.lean` (any field of characteristic `P`)
* S2 Jacobian formulas vs. the group law – `Iota/Proofs/Secp/Jacobian.lean` (any field, `2 ≠ 0`)
* S3 the API – `Iota/Proofs/Secp/Api.lean` (any field of characteristic `P`); `toPoint` below is its `toPoint?` at `Fp`.
* on top of this file: `addOrderOf G = N` – `Iota/Proofs/Secp/Order.lean`; C08's group hypothesis for secp256k1 – `Iota/Proofs/Secp/Slip10Instance.lean`
-/
import Iota.Proofs.Secp.ModInv
import Iota.Proofs.Secp.Formulas
import Iota.Proofs.Secp.Cast
import Iota.Proofs.Secp.Jacobian
import Iota.Proofs.Secp.Api
import Mathlib.Algebra.Field.ZMod
import Mathlib.Data.ZMod.Basic

namespace Iota.Proofs.Secp
open Iota.Secp256k1 WeierstrassCurve.Affine

/-- the prime field of secp256k1 -/
abbrev Fp : Type := ZMod P.toNat

variable [Fact (Nat.Prime P.toNat)]

/-- secp256k1 over `Fp` -/
noncomputable abbrev Curve : WeierstrassCurve.Affine Fp := E Fp

/-- the point denoted by a pair of the model (`none` when not representable) -/
noncomputable abbrev toPoint (xy : Int × Int) : Option Curve.Point := toPoint? Fp xy

/-- the identity is returned as `(0,0)` and only so -/
theorem toPoint_eq_zero_iff (x y : Int) : toPoint (x, y) = some 0 ↔ x = 0 ∧ y = 0 := by
  rw [toPoint, toPoint?_eq_some_iff]; exact AffRep.zero_iff

/-- `toPoint` is injective on its domain: results of the API are determined by the group element -/
theorem toPoint_inj {x y x' y' : Int} {Q : Curve.Point} (h : toPoint (x, y) = some Q)
    (h' : toPoint (x', y') = some Q) : x = x' ∧ y = y' := by
  rw [toPoint, toPoint?_eq_some_iff] at h h'; exact AffRep.inj h h'

theorem isOnCurve_iff_mem (x y : Int) : isOnCurve x y = true ↔ Curve.Equation (x : Fp) (y : Fp) :=
  isOnCurve_iff_equation x y

omit [Fact (Nat.Prime P.toNat)] in
theorem isOnCurve_zero : isOnCurve 0 0 = false := not_isOnCurve_zero

theorem toPoint_G : toPoint (Gx, Gy) = some (G Fp) := toPoint?_G

end Iota.Proofs.Secp

