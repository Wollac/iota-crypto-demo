/- Main theorems about the Bech32 model: Decode ↔ Valid, re-encoding, offsets, Encode. -/
import Iota.Proofs.Bech32Strings
import Iota.Proofs.Base32Spec

namespace Iota.Proofs.Bech32
open Iota.Bech32 Iota.Proofs Iota.Spec.Bip173 Iota.Proofs.Base32

/-- everything `Decode` checks on the way to success, as one proposition. -/
structure Guards (s : Str) (n : Nat) (syms : List UInt8) (data : List UInt8) : Prop where
  g1 : s.length ≤ maxStringLength
  g2 : lastIndexSep s = some n
  g3 : 1 ≤ n ∧ n + checksumLength ≤ s.length
  g4 : ∀ c ∈ s.take n, isValidHRPChar c = true
  g5 : ∀ c ∈ s.drop (n + 1), c.toNat < 128
  g6 : validateCase s = none
  g7 : charsetDecode ((lower s).drop (n + 1)) = .ok syms
  g8 : checksumLength ≤ syms.length ∧ verifyChecksum ((lower s).take n) syms = true
  g9 : b32Decode (syms.take (syms.length - checksumLength)) = .ok data

/-- what the result of `Decode` satisfies: on success all the guards, on failure an offset (if any)
inside the input. -/
def DecodePost (s : Str) : Except Err (Str × List UInt8) → Prop
  | .ok (hrp, data) => ∃ n syms, Guards s n syms data ∧ hrp = (lower s).take n
  | .error (_, some off) => off < s.length
  | .error (_, none) => True

theorem b32DecodeAux_err_off (syms : List UInt8) : ∀ (read : Nat) (k : B32Err) (off : Nat),
    b32DecodeAux read syms = .error (k, off) → read ≤ off ∧ off < read + syms.length := by
  intro read
  fun_induction b32DecodeAux read syms with
  | case1 read => intro k off h; simp at h
  | case2 read s0 s1 s2 s3 s4 s5 s6 s7 rest bs hrec ih => intro k off h; simp at h
  | case3 read s0 s1 s2 s3 s4 s5 s6 s7 rest e hrec ih =>
    intro k off h
    simp only [Except.error.injEq] at h
    subst h
    have := ih k off hrec
    simp only [List.length_cons]; omega
  | case4 read tail hne h8 hlen =>
    intro k off h
    simp only [Except.error.injEq, Prod.mk.injEq] at h
    have := List.length_pos_iff.mpr hne
    omega
  | case5 read tail hne h8 hlen o hpad =>
    intro k off h
    simp only [Except.error.injEq, Prod.mk.injEq] at h
    have ho := padCheck_some tail o hpad
    omega
  | case6 read tail hne h8 hlen hpad => intro k off h; simp at h

theorem charsetEncode_length (syms : List UInt8) : (charsetEncode syms).length = syms.length := by
  simp [charsetEncode]

theorem decode_post (s : Str) : DecodePost s (decode s) := by
  unfold decode
  split
  · rename_i h1; exact h1
  · rename_i h1
    split
    · trivial
    · rename_i n h2
      have hn : n < s.length := (lastIndexSep_some s n h2).1
      split
      · exact hn
      · rename_i h3
        split
        · rename_i i hi
          have := findIdx_some_lt _ _ _ hi
          rw [List.length_take] at this
          show i < s.length
          omega
        · rename_i h4
          split
          · rename_i i hi
            have := findIdx_some_lt _ _ _ hi
            rw [List.length_drop] at this
            show n + 1 + i < s.length
            omega
          · rename_i h5
            split
            · rename_i o ho; exact validateCase_some_lt s o ho
            · rename_i h6
              simp only
              split
              · rename_i m hm
                have := charsetDecode_err _ m hm
                rw [List.length_drop, lower_length] at this
                show n + 1 + m < s.length
                omega
              · rename_i syms h7
                have hsl : syms.length = s.length - (n + 1) := by
                  have h2 := congrArg List.length (charsetDecode_ok _ syms h7).1
                  rw [List.length_drop, lower_length, charsetEncode_length] at h2
                  omega
                split
                · show s.length - checksumLength < s.length
                  unfold checksumLength; omega
                · rename_i h8
                  have hoff : ∀ k o, b32Decode (syms.take (syms.length - checksumLength)) = .error (k, o) →
                      n + 1 + o < s.length := by
                    intro k o ho
                    have := b32DecodeAux_err_off _ 0 k o ho
                    rw [List.length_take] at this
                    omega
                  split
                  · rename_i o ho; exact hoff _ o ho
                  · rename_i o ho; exact hoff _ o ho
                  · rename_i dst h9
                    refine ⟨n, syms, ⟨by omega, h2, by omega, ?_, ?_, h6, h7, ?_, h9⟩, rfl⟩
                    · intro c hc
                      simpa using (findIdx_none_iff _ _).mp h4 c hc
                    · intro c hc
                      simpa using (findIdx_none_iff _ _).mp h5 c hc
                    · simp only [not_or, Nat.not_lt, Bool.not_eq_true', Bool.not_eq_false] at h8
                      exact ⟨h8.1, by simpa using h8.2⟩

theorem decode_ok_iff_guards (s hrp : Str) (data : List UInt8) :
    decode s = .ok (hrp, data) ↔ ∃ n syms, Guards s n syms data ∧ hrp = (lower s).take n := by
  constructor
  · intro h
    have := decode_post s
    rwa [h] at this
  · rintro ⟨n, syms, g, rfl⟩
    unfold decode
    have h1 : ¬ s.length > maxStringLength := by have := g.g1; omega
    rw [if_neg h1]
    simp only [g.g2]
    have h3 : ¬ (n < 1 ∨ n + checksumLength > s.length) := by have := g.g3; omega
    rw [if_neg h3]
    have h4 : (s.take n).findIdx? (fun c => !isValidHRPChar c) = none := by
      rw [findIdx_none_iff]; intro c hc; simp [g.g4 c hc]
    have h5 : (s.drop (n + 1)).findIdx? (fun c => decide (c.toNat ≥ 128)) = none := by
      rw [findIdx_none_iff]; intro c hc; have := g.g5 c hc; simp; omega
    simp only [h4, h5, g.g6, g.g7]
    have h8 : ¬ (syms.length < checksumLength ∨ (!verifyChecksum ((lower s).take n) syms) = true) := by
      have := g.g8; simp [this.2]; omega
    rw [if_neg h8]
    simp only [g.g9]

/-! ### Decode ↔ Valid -/

theorem charsetEncode_props (syms : List UInt8) (h : ∀ x ∈ syms, x.toNat < 32) :
    ∀ c ∈ charsetEncode syms, c.toNat < 128 ∧ c ≠ separator ∧ isUpperAscii c = false := by
  intro c hc
  simp only [charsetEncode, List.mem_map] at hc
  obtain ⟨x, hx, rfl⟩ := hc
  have := charset_spec x (h x hx)
  exact ⟨this.2.1, this.2.2.1, this.2.2.2⟩

theorem valid_of_guards (s : Str) (n : Nat) (syms data : List UInt8) (g : Guards s n syms data) :
    Valid s ((lower s).take n) data := by
  obtain ⟨hlt, hsplit, hnosep⟩ := lastIndexSep_some s n g.g2
  obtain ⟨hchars, hsyms⟩ := charsetDecode_ok _ syms g.g7
  have hpay : ∀ x ∈ syms.take (syms.length - checksumLength), x.toNat < 32 :=
    fun x hx => hsyms x (List.mem_of_mem_take hx)
  refine ⟨g.g1, (validateCase_none_iff s).mp g.g6, s.take n, s.drop (n + 1), syms, hsplit, hnosep, ?_, ?_,
    hsyms, ?_, g.g8.1, ?_, ?_, ?_⟩
  · intro h0
    have : (s.take n).length = 0 := by rw [h0]; rfl
    rw [List.length_take] at this
    have := g.g3; omega
  · intro c hc; exact (valid_iff_c c).mp (g.g4 c hc)
  · rw [← lower_drop]; exact hchars
  · have := g.g8.2
    unfold verifyChecksum at this
    rw [lower_take] at this
    simpa using this
  · have := b32_encode_of_decode _ _ hpay g.g9
    rw [← b32Encode_eq_to5]; exact this
  · exact lower_take n s

theorem guards_of_valid (s hrp : Str) (data : List UInt8) (v : Valid s hrp data) :
    ∃ n syms, Guards s n syms data ∧ hrp = (lower s).take n := by
  obtain ⟨hlen, hcase, h, d, syms, hs, hnosep, hne, hvalid, hsyms, hd, h6, hpoly, hto5, hhrp⟩ := v
  have hdlen : d.length = syms.length := by
    rw [← lower_length d, hd, charsetEncode_length]
  have htake : s.take h.length = h := by rw [hs]; simp
  have hdrop : s.drop (h.length + 1) = d := by rw [hs]; simp
  have hslen : s.length = h.length + 1 + d.length := by rw [hs]; simp; omega
  have hhpos : 1 ≤ h.length := List.length_pos_iff.mpr hne
  refine ⟨h.length, syms, ⟨hlen, ?_, ?_, ?_, ?_, ?_, ?_, ?_, ?_⟩, ?_⟩
  · rw [hs]; exact lastIndexSep_of_split h d hnosep
  · unfold checksumLength; omega
  · rw [htake]; intro c hc; exact (valid_iff_c c).mpr (hvalid c hc)
  · rw [hdrop]
    intro c hc
    have hmem : toLowerAscii c ∈ lower d := by simp only [lower, List.mem_map]; exact ⟨c, hc, rfl⟩
    rw [hd] at hmem
    have := (charsetEncode_props syms hsyms _ hmem).1
    exact (ascii_lower_c c).mp this
  · exact (validateCase_none_iff s).mpr hcase
  · rw [lower_drop, hdrop, hd]; exact charsetDecode_encode syms hsyms
  · refine ⟨h6, ?_⟩
    unfold verifyChecksum
    rw [lower_take, htake, hpoly]; rfl
  · unfold checksumLength
    rw [hto5, ← b32Encode_eq_to5]; exact b32_decode_encode data
  · rw [lower_take, htake]; exact hhrp

/-- C04 (1): `Decode` succeeds exactly on the valid Bech32 strings, returning the lower-cased prefix and the bytes. -/
theorem decode_ok_iff_valid (s hrp : Str) (data : List UInt8) :
    decode s = .ok (hrp, data) ↔ Valid s hrp data := by
  rw [decode_ok_iff_guards]
  constructor
  · rintro ⟨n, syms, g, rfl⟩; exact valid_of_guards s n syms data g
  · exact guards_of_valid s hrp data

/-! ### Encode -/

/-- precondition of a successful `Encode`. -/
def EncPre (hrp : Str) (src : List UInt8) : Prop :=
  hrp.length + symCount src.length + 7 ≤ 90 ∧ hrp ≠ [] ∧
  (∀ c ∈ hrp, 33 ≤ c.toNat ∧ c.toNat ≤ 126) ∧ ¬ (hasUpper hrp ∧ hasLower hrp)

/-- the BIP-173 string for (hrp, src): regrouped data, six checksum symbols computed over the
lower-cased prefix, the whole in the prefix's case. -/
def encSpec (hrp : Str) (src : List UInt8) : Str :=
  let body := hrp ++ [separator] ++
    charsetEncode (to5 src ++ createChecksum (lower hrp) (to5 src))
  if hrp = lower hrp then body else upper body

theorem encodedLen_eq (n : Nat) : encodedLen n = symCount n := by
  unfold encodedLen symCount; omega

theorem all_valid_iff (hrp : Str) : hrp.all isValidHRPChar = true ↔ ∀ c ∈ hrp, 33 ≤ c.toNat ∧ c.toNat ≤ 126 := by
  rw [List.all_eq_true]
  constructor
  · intro h c hc; exact (valid_iff_c c).mp (h c hc)
  · intro h c hc; exact (valid_iff_c c).mpr (h c hc)

theorem encode_ok_iff (hrp : Str) (src : List UInt8) (r : Str) :
    encode hrp src = .ok r ↔ EncPre hrp src ∧ r = encSpec hrp src := by
  unfold encode EncPre encSpec
  simp only [encodedLen_eq, ← b32Encode_eq_to5]
  constructor
  · intro h
    split at h
    · simp at h
    · rename_i h1
      split at h
      · simp at h
      · rename_i h2
        split at h
        · simp at h
        · rename_i h3
          split at h
          · simp at h
          · rename_i h4
            have hne : hrp ≠ [] := by
              intro h0; rw [h0] at h2; simp at h2
            have hv := (all_valid_iff hrp).mp (by simpa using h3)
            have hc := (validateCase_none_iff hrp).mp h4
            refine ⟨⟨by unfold maxStringLength checksumLength at h1; omega, hne, hv, hc⟩, ?_⟩
            rw [← apply_ite Except.ok, Except.ok.injEq] at h
            exact h.symm
  · rintro ⟨⟨h1, h2, h3, h4⟩, rfl⟩
    have g1 : ¬ (hrp.length + symCount src.length + checksumLength + 1 > maxStringLength) := by
      unfold maxStringLength checksumLength; omega
    have g2 : ¬ hrp.length < 1 := Nat.not_lt.mpr (List.length_pos_iff.mpr h2)
    have g3 : ¬ ((!hrp.all isValidHRPChar) = true) := by
      rw [(all_valid_iff hrp).mpr h3]; simp
    rw [if_neg g1, if_neg g2, if_neg g3]
    simp only [(validateCase_none_iff hrp).mpr h4]
    split <;> rfl

theorem to5_length (src : List UInt8) : (to5 src).length = symCount src.length := by
  rw [← b32Encode_eq_to5, b32Encode_length, encodedLen_eq]

theorem to5_lt (src : List UInt8) : ∀ x ∈ to5 src, x.toNat < 32 := by
  rw [← b32Encode_eq_to5]; exact b32Encode_lt src

/-- the encoder's output is a valid Bech32 string for (lower hrp, src). -/
theorem encSpec_valid (hrp : Str) (src : List UInt8) (hp : EncPre hrp src) :
    Valid (encSpec hrp src) (lower hrp) src := by
  obtain ⟨h1, h2, h3, h4⟩ := hp
  let data := to5 src
  let cs := createChecksum (lower hrp) data
  let syms := data ++ cs
  have hcs := createChecksum_spec (lower hrp) data
  have hsyms : ∀ x ∈ syms, x.toNat < 32 := by
    intro x hx
    rcases List.mem_append.mp hx with h | h
    · exact to5_lt src x h
    · exact hcs.2 x h
  have hslen : syms.length = symCount src.length + 6 := by
    simp only [syms, List.length_append, data, to5_length, cs, hcs.1]
  have hslen' : (to5 src).length + (createChecksum (lower hrp) (to5 src)).length = symCount src.length + 6 := by
    rw [to5_length, hcs.1]
  have hchars := charsetEncode_props syms hsyms
  have hpoly : polymod (hrpExpand (lower hrp) ++ syms) = 1 := by
    have := verify_create (lower hrp) data
    unfold verifyChecksum at this
    simpa using this
  have htake : syms.take (syms.length - 6) = to5 src := by
    have : syms.length - 6 = data.length := by rw [hslen]; simp [data, to5_length]
    rw [this]; exact List.take_left' rfl
  have hlowchars : lower (charsetEncode syms) = charsetEncode syms :=
    (lower_eq_self_iff _).mpr (fun c hc => (hchars c hc).2.2)
  unfold encSpec
  split
  · rename_i hlow
    have hnoup : ∀ c ∈ hrp, isUpperAscii c = false := (lower_eq_self_iff hrp).mp hlow.symm
    refine ⟨?_, ?_, hrp, charsetEncode syms, syms, rfl, ?_, h2, h3, hsyms, hlowchars, by omega, hpoly, htake, rfl⟩
    · simp only [List.length_append, List.length_cons, List.length_nil, charsetEncode_length] at ⊢; omega
    · rintro ⟨⟨c, hc, hu⟩, _⟩
      simp only [List.mem_append, List.mem_cons, List.not_mem_nil, or_false] at hc
      rcases hc with (hc | rfl) | hc
      · rw [hnoup c hc] at hu; simp at hu
      · revert hu; decide
      · rw [(hchars c hc).2.2] at hu; simp at hu
    · intro hmem; exact (hchars _ hmem).2.1 rfl
  · rename_i hlow
    have hbody : upper (hrp ++ [separator] ++ charsetEncode syms) =
        upper hrp ++ [separator] ++ upper (charsetEncode syms) := by
      rw [upper_append, upper_append]; rfl
    rw [hbody]
    refine ⟨?_, ?_, upper hrp, upper (charsetEncode syms), syms, rfl, ?_, ?_, ?_, hsyms, ?_, by omega, ?_, htake, ?_⟩
    · simp only [List.length_append, List.length_cons, List.length_nil, charsetEncode_length, upper_length]; omega
    · rintro ⟨_, hl⟩
      rw [← hbody] at hl
      exact hasLower_upper _ hl
    · intro hmem
      simp only [upper, List.mem_map] at hmem
      obtain ⟨c, hc, hcs⟩ := hmem
      have := (upper_eq_sep c).mp hcs
      exact (hchars c hc).2.1 this
    · exact fun h0 => h2 (List.map_eq_nil_iff.mp h0)
    · intro c hc
      simp only [upper, List.mem_map] at hc
      obtain ⟨x, hx, rfl⟩ := hc
      exact (valid_iff_c _).mp (by rw [valid_upper_c]; exact (valid_iff_c x).mpr (h3 x hx))
    · rw [lower_upper]; exact hlowchars
    · rw [lower_upper]; exact hpoly
    · rw [lower_upper]

/-- C05: `Decode` inverts `Encode`. -/
theorem decode_encode (hrp : Str) (src : List UInt8) (r : Str) (h : encode hrp src = .ok r) :
    decode r = .ok (lower hrp, src) := by
  obtain ⟨hp, rfl⟩ := (encode_ok_iff hrp src r).mp h
  exact (decode_ok_iff_valid _ _ _).mpr (encSpec_valid hrp src hp)

/-- C04 (2): every accepted string re-encodes to its own lower-case form. -/
theorem reencode (s hrp : Str) (data : List UInt8) (h : decode s = .ok (hrp, data)) :
    encode hrp data = .ok (lower s) := by
  obtain ⟨hlen, hcase, hh, d, syms, hs, hnosep, hne, hvalid, hsyms, hd, h6, hpoly, hto5, hhrp⟩ :=
    (decode_ok_iff_valid s hrp data).mp h
  subst hhrp
  have hdlen : d.length = syms.length := by rw [← lower_length d, hd, charsetEncode_length]
  have hslen : s.length = hh.length + 1 + d.length := by rw [hs]; simp; omega
  have hpaylen : symCount data.length = syms.length - 6 := by
    rw [← to5_length, ← hto5, List.length_take]; omega
  rw [encode_ok_iff]
  refine ⟨⟨?_, ?_, ?_, ?_⟩, ?_⟩
  · rw [lower_length]; omega
  · exact fun h0 => hne (List.map_eq_nil_iff.mp h0)
  · intro c hc
    simp only [lower, List.mem_map] at hc
    obtain ⟨x, hx, rfl⟩ := hc
    exact (valid_iff_c _).mp (by rw [valid_lower_c]; exact (valid_iff_c x).mpr (hvalid x hx))
  · intro ⟨hu, _⟩; exact hasUpper_lower hh hu
  · unfold encSpec
    rw [if_pos (lower_lower hh).symm, lower_lower]
    have hsplit : syms = to5 data ++ syms.drop (syms.length - 6) := by
      rw [← hto5, List.take_append_drop]
    have hcslen : (syms.drop (syms.length - 6)).length = 6 := by rw [List.length_drop]; omega
    have hcslt : ∀ c ∈ syms.drop (syms.length - 6), c.toNat < 32 :=
      fun c hc => hsyms c (List.mem_of_mem_drop hc)
    have hver : verifyChecksum (lower hh) (to5 data ++ syms.drop (syms.length - 6)) = true := by
      unfold verifyChecksum; rw [← hsplit, hpoly]; rfl
    have hcs := checksum_unique (lower hh) (to5 data) _ hcslen hcslt hver
    rw [← hcs, ← hsplit, ← hd, hs, lower_append, lower_append, lower_sep]

end Iota.Proofs.Bech32
