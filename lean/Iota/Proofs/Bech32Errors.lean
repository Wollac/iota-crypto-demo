/-
Lift of the BCH certificate (`Iota.Proofs.BCH.bch_detects`) to `Decode`: a valid Bech32 string
with 1…4 substituted characters is rejected.
-/
import Iota.Proofs.BCH
import Iota.Proofs.Bech32

namespace Iota.Proofs.Bech32Errors
open Iota.Bech32 Iota.Proofs Iota.Proofs.Bech32 Iota.Proofs.BCH

/-- pointwise relation between two lists of equal length (the shape of core's `List.Forall₂`, on `UInt8`). -/
inductive Forall2 (R : UInt8 → UInt8 → Prop) : List UInt8 → List UInt8 → Prop
  | nil : Forall2 R [] []
  | cons {x y : UInt8} {xs ys : List UInt8} : R x y → Forall2 R xs ys → Forall2 R (x :: xs) (y :: ys)

/-! ### substitutions -/

def isDigitAscii (c : UInt8) : Bool := decide (48 ≤ c.toNat) && decide (c.toNat ≤ 57)

/-- letter for letter of the same case, or digit for digit. -/
def sameKind (c c' : UInt8) : Prop :=
  (isLowerAscii c = true ∧ isLowerAscii c' = true) ∨ (isUpperAscii c = true ∧ isUpperAscii c' = true) ∨
  (isDigitAscii c = true ∧ isDigitAscii c' = true)

/-- the 5-bit symbol a data character stands for (0xFF if it is not a charset character in either case). -/
def symOf (c : UInt8) : UInt8 := decMap (toLowerAscii c)

/-- admissible change of one human-readable-part character. -/
def HrpSub (c c' : UInt8) : Prop := c = c' ∨ sameKind c c'

/-- admissible change of one data character: another charset character (either case) of a different symbol value. -/
def DataSub (c c' : UInt8) : Prop := c = c' ∨ (symOf c' ≠ 0xFF ∧ symOf c' ≠ symOf c)

/-! ### per-character facts -/

def hi (c : UInt8) : UInt8 := toLowerAscii c >>> 5
def lo (c : UInt8) : UInt8 := toLowerAscii c &&& 31

theorem hi_lo_lt (c : UInt8) : (hi c).toNat < 32 ∧ (lo c).toNat < 32 := by
  unfold hi lo
  rw [Base32.p_shr5, Base32.p_m31]
  have := (toLowerAscii c).toNat_lt
  omega

theorem kind_facts : ∀ c : UInt8,
    (isLowerAscii c = true → hi c = 3 ∧ (lo c).toNat + 96 = c.toNat) ∧
    (isUpperAscii c = true → hi c = 3 ∧ (lo c).toNat + 64 = c.toNat) ∧
    (isDigitAscii c = true → hi c = 1 ∧ (lo c).toNat + 32 = c.toNat) := by
  apply forall_byte
  decide +kernel

theorem sameKind_hi_lo {c c' : UInt8} (h : sameKind c c') : hi c = hi c' ∧ (lo c = lo c' ↔ c = c') := by
  -- characters of one kind share `hi`, and `lo` is the character minus the kind's offset
  have key : ∀ {k : UInt8} {o : Nat}, hi c = k ∧ (lo c).toNat + o = c.toNat →
      hi c' = k ∧ (lo c').toNat + o = c'.toNat → hi c = hi c' ∧ (lo c = lo c' ↔ c = c') :=
    fun a b => ⟨a.1.trans b.1.symm, fun e => UInt8.toNat_inj.mp (by rw [← a.2, ← b.2, e]), fun e => by rw [e]⟩
  rcases h with ⟨h1, h2⟩ | ⟨h1, h2⟩ | ⟨h1, h2⟩
  · exact key ((kind_facts c).1 h1) ((kind_facts c').1 h2)
  · exact key ((kind_facts c).2.1 h1) ((kind_facts c').2.1 h2)
  · exact key ((kind_facts c).2.2 h1) ((kind_facts c').2.2 h2)

theorem symOf_sep : symOf separator = 0xFF := by decide

/-! ### hamming distance bookkeeping -/

theorem hamming_append (a a' b b' : List UInt8) (h : a.length = a'.length) :
    hamming (a ++ b) (a' ++ b') = hamming a a' + hamming b b' := by
  induction a generalizing a' with
  | nil =>
    cases a' with
    | nil => simp [hamming]
    | cons _ _ => simp at h
  | cons x xs ih =>
    cases a' with
    | nil => simp at h
    | cons y ys =>
      simp only [List.cons_append, hamming, List.length_cons] at h ⊢
      rw [ih ys (by omega)]; omega

theorem hamming_self (a : List UInt8) : hamming a a = 0 := by
  induction a with
  | nil => rfl
  | cons x xs ih => simp [hamming, ih]

theorem hamming_map_eq {R : UInt8 → UInt8 → Prop} (f : UInt8 → UInt8) {a a' : List UInt8}
    (h : Forall2 R a a') (hf : ∀ x y, R x y → (f x = f y ↔ x = y)) :
    hamming (a.map f) (a'.map f) = hamming a a' := by
  induction h with
  | nil => rfl
  | @cons x y xs ys hxy _ ih =>
    simp only [List.map_cons, hamming, ih]
    have := hf x y hxy
    by_cases hxy' : x = y
    · simp [hxy', this.mpr hxy']
    · have : f x ≠ f y := fun h => hxy' (this.mp h)
      simp [hxy', this]

theorem map_eq_of_forall2 {R : UInt8 → UInt8 → Prop} (f : UInt8 → UInt8) {a a' : List UInt8}
    (h : Forall2 R a a') (hf : ∀ x y, R x y → f x = f y) : a.map f = a'.map f := by
  induction h with
  | nil => rfl
  | cons hxy _ ih => simp [hf _ _ hxy, ih]

theorem forall2_length {R : UInt8 → UInt8 → Prop} {a a' : List UInt8} (h : Forall2 R a a') :
    a.length = a'.length := by
  induction h with
  | nil => rfl
  | cons _ _ ih => simp [ih]

theorem diffWithin_common_prefix (p b b' : List UInt8) (w : Nat) (hb : b.length ≤ w) :
    DiffWithinLast w (p ++ b) (p ++ b') := by
  intro i hi hne
  by_cases hip : i < p.length
  · rw [List.getElem?_append_left hip, List.getElem?_append_left hip] at hne
    exact absurd rfl hne
  · rw [List.length_append]; omega

/-! ### the symbol vector of a string -/

def symsOf (d : Str) : List UInt8 := d.map symOf

theorem hrpExpand_lower (h : Str) : hrpExpand (lower h) = h.map hi ++ [0] ++ h.map lo := by
  simp [hrpExpand, lower, List.map_map, Function.comp_def]
  rfl

theorem symsOf_of_decode (d : Str) (syms : List UInt8) (h : charsetDecode (lower d) = .ok syms) :
    syms = symsOf d ∧ ∀ x ∈ syms, x.toNat < 32 := by
  obtain ⟨h1, h2⟩ := charsetDecode_ok _ _ h
  refine ⟨?_, h2⟩
  have : (lower d).map decMap = syms := by
    rw [h1]
    simp only [charsetEncode, List.map_map]
    conv => rhs; rw [← List.map_id syms]
    apply List.map_congr_left
    intro s hs
    exact (charset_spec s (h2 s hs)).1
  rw [← this]; simp [symsOf, symOf, lower, List.map_map, Function.comp_def]

/-- everything `Decode` establishes about the checksum, in symbol-vector form. -/
theorem polymod_of_decode (h d : Str) (hsep : separator ∉ d) (hrp : Str) (data : List UInt8)
    (hd : decode (h ++ [separator] ++ d) = .ok (hrp, data)) :
    polymod (h.map hi ++ [0] ++ h.map lo ++ symsOf d) = 1 ∧ (∀ x ∈ symsOf d, x.toNat < 32) ∧
    h.length + d.length ≤ 89 := by
  obtain ⟨n, syms, g, _⟩ := (decode_ok_iff_guards _ _ _).mp hd
  have hn : n = h.length := by
    have := lastIndexSep_of_split h d hsep
    rw [g.g2] at this; exact Option.some.inj this
  subst hn
  have htake : (h ++ [separator] ++ d).take h.length = h := by simp
  have hdrop : (h ++ [separator] ++ d).drop (h.length + 1) = d := by simp
  have g7 := g.g7
  rw [lower_drop, hdrop] at g7
  obtain ⟨hs, hlt⟩ := symsOf_of_decode d syms g7
  have g8 := g.g8.2
  unfold verifyChecksum at g8
  rw [lower_take, htake, hrpExpand_lower, hs] at g8
  refine ⟨by simpa using g8, hs ▸ hlt, ?_⟩
  have := g.g1
  simp only [List.length_append, List.length_cons, List.length_nil, maxStringLength] at this
  omega

/-- C16: a valid Bech32 string with one to four characters changed — data characters by charset
characters of a different value, prefix characters by characters of the same kind — is rejected. -/
theorem decode_rejects (h d h' d' : Str) (hrp : Str) (data : List UInt8)
    (hsep : separator ∉ d)
    (hok : decode (h ++ [separator] ++ d) = .ok (hrp, data))
    (hh : Forall2 HrpSub h h') (hd : Forall2 DataSub d d')
    (h1 : 1 ≤ hamming h h' + hamming d d') (h4 : hamming h h' + hamming d d' ≤ 4) :
    ∃ e, decode (h' ++ [separator] ++ d') = .error e := by
  cases hres : decode (h' ++ [separator] ++ d') with
  | error e => exact ⟨e, rfl⟩
  | ok r =>
    exfalso
    obtain ⟨hrp', data'⟩ := r
    have hsep' : separator ∉ d' := by
      intro hmem
      have : ∀ {a a' : List UInt8}, Forall2 DataSub a a' → separator ∉ a → separator ∉ a' := by
        intro a a' hf
        induction hf with
        | nil => intro _ h; simp at h
        | @cons x y xs ys hxy _ ih =>
          intro hn hm
          simp only [List.mem_cons, not_or] at hn
          rcases List.mem_cons.mp hm with rfl | hm
          · rcases hxy with rfl | ⟨h1, _⟩
            · exact hn.1 rfl
            · exact h1 symOf_sep
          · exact ih hn.2 hm
      exact this hd hsep hmem
    obtain ⟨p1, lt1, len1⟩ := polymod_of_decode h d hsep hrp data hok
    obtain ⟨p2, lt2, _⟩ := polymod_of_decode h' d' hsep' hrp' data' hres
    have hlh := forall2_length hh
    have hld := forall2_length hd
    have hhi : h.map hi = h'.map hi := map_eq_of_forall2 hi hh (by
      intro x y hxy
      rcases hxy with rfl | hk
      · rfl
      · exact (sameKind_hi_lo hk).1)
    have hlo : hamming (h.map lo) (h'.map lo) = hamming h h' := hamming_map_eq lo hh (by
      intro x y hxy
      rcases hxy with rfl | hk
      · simp
      · exact (sameKind_hi_lo hk).2)
    have hsy : hamming (symsOf d) (symsOf d') = hamming d d' := hamming_map_eq symOf hd (by
      intro x y hxy
      rcases hxy with rfl | ⟨_, hne⟩
      · simp
      · constructor
        · intro he; exact absurd he.symm hne
        · intro he; rw [he])
    rw [← hhi] at p2
    -- v = P ++ B, v' = P ++ B' with P the unchanged part
    have e1 : h.map hi ++ [0] ++ h.map lo ++ symsOf d = (h.map hi ++ [0]) ++ (h.map lo ++ symsOf d) := by
      simp
    have e2 : h.map hi ++ [0] ++ h'.map lo ++ symsOf d' = (h.map hi ++ [0]) ++ (h'.map lo ++ symsOf d') := by
      simp
    rw [e1] at p1
    rw [e2] at p2
    have hham : hamming ((h.map hi ++ [0]) ++ (h.map lo ++ symsOf d))
        ((h.map hi ++ [0]) ++ (h'.map lo ++ symsOf d')) = hamming h h' + hamming d d' := by
      rw [hamming_append _ _ _ _ rfl, hamming_self, hamming_append _ _ _ _ (by simp [hlh]), hlo, hsy]
      omega
    have hlt : ∀ (g : Str) (t : List UInt8), (∀ x ∈ t, x.toNat < 32) →
        ∀ x ∈ (h.map hi ++ [0]) ++ (g.map lo ++ t), x.toNat < 32 := by
      intro g t ht x hx
      simp only [List.mem_append, List.mem_map, List.mem_cons, List.not_mem_nil, or_false] at hx
      rcases hx with (⟨c, _, rfl⟩ | rfl) | ⟨c, _, rfl⟩ | hx
      · exact (hi_lo_lt c).1
      · decide
      · exact (hi_lo_lt c).2
      · exact ht x hx
    have hwin := diffWithin_common_prefix (h.map hi ++ [0]) (h.map lo ++ symsOf d) (h'.map lo ++ symsOf d') 89
      (by simp [symsOf]; omega)
    exact bch_detects _ _ (by simp [symsOf, hlh, hld]) (hlt h _ lt1) (hlt h' _ lt2) (by rw [hham]; exact h1)
      (by rw [hham]; exact h4) hwin p1 p2

end Iota.Proofs.Bech32Errors
