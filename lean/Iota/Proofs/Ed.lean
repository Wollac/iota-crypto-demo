/-
Ed25519 (pkg/ed25519, ZIP-215 verification) and ECVRF-EDWARDS25519-SHA512-TAI (pkg/vrf): proofs about
`Iota.Model.Ed25519` and `Iota.Model.Vrf`.  The curve library is abstract: its group law is the
hypothesis `Lawful lib` (Iota/Proofs/Ed/Lawful.lean); further hypotheses (`Cofactor`, `OrderExact`,
`Nat.Prime L`, `EncodeCanonical`, `EncodeDecode`) appear as explicit arguments where used.
  Bytes      `leNat`/`leBytes` inverse codecs, bounds, numeric facts on `L`, `p`
  Lawful     the hypotheses, scalar reduction mod `L`
  Verify     E1 `verify` = ZIP-215 set; pre-check, malleability, unreduced hash, torsion, std ⊆ ZIP-215
  Sign       E2 clamping, key generation, sign-then-verify, `signerSign`, panics
  Canonical  E3 `isCanonicalY` ⇔ `y < p`
  Witness    a concrete library (over ZMod L) satisfying every hypothesis at once: the theorems are not vacuous
  Witness2   (imports this file) the VRF and sign-then-verify run on that library; `ZMod (8·L)` for the torsion theorems
  Vrf        E3 proof codec, completeness, key validation, uniqueness (algebraic half)
-/
import Iota.Proofs.Ed.Bytes
import Iota.Proofs.Ed.Lawful
import Iota.Proofs.Ed.Verify
import Iota.Proofs.Ed.Sign
import Iota.Proofs.Ed.Canonical
import Iota.Proofs.Ed.Vrf
import Iota.Proofs.Ed.Witness
