/-
Known-answer tests for the executable oracles, proved as theorems by kernel evaluation
(`decide +kernel`, no `native_decide`): the oracles' agreement with the published standard vectors is
machine-checked, not only observed at run time against the Go libraries.

  Vectors/Hash.lean    SHA-256, SHA-512 (FIPS 180-4), BLAKE2b (RFC 7693), RIPEMD-160
  Vectors/Mac.lean     HMAC-SHA512 (RFC 4231 cases 1, 2, 6), PBKDF2-HMAC-SHA512 (1 and 2 iterations)
  Vectors/Ed.lean      Ed25519 (RFC 8032 §7.1 TEST 1, 2), ECVRF-EDWARDS25519-SHA512-TAI (RFC 9381 Example 16)
  Vectors/Slip10.lean  secp256k1 / P-256 generator multiples, SLIP-0010 test vector 1 (secp256k1, ed25519; m, m/0H)
  Vectors/Bip39.lean   BIP-39 entropy ↔ mnemonic (Trezor vectors)
  Vectors/Curl.lean    Curl-P-81 (entries 1, 2 of /repo/pkg/curl/testdata/curlp81.json), through a proved bit-sliced evaluator

Whatever goes through SHA-256, SHA-512, RIPEMD-160 or BLAKE2b is evaluated with `sha256Eval`, `sha512Eval`,
`ripemd160Eval`, `blake2bEval` (Proofs/Hash/) in their place: the same functions (`sha256_eq_eval`, …) in a shape that costs
the kernel time linear in the message, where the oracles' array loops cost it five to ten times as much per block.

Core Lean only.  Each file records the source of its vectors; tools/vectors/govec reproduces every expected value
with Go (standard library, golang.org/x/crypto v0.2.0, or the repository's own packages).
-/
import Iota.Proofs.Vectors.Hash
import Iota.Proofs.Vectors.Mac
import Iota.Proofs.Vectors.Ed
import Iota.Proofs.Vectors.Slip10
import Iota.Proofs.Vectors.Bip39
import Iota.Proofs.Vectors.Curl
