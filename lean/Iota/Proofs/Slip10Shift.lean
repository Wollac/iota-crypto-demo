/-
C08: shifting a private key and shifting its public key agree, in any group of order `n` generated
by the base point (Weierstrass keys of pkg/slip10/elliptic over abstract curve operations).
-/
import Iota.Model.Slip10
import Mathlib.GroupTheory.OrderOfElement

namespace Iota.Proofs.Slip10Shift
open Iota.Slip10

variable {Pt : Type} [AddCommGroup Pt]

/-- what is assumed of the curve operations: they are the group operations of a cyclic group of order `n`. -/
structure LawfulW (w : WCurve Pt) (g : Pt) : Prop where
  add_eq : ∀ a b, w.add a b = a + b
  baseMul_eq : ∀ k : Bytes, w.baseMul k = (beNat k) • g
  inf_iff : ∀ a, w.isInfinity a = true ↔ a = 0
  order : addOrderOf g = w.n
  n_pos : 0 < w.n

theorem beNat_snoc (b : Bytes) (x : UInt8) : beNat (b ++ [x]) = beNat b * 256 + x.toNat := by
  simp [beNat, List.foldl_append]

theorem toNat_ofNat_mod (n : Nat) : (UInt8.ofNat (n % 256)).toNat = n % 256 := by
  simp [UInt8.toNat_ofNat']

theorem beNat_natBytes (fuel n : Nat) (h : n < 256 ^ fuel) : beNat (natBytes fuel n) = n := by
  induction fuel generalizing n with
  | zero => simp at h; subst h; rfl
  | succ fuel ih =>
    unfold natBytes
    split
    · rename_i h0; subst h0; rfl
    · have hdiv : n / 256 < 256 ^ fuel := by rw [Nat.pow_succ] at h; omega
      rw [beNat_snoc, ih _ hdiv, toNat_ofNat_mod]; omega

theorem nsmul_eq_zero_iff (g : Pt) (n m : Nat) (hn : addOrderOf g = n) : m • g = 0 ↔ m % n = 0 := by
  rw [← hn, ← Nat.dvd_iff_mod_eq_zero]; exact addOrderOf_dvd_iff_nsmul_eq_zero.symm

theorem pub_priv (w : WCurve Pt) (g : Pt) (hw : LawfulW w g) (hk : Bytes) (k : Nat) (hkb : k < 256 ^ 40) :
    (wCurve w hk).pub (.priv k) = .pub (k • g) := by
  simp only [wCurve, hw.baseMul_eq, beNat_natBytes 40 k hkb]

omit [AddCommGroup Pt] in
/-- what `PrivateKey.Shift` returns. -/
theorem shift_priv_eq (w : WCurve Pt) (hk : Bytes) (k : Nat) (buf : Bytes) :
    (wCurve w hk).shift (.priv k) buf =
      if beNat buf ≥ w.n ∨ (beNat buf + k) % w.n = 0 then .error .invalidKey
      else .ok (.priv ((beNat buf + k) % w.n)) := by
  by_cases h1 : beNat buf ≥ w.n
  · simp only [wCurve, h1, if_true, true_or]
  · by_cases h2 : (beNat buf + k) % w.n = 0 <;> simp only [wCurve, h1, h2, if_false, if_true, or_true, or_self]

/-- what `PublicKey.Shift` returns. -/
theorem shift_pub_eq (w : WCurve Pt) (g : Pt) (hw : LawfulW w g) (hk : Bytes) (K : Pt) (buf : Bytes) :
    (wCurve w hk).shift (.pub K) buf =
      if beNat buf ≥ w.n ∨ w.isInfinity (beNat buf • g + K) = true then .error .invalidKey
      else .ok (.pub (beNat buf • g + K)) := by
  have hsum : w.add K (w.baseMul buf) = beNat buf • g + K := by rw [hw.add_eq, hw.baseMul_eq, add_comm]
  by_cases h1 : beNat buf ≥ w.n
  · simp only [wCurve, h1, if_true, true_or]
  · simp only [wCurve, h1, if_false, false_or, hsum]

/-- **C08, the core**: `Shift` commutes with `Public`, for every private key that fits the 40-byte buffer of
`Public` and every shift: the same error, or the public key of the shifted private key. -/
theorem shift_pub_priv (w : WCurve Pt) (g : Pt) (hw : LawfulW w g) (hk : Bytes) (k : Nat) (hkb : k < 256 ^ 40)
    (hn : w.n < 256 ^ 40) (buf : Bytes) :
    (wCurve w hk).shift ((wCurve w hk).pub (.priv k)) buf =
      ((wCurve w hk).shift (.priv k) buf).map (wCurve w hk).pub := by
  have hz : w.isInfinity (beNat buf • g + k • g) = true ↔ (beNat buf + k) % w.n = 0 := by
    rw [hw.inf_iff, ← add_nsmul, nsmul_eq_zero_iff g w.n _ hw.order]
  rw [pub_priv w g hw hk k hkb, shift_pub_eq w g hw, shift_priv_eq]
  simp only [hz]
  split
  · rfl
  · show _ = Except.ok ((wCurve w hk).pub (.priv _))
    rw [pub_priv w g hw hk _ ((Nat.mod_lt _ hw.n_pos).trans hn), ← hw.order, mod_addOrderOf_nsmul, add_nsmul]

/-- the same with the verdict spelled out: both report ErrInvalidKey — exactly when the shift is ≥ n or
k + shift ≡ 0 (mod n) — or both succeed, and then the public key of the shifted private key is the shifted public key. -/
theorem shift_commutes (w : WCurve Pt) (g : Pt) (hw : LawfulW w g) (hk : Bytes) (k : Nat) (hkb : k < 256 ^ 40)
    (hn : w.n < 256 ^ 40) (buf : Bytes) :
    let c := wCurve w hk
    (beNat buf ≥ w.n ∨ (beNat buf + k) % w.n = 0 →
      c.shift (.priv k) buf = .error .invalidKey ∧ c.shift (c.pub (.priv k)) buf = .error .invalidKey) ∧
    (¬ (beNat buf ≥ w.n ∨ (beNat buf + k) % w.n = 0) →
      ∃ k' q, c.shift (.priv k) buf = .ok (.priv k') ∧ c.shift (c.pub (.priv k)) buf = .ok (.pub q) ∧
        0 < k' ∧ k' < w.n ∧ c.pub (.priv k') = .pub q) := by
  intro c
  have hp := shift_pub_priv w g hw hk k hkb hn buf
  rw [shift_priv_eq] at hp
  refine ⟨fun h => ⟨(shift_priv_eq w hk k buf).trans (if_pos h), hp.trans (by rw [if_pos h]; rfl)⟩, fun h => ?_⟩
  exact ⟨_, _, (shift_priv_eq w hk k buf).trans (if_neg h), hp.trans (by rw [if_neg h]; rfl),
    Nat.pos_of_ne_zero fun h0 => h (Or.inr h0), Nat.mod_lt _ hw.n_pos, rfl⟩

end Iota.Proofs.Slip10Shift
