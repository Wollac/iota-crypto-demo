/- `base32.Encode` is BIP-173's 8→5 regrouping with zero padding (`Spec.Bip173.to5`). -/
import Iota.Proofs.Base32
import Iota.Proofs.Digits
import Iota.Spec.Bip173

namespace Iota.Proofs.Base32
open Iota.Bech32 Iota.Spec.Bip173

theorem digits_split (a : Nat) : ∀ (b A R : Nat), R < 32 ^ b →
    digits32 (a + b) (A * 32 ^ b + R) = digits32 a A ++ digits32 b R := by
  intro b
  induction b with
  | zero => intro A R hR; simp at hR; subst hR; simp [digits32]
  | succ b ih =>
    intro A R hR
    have e1 : (A * 32 ^ (b + 1) + R) / 32 = A * 32 ^ b + R / 32 := by
      rw [Nat.pow_succ, ← Nat.mul_assoc]; omega
    have e2 : (A * 32 ^ (b + 1) + R) % 32 = R % 32 := by
      rw [Nat.pow_succ, ← Nat.mul_assoc]; omega
    have hR' : R / 32 < 32 ^ b := by rw [Nat.pow_succ] at hR; omega
    rw [← Nat.add_assoc]
    simp only [digits32, e1, e2, ih A (R / 32) hR', List.append_assoc]

theorem digits32_length (n x : Nat) : (digits32 n x).length = n := by
  induction n generalizing x with
  | zero => rfl
  | succ n ih => simp [digits32, ih]

theorem valBE_append (bs cs : List UInt8) : valBE (bs ++ cs) = valBE bs * 256 ^ cs.length + valBE cs :=
  Digits.foldl_pos_append 256 UInt8.toNat bs cs

theorem valBE_lt (bs : List UInt8) : valBE bs < 256 ^ bs.length :=
  Digits.foldl_pos_lt 256 UInt8.toNat bs fun b _ => b.toNat_lt

theorem valBE_zeros (n : Nat) : valBE (List.replicate n 0) = 0 := by
  induction n with
  | zero => rfl
  | succ n ih =>
    rw [List.replicate_succ, ← List.singleton_append, valBE_append, ih, show valBE [0] = 0 from rfl, Nat.zero_mul]

theorem digits32_val32 (ss : List UInt8) (h : ∀ s ∈ ss, s.toNat < 32) : digits32 ss.length (val32 ss) = ss := by
  induction ss using Digits.revInd with
  | nil => rfl
  | snoc xs d ih =>
    have hd := h d (by simp)
    have hv : val32 (xs ++ [d]) = val32 xs * 32 + d.toNat := by simp [val32]
    rw [List.length_append, List.length_singleton, digits32, hv,
      show (val32 xs * 32 + d.toNat) / 32 = val32 xs by omega, show (val32 xs * 32 + d.toNat) % 32 = d.toNat by omega,
      ih (fun x hx => h x (by simp [hx])), UInt8.ofNat_toNat]

theorem block_spec (bs : List UInt8) (h : bs.length = 5) : digits32 8 (valBE bs) = encQuantum bs := by
  obtain ⟨hl, hv⟩ := val_enc bs h
  rw [← hv, ← hl]
  exact digits32_val32 _ (encQuantum_lt_5 bs h)

theorem digits32_zero (z : Nat) : digits32 z 0 = List.replicate z 0 := by
  induction z with
  | zero => rfl
  | succ z ih => simp [digits32, ih, List.replicate_succ']

/-- the symbols of `bs`, regrouped from a value padded by a further `32 ^ z`, are followed by `z` zeros. -/
theorem to5_pad (bs : List UInt8) (z : Nat) :
    digits32 (symCount bs.length + z) (valBE bs * 2 ^ (5 * symCount bs.length - 8 * bs.length) * 32 ^ z) =
      to5 bs ++ List.replicate z 0 := by
  have := digits_split (symCount bs.length) z (valBE bs * 2 ^ (5 * symCount bs.length - 8 * bs.length)) 0
    (Nat.pow_pos (by omega))
  rw [Nat.add_zero] at this
  rw [this, to5, digits32_zero]

/-- `base32.Encode` = BIP-173 `convertbits(8→5, pad)`, for every byte string. -/
theorem b32Encode_eq_to5 (bs : List UInt8) : b32Encode bs = to5 bs := by
  fun_induction b32Encode bs with
  | case1 => simp [to5, symCount, digits32]
  | case2 b0 b1 b2 b3 b4 rest ih =>
    rw [ih, ← block_spec _ rfl]
    unfold to5
    have hlen : (b0 :: b1 :: b2 :: b3 :: b4 :: rest).length = 5 + rest.length := by simp; omega
    have hk : symCount (5 + rest.length) = 8 + symCount rest.length := by unfold symCount; omega
    have hle : 8 * rest.length ≤ 5 * symCount rest.length := by unfold symCount; omega
    have hpad : 5 * (8 + symCount rest.length) - 8 * (5 + rest.length)
        = 5 * symCount rest.length - 8 * rest.length := by omega
    have hval : valBE (b0 :: b1 :: b2 :: b3 :: b4 :: rest) =
        valBE [b0, b1, b2, b3, b4] * 256 ^ rest.length + valBE rest :=
      valBE_append [b0, b1, b2, b3, b4] rest
    rw [hlen, hk, hpad, hval, Nat.add_mul, Nat.mul_assoc]
    have hpow : 256 ^ rest.length * 2 ^ (5 * symCount rest.length - 8 * rest.length)
        = 32 ^ symCount rest.length := by
      rw [show 256 = 2 ^ 8 from rfl, show 32 = 2 ^ 5 from rfl, ← Nat.pow_mul, ← Nat.pow_mul, ← Nat.pow_add]
      congr 1; omega
    rw [hpow]
    symm
    apply digits_split
    rw [← hpow]
    exact Nat.mul_lt_mul_of_lt_of_le (valBE_lt rest) (Nat.le_refl _) (Nat.pow_pos (by omega))
  | case3 tail hne h5 =>
    -- the tail, padded to a full quantum, is one block; cut the padding symbols off again
    have h1 := List.length_pos_iff.mpr hne
    have h4 := length_lt_5 tail h5
    obtain ⟨hA, hL⟩ := encQuantum_pad tail h1 (by omega)
    have hk : symCount tail.length = encodedLen tail.length := by unfold symCount encodedLen; omega
    have hk8 : encodedLen tail.length ≤ 8 := by unfold encodedLen; omega
    have hz : 256 ^ (5 - tail.length) =
        2 ^ (5 * symCount tail.length - 8 * tail.length) * 32 ^ (8 - encodedLen tail.length) := by
      rw [show 256 = 2 ^ 8 from rfl, show 32 = 2 ^ 5 from rfl, ← Nat.pow_mul, ← Nat.pow_mul, ← Nat.pow_add]
      congr 1; unfold symCount encodedLen; omega
    have hv : valBE (tail ++ List.replicate (5 - tail.length) 0) =
        valBE tail * 2 ^ (5 * symCount tail.length - 8 * tail.length) * 32 ^ (8 - encodedLen tail.length) := by
      rw [valBE_append, valBE_zeros, List.length_replicate, Nat.add_zero, hz, Nat.mul_assoc]
    have h := to5_pad tail (8 - encodedLen tail.length)
    rw [show symCount tail.length + (8 - encodedLen tail.length) = 8 by omega, ← hv,
      block_spec _ (by simp; omega), hA] at h
    exact (List.append_inj h (by rw [hL, ← hk, to5, digits32_length])).1

end Iota.Proofs.Base32
