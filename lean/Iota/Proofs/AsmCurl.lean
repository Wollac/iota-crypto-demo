/-
C20 — the amd64 routine `transform` of pkg/curl/transform_amd64.s (`Iota.Asm.program`), run under
the small-step semantics of Iota/Model/AsmSem.lean on ARBITRARY contents of the four buffers:

* terminates with `RET` after exactly 664 935 steps, without a fault — every memory access the
  routine performs is inside the 729-word buffer its base pointer refers to and 8-aligned, no
  register is used before it is written, no arithmetic is applied to a pointer;
* leaves 81 closed-form rounds (`roundsW 81`) of the from-planes in the to-buffers and 80 rounds in
  the from-buffers.

`roundsW` is the word-level closed form of Iota/Spec/CurlW.lean.
-/
import Iota.Proofs.AsmCurl.Loops

namespace Iota.Proofs.AsmCurl
open Iota.Asm Iota.Curl Iota.Spec.CurlW

theorem cfg0_ok : cfg0.Ok := by
  constructor <;> decide

/-- pointer assignment after `r` rounds (one `XCHGQ` pair per round). -/
def cfgOf : Nat → Cfg
  | 0 => cfg0
  | r + 1 => (cfgOf r).swap

theorem cfgOf_ok : ∀ r, (cfgOf r).Ok
  | 0 => cfg0_ok
  | r + 1 => (cfgOf_ok r).swap

theorem cfgOf_81 : cfgOf 81 = ⟨.lfrom, .hfrom, .lto, .hto⟩ := rfl

/-- steps executed when `r` rounds are complete. -/
def stepsAfter (r : Nat) : Nat := 5 + 8209 * r

/-- the outer loop: state after `r ≤ 81` rounds. -/
theorem rounds_loop (M0 : Mem) (r : Nat) (hr : r ≤ 81) :
    ∃ R F M, exN (stepsAfter r) (initial M0) = some ⟨if r < 81 then 5 else 69, R, F, M⟩ ∧
      Ptrs (cfgOf r) R ∧ R.get .SI = .word (BitVec.ofNat 64 (81 - r)) ∧
      M.get (cfgOf r).fL = (roundsW r (M0.lfrom, M0.hfrom)).1 ∧
      M.get (cfgOf r).fH = (roundsW r (M0.lfrom, M0.hfrom)).2 ∧
      (0 < r → M.get (cfgOf r).tL = (roundsW (r - 1) (M0.lfrom, M0.hfrom)).1 ∧
               M.get (cfgOf r).tH = (roundsW (r - 1) (M0.lfrom, M0.hfrom)).2) := by
  induction r with
  | zero =>
    obtain ⟨R, hex, hp, hSI⟩ := prologue M0
    exact ⟨R, .undef, M0, hex, hp, hSI, rfl, rfl, fun h => absurd h (by omega)⟩
  | succ r ih =>
    obtain ⟨R, F, M, hex, hp, hSI, hfl, hfh, _⟩ := ih (by omega)
    rw [if_pos (by omega)] at hex
    obtain ⟨R', F', M', hex', hp', hSI', b1, b2, b3, b4⟩ :=
      round_step (cfgOf r) (cfgOf_ok r) (81 - r) (by omega) (by omega) R F M hp hSI
    have hpc : (if 81 - r = 1 then 69 else 5) = (if r + 1 < 81 then 5 else 69) := by
      by_cases h : r + 1 < 81
      · rw [if_neg (by omega), if_pos h]
      · rw [if_pos (by omega), if_neg h]
    rw [hpc] at hex'
    refine ⟨R', F', M', ?_, hp', ?_, ?_, ?_, fun _ => ⟨?_, ?_⟩⟩
    · rw [show stepsAfter (r + 1) = stepsAfter r + 8209 by simp only [stepsAfter]; omega]
      exact exN_trans hex hex'
    · rw [hSI', show 81 - r - 1 = 81 - (r + 1) by omega]
    · show M'.get (cfgOf r).tL = _
      rw [b3, hfl, hfh, Curl.roundsW_succ']
    · show M'.get (cfgOf r).tH = _
      rw [b4, hfl, hfh, Curl.roundsW_succ']
    · show M'.get (cfgOf r).fL = _
      rw [b1, hfl]; rfl
    · show M'.get (cfgOf r).fH = _
      rw [b2, hfh]; rfl

/-- fuel the routine needs: 5 + 81·(15 + 182·45 + 4) + 1 steps. -/
def fuelNeeded : Nat := 664935

/-- **C20.**  On any contents of the four buffers the routine returns (no fault: every access was
bounds-checked by the semantics), the to-buffers hold 81 rounds and the from-buffers 80 rounds; any
fuel ≥ 664 935 gives the same answer. -/
theorem asm_transform_ge (lto hto lfrom hfrom : Plane) (fuel : Nat) (h : fuelNeeded ≤ fuel) :
    runProgram lto hto lfrom hfrom fuel = .done
      { lto := (roundsW 81 (lfrom, hfrom)).1, hto := (roundsW 81 (lfrom, hfrom)).2,
        lfrom := (roundsW 80 (lfrom, hfrom)).1, hfrom := (roundsW 80 (lfrom, hfrom)).2 } := by
  obtain ⟨R, F, M, hex, _, _, hfl, hfh, hto'⟩ :=
    rounds_loop { lto := lto, hto := hto, lfrom := lfrom, hfrom := hfrom } 81 (Nat.le_refl _)
  obtain ⟨htl, hth⟩ := hto' (by omega)
  rw [if_neg (by omega)] at hex
  rw [cfgOf_81] at hfl hfh htl hth
  obtain ⟨k, rfl⟩ := Nat.exists_eq_add_of_le h
  have hrun := run_of_exN hex (k + 1)
  rw [ret_step] at hrun
  have hM : M = ⟨(roundsW 81 (lfrom, hfrom)).1, (roundsW 81 (lfrom, hfrom)).2,
      (roundsW 80 (lfrom, hfrom)).1, (roundsW 80 (lfrom, hfrom)).2⟩ := by
    apply Mem.ext_get
    intro b
    cases b
    · exact hfl
    · exact hfh
    · exact htl
    · exact hth
  rw [← hM, show fuelNeeded + k = stepsAfter 81 + (k + 1) by simp only [fuelNeeded, stepsAfter]; omega]
  exact hrun

theorem asm_transform_fuel (lto hto lfrom hfrom : Plane) :
    runProgram lto hto lfrom hfrom fuelNeeded = .done
      { lto := (roundsW 81 (lfrom, hfrom)).1, hto := (roundsW 81 (lfrom, hfrom)).2,
        lfrom := (roundsW 80 (lfrom, hfrom)).1, hfrom := (roundsW 80 (lfrom, hfrom)).2 } :=
  asm_transform_ge lto hto lfrom hfrom fuelNeeded (Nat.le_refl _)

theorem asm_transform (lto hto lfrom hfrom : Plane) :
    ∃ fuel, runProgram lto hto lfrom hfrom fuel = .done
      { lto := (roundsW 81 (lfrom, hfrom)).1, hto := (roundsW 81 (lfrom, hfrom)).2,
        lfrom := (roundsW 80 (lfrom, hfrom)).1, hfrom := (roundsW 80 (lfrom, hfrom)).2 } :=
  ⟨fuelNeeded, asm_transform_fuel lto hto lfrom hfrom⟩

/-- with less fuel the routine has not returned yet (the step count is exact). -/
theorem asm_transform_lt (lto hto lfrom hfrom : Plane) (fuel : Nat) (h : fuel < fuelNeeded) :
    runProgram lto hto lfrom hfrom fuel = .outOfFuel := by
  obtain ⟨R, F, M, hex, _⟩ :=
    rounds_loop { lto := lto, hto := hto, lfrom := lfrom, hfrom := hfrom } 81 (Nat.le_refl _)
  exact run_outOfFuel_of_exN hex (by simp only [stepsAfter]; simp only [fuelNeeded] at h; omega)

end Iota.Proofs.AsmCurl
