/-
P1 / P2 of the PoW model: the constants, and `toInt` as the little-endian base-3 value plus one,
its range, and the absence of `uint64` overflow in the 40-trit chunk loop.  Core Lean only.
-/
import Iota.Model.Pow

namespace Iota.Proofs.Pow
open Iota.Pow

/-! ### P1 constants -/

theorem maxHash_eq : maxHash = 3 ^ 243 := by decide +kernel

theorem uint64Radix_eq : uint64Radix = 3 ^ 40 := by decide +kernel

theorem three_pow_40_lt : 3 ^ 40 < 2 ^ 64 := by decide +kernel

theorem uint64Radix_lt : uint64Radix < 2 ^ 64 := by decide +kernel

/-! ### P2 `toInt` -/

/-- a balanced trit -/
def ValidTrit (t : Int) : Prop := t = -1 ∨ t = 0 ∨ t = 1

/-- little-endian base-3 value of a trit list, with trit `-1` read as digit `2`. -/
def digitsVal (ts : List Int) : Nat := ts.foldr (fun t acc => tritToUint t + 3 * acc) 0

@[simp] theorem digitsVal_nil : digitsVal [] = 0 := rfl
@[simp] theorem digitsVal_cons (t : Int) (ts : List Int) :
    digitsVal (t :: ts) = tritToUint t + 3 * digitsVal ts := rfl

theorem tritToUint_le {t : Int} (ht : ValidTrit t) : tritToUint t ≤ 2 := by
  rcases ht with rfl | rfl | rfl <;> decide

theorem tritToUint_eq_zero {t : Int} (ht : ValidTrit t) : tritToUint t = 0 ↔ t = 0 := by
  rcases ht with rfl | rfl | rfl <;> decide

/-- the chunk loop computes the base-3 value of the chunk -/
theorem chunkValue_eq (chunk : List Int) : chunkValue chunk = digitsVal chunk := by
  unfold chunkValue digitsVal
  rw [List.foldl_reverse]
  induction chunk with
  | nil => rfl
  | cons t ts ih => simp only [List.foldr_cons, ih]; omega

theorem digitsVal_append (a b : List Int) :
    digitsVal (a ++ b) = digitsVal a + 3 ^ a.length * digitsVal b := by
  induction a with
  | nil => simp
  | cons t ts ih =>
    simp only [List.cons_append, digitsVal_cons, ih, List.length_cons, Nat.pow_succ]
    rw [Nat.mul_add, Nat.mul_comm _ 3, Nat.mul_assoc]; omega

/-- split off the low `n` digits; holds for every `n` (for `n > length` the high part is empty). -/
theorem digitsVal_split (n : Nat) (ts : List Int) :
    digitsVal ts = digitsVal (ts.take n) + 3 ^ n * digitsVal (ts.drop n) := by
  rcases Nat.le_total n ts.length with h | h
  · have := digitsVal_append (ts.take n) (ts.drop n)
    rwa [List.take_append_drop, List.length_take_of_le h] at this
  · rw [List.drop_eq_nil_of_le h, List.take_of_length_le h, digitsVal_nil, Nat.mul_zero, Nat.add_zero]

theorem digitsVal_lt (ts : List Int) (h : ∀ t ∈ ts, ValidTrit t) : digitsVal ts < 3 ^ ts.length := by
  induction ts with
  | nil => simp
  | cons t ts ih =>
    have h1 := tritToUint_le (h t (by simp))
    have h2 := ih (fun x hx => h x (by simp [hx]))
    simp only [digitsVal_cons, List.length_cons, Nat.pow_succ]
    omega

theorem digitsVal_eq_zero (ts : List Int) (h : ∀ t ∈ ts, ValidTrit t) :
    digitsVal ts = 0 ↔ ∀ t ∈ ts, t = 0 := by
  induction ts with
  | nil => simp
  | cons t ts ih =>
    have h1 := tritToUint_eq_zero (h t (by simp))
    have h2 := ih (fun x hx => h x (by simp [hx]))
    simp only [digitsVal_cons, List.mem_cons, forall_eq_or_imp]
    rw [← h1, ← h2]; omega

/-- Horner form of `toInt` with the chunks as base-3 values. -/
theorem toInt_horner (trits : List Int) :
    toInt trits =
      ((((((tritToUint (trits.getD 242 0) * 9 + tritToUint (trits.getD 241 0) * 3
              + tritToUint (trits.getD 240 0)) * uint64Radix
            + digitsVal ((trits.drop 200).take 40)) * uint64Radix
          + digitsVal ((trits.drop 160).take 40)) * uint64Radix
        + digitsVal ((trits.drop 120).take 40)) * uint64Radix
      + digitsVal ((trits.drop 80).take 40)) * uint64Radix
    + digitsVal ((trits.drop 40).take 40)) * uint64Radix
  + (digitsVal (trits.take 40) + 1) := by
  have hr : (List.range 6).reverse = [5, 4, 3, 2, 1, 0] := rfl
  unfold toInt
  simp only [hr, List.foldl_cons, List.foldl_nil, chunkValue_eq]
  simp

theorem drop240 (trits : List Int) (hlen : trits.length = 243) :
    trits.drop 240 = [trits.getD 240 0, trits.getD 241 0, trits.getD 242 0] := by
  apply List.ext_getElem
  · simp [hlen]
  · intro i h1 h2
    simp only [List.length_cons, List.length_nil] at h2
    have : i = 0 ∨ i = 1 ∨ i = 2 := by omega
    rcases this with rfl | rfl | rfl <;> simp [List.getD_eq_getElem?_getD, hlen]

/-- **P2** `toInt` is the little-endian base-3 value plus one (only the length matters here). -/
theorem toInt_eq (trits : List Int) (hlen : trits.length = 243) :
    toInt trits = digitsVal trits + 1 := by
  rw [toInt_horner, uint64Radix_eq]
  have split : ∀ ts : List Int, digitsVal ts = 3 ^ 40 * digitsVal (ts.drop 40) + digitsVal (ts.take 40) := by
    intro ts; rw [Nat.add_comm]; exact digitsVal_split 40 ts
  have e6 : digitsVal (trits.drop 240) = tritToUint (trits.getD 242 0) * 9
      + tritToUint (trits.getD 241 0) * 3 + tritToUint (trits.getD 240 0) := by
    rw [drop240 trits hlen]; simp only [digitsVal_cons, digitsVal_nil]; omega
  rw [split trits, split (trits.drop 40), List.drop_drop, split (trits.drop 80), List.drop_drop,
    split (trits.drop 120), List.drop_drop, split (trits.drop 160), List.drop_drop,
    split (trits.drop 200), List.drop_drop, e6]
  generalize (3 : Nat) ^ 40 = R
  simp only [Nat.mul_comm _ R, Nat.add_assoc]

theorem toInt_pos (trits : List Int) (hlen : trits.length = 243) : 1 ≤ toInt trits := by
  rw [toInt_eq trits hlen]; omega

theorem toInt_le (trits : List Int) (hlen : trits.length = 243) (hv : ∀ t ∈ trits, ValidTrit t) :
    toInt trits ≤ 3 ^ 243 := by
  rw [toInt_eq trits hlen]
  have := digitsVal_lt trits hv
  rw [hlen] at this
  omega

/-- **P2 no overflow**: the largest `uint64` produced while processing a chunk of at most 40 balanced
trits (including the `v++` of chunk 0) is at most `3^40 < 2^64`. -/
theorem chunkMax_le (chunk : List Int) (hlen : chunk.length ≤ 40) (hv : ∀ t ∈ chunk, ValidTrit t) :
    chunkMax chunk ≤ 3 ^ 40 ∧ 3 ^ 40 < 2 ^ 64 := by
  refine ⟨?_, three_pow_40_lt⟩
  unfold chunkMax
  rw [chunkValue_eq]
  have h1 := digitsVal_lt chunk hv
  have h2 : 3 ^ chunk.length ≤ 3 ^ 40 := Nat.pow_le_pow_right (by decide) hlen
  omega

/-- every intermediate value of the chunk loop (the value after the trits `j … len-1` have been
consumed, i.e. the value of the suffix `chunk.drop j`) also stays below `3^40`. -/
theorem chunk_intermediate_lt (chunk : List Int) (hlen : chunk.length ≤ 40)
    (hv : ∀ t ∈ chunk, ValidTrit t) (j : Nat) : chunkValue (chunk.drop j) + 1 ≤ 3 ^ 40 :=
  (chunkMax_le (chunk.drop j) (by simp; omega) (fun t ht => hv t (List.mem_of_mem_drop ht))).1

/-- the chunk loop run in wrapping `uint64` arithmetic -/
def chunkValueU64 (chunk : List Int) : Nat :=
  chunk.reverse.foldl (fun v t => (v * 3 + tritToUint t) % 2 ^ 64) 0

/-- Go's wrapping `uint64` chunk loop agrees with the exact one on chunks of ≤ 40 balanced trits, and the
final `v++` does not wrap either. -/
theorem chunkValueU64_eq (chunk : List Int) (hlen : chunk.length ≤ 40) (hv : ∀ t ∈ chunk, ValidTrit t) :
    chunkValueU64 chunk = chunkValue chunk ∧ (chunkValue chunk + 1) % 2 ^ 64 = chunkValue chunk + 1 := by
  have hlt := three_pow_40_lt
  constructor
  · unfold chunkValueU64 chunkValue
    rw [List.foldl_reverse, List.foldl_reverse]
    induction chunk with
    | nil => rfl
    | cons t ts ih =>
      have hb := (chunkMax_le (t :: ts) hlen hv).1
      unfold chunkMax chunkValue at hb
      rw [List.foldl_reverse] at hb
      simp only [List.foldr_cons] at hb ⊢
      rw [ih (by simp at hlen; omega) (fun x hx => hv x (by simp [hx]))]
      exact Nat.mod_eq_of_lt (by omega)
  · have := (chunkMax_le chunk hlen hv).1
    unfold chunkMax at this
    exact Nat.mod_eq_of_lt (by omega)

/-- the chunks `toInt` actually processes -/
theorem toInt_chunks_no_overflow (trits : List Int) (hv : ∀ t ∈ trits, ValidTrit t) (i : Nat) :
    chunkMax ((trits.drop (i * 40)).take 40) ≤ 3 ^ 40 ∧ 3 ^ 40 < 2 ^ 64 :=
  chunkMax_le _ (by simp; omega)
    (fun t ht => hv t (List.mem_of_mem_drop (List.mem_of_mem_take ht)))

end Iota.Proofs.Pow
