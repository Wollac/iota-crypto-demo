/-
P6: the v1 lane test `checkV1` is exact with respect to trailing zero trits, and the conditional
soundness of v1 mining for an abstract monotone score.
-/
import Iota.Proofs.Pow.Bits

namespace Iota.Proofs.Pow
open Iota.Pow

theorem le_length_takeWhile_iff {α : Type} (p : α → Bool) (l : List α) (n : Nat) (hn : n ≤ l.length) :
    n ≤ (l.takeWhile p).length ↔ ∀ k (hk : k < l.length), k < n → p l[k] = true := by
  induction l generalizing n with
  | nil =>
    simp only [List.length_nil, Nat.le_zero_eq] at hn
    subst hn
    simp
  | cons a l ih =>
    cases n with
    | zero => simp
    | succ n =>
      simp only [List.length_cons, Nat.add_le_add_iff_right] at hn
      rw [List.takeWhile_cons]
      by_cases ha : p a = true
      · rw [if_pos ha]
        simp only [List.length_cons, Nat.add_le_add_iff_right]
        rw [ih n hn]
        constructor
        · intro H k hk hkn
          cases k with
          | zero => exact ha
          | succ k => exact H k (by simpa using hk) (by omega)
        · intro H k hk hkn
          exact H (k + 1) (by simpa using hk) (by omega)
      · rw [if_neg ha]
        simp only [List.length_nil, Nat.le_zero_eq, Nat.add_one_ne_zero, false_iff]
        intro H
        exact ha (H 0 (by simp) (by omega))

/-- at least `n` trailing zeros iff the top `n` entries are zero -/
theorem le_trailingZeros_iff (ts : List Int) (n : Nat) (hn : n ≤ ts.length) :
    n ≤ trailingZeros ts ↔ ∀ k (hk : k < ts.length), ts.length - n ≤ k → ts[k] = 0 := by
  unfold trailingZeros
  rw [le_length_takeWhile_iff _ _ _ (by simpa using hn)]
  constructor
  · intro H k hk hkn
    have := H (ts.length - 1 - k) (by simp; omega) (by omega)
    rw [List.getElem_reverse] at this
    have e : ts.length - 1 - (ts.length - 1 - k) = k := by omega
    simp only [e] at this
    simpa using this
  · intro H k hk hkn
    rw [List.getElem_reverse]
    simp only [List.length_reverse] at hk
    simpa using H (ts.length - 1 - k) (by omega) (by omega)

theorem trailingZeros_le_length (ts : List Int) : trailingZeros ts ≤ ts.length := by
  unfold trailingZeros
  have := (List.takeWhile_sublist (fun x : Int => x == 0) (l := ts.reverse)).length_le
  simpa using this

/-- a lane has at least `n` trailing zero trits iff its trits `243-n … 242` are zero -/
theorem le_trailingZeros_lane_iff (l h : Planes) (idx n : Nat) (hn : n ≤ 243) :
    n ≤ trailingZeros (laneTrits l h idx) ↔ TopZero l h idx (243 - n) := by
  rw [le_trailingZeros_iff _ _ (by rw [laneTrits_length]; exact hn)]
  unfold TopZero
  simp only [laneTrits_length]
  constructor
  · intro H i h1 h2
    have := H i h2 h1
    rwa [laneTrits_getElem] at this
  · intro H k hk h1
    rw [laneTrits_getElem]; exact H k h1 hk

/-- **P6 exactness**: an index `< 64` is the first lane with at least `n` trailing zero trits;
`64` means that no lane has. -/
theorem checkV1_spec (l h : Planes) (n : Nat) (hn : n ≤ 243) :
    checkV1 l h n ≤ 64 ∧
    (checkV1 l h n < 64 →
      n ≤ trailingZeros (laneTrits l h (checkV1 l h n)) ∧
      ∀ j, j < checkV1 l h n → ¬ n ≤ trailingZeros (laneTrits l h j)) ∧
    (checkV1 l h n = 64 → ∀ j, j < 64 → ¬ n ≤ trailingZeros (laneTrits l h j)) := by
  unfold checkV1
  refine ⟨firstZeroBit_le _, ?_, ?_⟩
  · intro hi
    refine ⟨?_, ?_⟩
    · rw [le_trailingZeros_lane_iff l h _ n hn, ← orDiff_bit_false_iff]
      exact firstZeroBit_bit _ hi
    · intro j hj
      rw [le_trailingZeros_lane_iff l h _ n hn, ← orDiff_bit_false_iff, firstZeroBit_min _ j hj]
      decide
  · intro hi j hj
    rw [le_trailingZeros_lane_iff l h _ n hn, ← orDiff_bit_false_iff,
      firstZeroBit_min _ j (by omega)]
    decide

theorem checkV1_lt_iff (l h : Planes) (n : Nat) (hn : n ≤ 243) :
    checkV1 l h n < 64 ↔ ∃ j, j < 64 ∧ n ≤ trailingZeros (laneTrits l h j) := by
  have ⟨h1, h2, h3⟩ := checkV1_spec l h n hn
  constructor
  · intro hi; exact ⟨_, hi, (h2 hi).1⟩
  · rintro ⟨j, hj, hz⟩
    apply Nat.lt_of_le_of_ne h1
    intro h64
    exact h3 h64 j hj hz

/-- lane 0 is returned as soon as it qualifies -/
theorem checkV1_eq_zero {l h : Planes} {n : Nat} (hn : n ≤ 243) (h0 : n ≤ trailingZeros (laneTrits l h 0)) :
    checkV1 l h n = 0 :=
  Nat.le_zero.mp (firstZeroBit_le_of_bit _ 0
    ((orDiff_bit_false_iff l h _ 0).mpr ((le_trailingZeros_lane_iff l h 0 n hn).mp h0)))

/-- equal planes encode the zero hash in every lane -/
theorem checkV1_same (l : Planes) (n : Nat) : checkV1 l l n = 0 :=
  Nat.le_zero.mp (firstZeroBit_le_of_bit _ 0
    ((orDiff_bit_false_iff l l _ 0).mpr fun _ _ _ => Int.sub_self _))

/-- **P6 conditional soundness of v1 mining.** `F` is the score type (Go `float64`) with a transitive
order, `sc z` the (monotone) score of a hash with `z` trailing zeros, `req` the trailing-zero count the
Go code searches for (the least `z ≤ 243` with `target ≤ sc z`).  A lane accepted by
`checkV1 l h req` has a score meeting the target. -/
theorem checkV1_mine_sound {F : Type} [LE F] (le_trans : ∀ a b c : F, a ≤ b → b ≤ c → a ≤ c)
    (sc : Nat → F) (mono : ∀ a b, a ≤ b → sc a ≤ sc b) (target : F) (req : Nat) (hreq : req ≤ 243)
    (hsat : target ≤ sc req) (l h : Planes) (hi : checkV1 l h req < 64) :
    target ≤ sc (trailingZeros (laneTrits l h (checkV1 l h req))) :=
  le_trans _ _ _ hsat (mono _ _ ((checkV1_spec l h req hreq).2.1 hi).1)

/-- with `req` the *least* such count the test is also complete: it accepts a lane iff some lane of the
block has a score meeting the target. -/
theorem checkV1_mine_exact {F : Type} [LE F] (le_trans : ∀ a b c : F, a ≤ b → b ≤ c → a ≤ c)
    (sc : Nat → F) (mono : ∀ a b, a ≤ b → sc a ≤ sc b) (target : F) (req : Nat) (hreq : req ≤ 243)
    (hsat : target ≤ sc req) (hleast : ∀ z, z < req → ¬ target ≤ sc z) (l h : Planes) :
    checkV1 l h req < 64 ↔ ∃ j, j < 64 ∧ target ≤ sc (trailingZeros (laneTrits l h j)) := by
  rw [checkV1_lt_iff l h req hreq]
  constructor
  · rintro ⟨j, hj, hz⟩
    exact ⟨j, hj, le_trans _ _ _ hsat (mono _ _ hz)⟩
  · rintro ⟨j, hj, hz⟩
    refine ⟨j, hj, Nat.le_of_not_lt fun hlt => hleast _ hlt hz⟩

end Iota.Proofs.Pow
