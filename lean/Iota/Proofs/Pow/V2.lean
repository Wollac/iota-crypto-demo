/-
P5: the v2 lane test `checkV2` is sound and never passes over a block containing a lane whose
difficulty strictly exceeds `lx`.
-/
import Iota.Proofs.Pow.Bits
import Iota.Proofs.Pow.Score

namespace Iota.Proofs.Pow
open Iota.Pow

/-! ### arithmetic -/

/-- hash integer and difficulty bound each other: `x ≤ ⌊M / y⌋ ↔ y ≤ ⌊M / x⌋` -/
theorem le_div_comm {M x y : Nat} (hx : 0 < x) (hy : 0 < y) : x ≤ M / y ↔ y ≤ M / x := by
  rw [Nat.le_div_iff_mul_le hy, Nat.le_div_iff_mul_le hx, Nat.mul_comm]

/-- a hash integer is at most `3^(243-s)` iff its difficulty is at least `3^s` -/
theorem le_pow_iff {x s : Nat} (hs : s ≤ 243) (hx : 0 < x) : x ≤ 3 ^ (243 - s) ↔ 3 ^ s ≤ 3 ^ 243 / x := by
  rw [← Nat.pow_div hs (by decide), le_div_comm hx (Nat.pow_pos (by decide))]

/-! ### the two words of `checkV2` -/

theorem topZero_succ (l h : Planes) (idx a : Nat) (ha : a < 243) :
    TopZero l h idx a ↔ TopZero l h idx (a + 1) ∧ laneTrit l h idx a = 0 := by
  unfold TopZero
  constructor
  · intro H
    exact ⟨fun i h1 h2 => H i (by omega) h2, H a (Nat.le_refl _) ha⟩
  · rintro ⟨H1, H2⟩ i h1 h2
    by_cases hi : i = a
    · subst hi; exact H2
    · exact H1 i (by omega) h2

/-- bit `idx` of `w` is 0 iff lane `idx` has `s` trailing zero trits -/
theorem w_bit_false_iff (l h : Planes) (s idx : Nat) (hs1 : 1 ≤ s) (hs : s ≤ 243) :
    (orDiff l h (243 - (s - 1)) ||| (l.toArray.getD (243 - s) 0 ^^^ h.toArray.getD (243 - s) 0)).getLsbD idx
      = false ↔ TopZero l h idx (243 - s) := by
  rw [topZero_succ l h idx (243 - s) (by omega), BitVec.getLsbD_or, Bool.or_eq_false_iff,
    orDiff_bit_false_iff, laneTrit_eq_zero]
  have : 243 - (s - 1) = 243 - s + 1 := by omega
  rw [this]; rfl

/-- **P5 range** -/
theorem checkV2_le (l h : Planes) (s T : Nat) : checkV2 l h s T ≤ 64 := by
  unfold checkV2
  simp only []
  split
  · exact Nat.le_refl _
  · split
    · exact firstZeroBit_le _
    · cases hf : (List.range 64).find? _ with
      | none => exact Nat.le_refl _
      | some i =>
        have := List.mem_of_find?_eq_some hf
        rw [List.mem_range] at this
        simp only [Option.getD_some]; omega

/-- soundness in terms of `s` and `T` only: an accepted lane either has `s` trailing zeros or its integer is
at most `T`. -/
theorem checkV2_accept (l h : Planes) (s T : Nat) (hs1 : 1 ≤ s) (hs : s ≤ 243)
    (hi : checkV2 l h s T < 64) :
    stateToInt l h (checkV2 l h s T) ≤ 3 ^ (243 - s) ∨ stateToInt l h (checkV2 l h s T) ≤ T := by
  unfold checkV2 at hi ⊢
  simp only [] at hi ⊢
  split at hi
  · omega
  · rw [if_neg ‹_›]
    split at hi
    · rename_i hw
      rw [if_pos hw]
      left
      rw [← topZero_iff, ← w_bit_false_iff l h s _ hs1 hs]
      exact firstZeroBit_bit _ hi
    · rename_i hw
      rw [if_neg hw]
      right
      cases hf : (List.range 64).find? _ with
      | none => rw [hf] at hi; simp at hi
      | some i =>
        have := List.find?_some hf
        simp only [Bool.and_eq_true, decide_eq_true_eq] at this
        simp only [Option.getD_some]
        exact this.2

/-- completeness in terms of `s` and `T` only: a lane with `s - 1` trailing zeros and integer at most `T`
forces acceptance of some lane. -/
theorem checkV2_complete (l h : Planes) (s T : Nat) (j : Nat) (hj : j < 64)
    (hz : TopZero l h j (243 - (s - 1))) (hT : stateToInt l h j ≤ T) : checkV2 l h s T < 64 := by
  have hbit : (orDiff l h (243 - (s - 1))).getLsbD j = false := (orDiff_bit_false_iff l h _ j).mpr hz
  unfold checkV2
  simp only []
  split
  · rename_i hv
    rw [hv, allOnes_getLsbD j hj] at hbit; cases hbit
  · split
    · rename_i hw
      exact (firstZeroBit_lt_iff _).mpr hw
    · cases hf : (List.range 64).find? _ with
      | none =>
        rw [List.find?_range_eq_none] at hf
        have := hf j hj
        simp only [Bool.not_eq_true', Bool.and_eq_false_iff, decide_eq_false_iff_not,
          Bool.not_eq_false'] at this
        have h1 := firstZeroBit_le_of_bit _ j hbit
        have h2 := lt_lenNot_of_bit _ j hj hbit
        rw [hbit] at this
        rcases this with ((h | h) | h) | h
        · omega
        · omega
        · cases h
        · omega
      | some i =>
        have := List.mem_of_find?_eq_some hf
        rw [List.mem_range] at this
        simpa using this

section main
variable (l h : Planes) (lx : Nat) (h8 : 8 ≤ lx) (hlx : lx < 2 ^ 64)
include h8 hlx

/-- **P5 soundness**: an accepted lane has difficulty at least `lx`. -/
theorem checkV2_sound
    (hi : checkV2 l h (sufficientTrailingZeros lx) (targetHash lx) < 64) :
    lx ≤ maxHash / stateToInt l h (checkV2 l h (sufficientTrailingZeros lx) (targetHash lx)) := by
  have hs2 := sufficientTrailingZeros_ge_two lx h8
  have hs41 := sufficientTrailingZeros_le lx hlx
  have hge := sufficientTrailingZeros_ge lx hlx
  generalize sufficientTrailingZeros lx = s at *
  have hpos := stateToInt_pos l h (checkV2 l h s (targetHash lx))
  rcases checkV2_accept l h s (targetHash lx) (by omega) (by omega) hi with hc | hc
  · rw [maxHash_eq]
    exact Nat.le_trans hge ((le_pow_iff (by omega) hpos).mp hc)
  · unfold targetHash at hc
    exact Nat.le_of_succ_le ((le_div_comm hpos (Nat.succ_pos lx)).mp hc)

/-- **P5 no pass-over**: if some lane has difficulty strictly above `lx`, a lane is accepted. -/
theorem checkV2_no_passover
    (hex : ∃ j, j < 64 ∧ maxHash / stateToInt l h j > lx) :
    checkV2 l h (sufficientTrailingZeros lx) (targetHash lx) < 64 := by
  obtain ⟨j, hj, hd⟩ := hex
  have hs2 := sufficientTrailingZeros_ge_two lx h8
  have hs41 := sufficientTrailingZeros_le lx hlx
  have hleast := sufficientTrailingZeros_least lx hlx (sufficientTrailingZeros lx - 1) (by omega)
  generalize sufficientTrailingZeros lx = s at *
  have hpos := stateToInt_pos l h j
  apply checkV2_complete l h s (targetHash lx) j hj
  · rw [topZero_iff, le_pow_iff (by omega) hpos, ← maxHash_eq]
    exact Nat.le_of_lt (Nat.lt_trans hleast hd)
  · exact (le_div_comm (Nat.succ_pos lx) hpos).mp hd

/-- … read backwards: a rejected block holds no lane of difficulty above `lx`. -/
theorem checkV2_rejected (hrej : 64 ≤ checkV2 l h (sufficientTrailingZeros lx) (targetHash lx)) (j : Nat)
    (hj : j < 64) : maxHash / stateToInt l h j ≤ lx :=
  Nat.le_of_not_lt fun hgt => Nat.not_lt.mpr hrej (checkV2_no_passover l h lx h8 hlx ⟨j, hj, hgt⟩)

/-- **P5 score**: an accepted lane scores at least `t` for a message of length `len`, when
`lx = len * t`. -/
theorem checkV2_score (len t : Nat) (hlen : 1 ≤ len) (hlt : lx = len * t)
    (hi : checkV2 l h (sufficientTrailingZeros lx) (targetHash lx) < 64) :
    t ≤ score (laneTrits l h (checkV2 l h (sufficientTrailingZeros lx) (targetHash lx))) len := by
  have hsound := checkV2_sound l h lx h8 hlx hi
  rw [score_eq]
  unfold stateToInt at hsound
  generalize maxHash / toInt _ = d at *
  have h1 : t ≤ d / len := by
    rw [Nat.le_div_iff_mul_le (by omega), Nat.mul_comm]; omega
  have h2 : t ≤ lx := by
    rw [hlt]; exact Nat.le_mul_of_pos_left t (by omega)
  omega

end main

end Iota.Proofs.Pow
