/-
P7: the sequential (single-worker) mining loop returns the first block whose lane test succeeds;
combined with P5 for the v2 lane test and with P6 for the v1 lane test.
-/
import Iota.Proofs.Pow.V2
import Iota.Proofs.Pow.V1

namespace Iota.Proofs.Pow
open Iota.Pow

/-- **P7** -/
theorem mineSeq_some (check : Planes → Planes → Nat) (planes : Nat → Planes × Planes)
    (fuel k b i : Nat) (hm : mineSeq check planes fuel k = some (b, i)) :
    k ≤ b ∧ b < k + fuel ∧ check (planes b).1 (planes b).2 = i ∧ i < 64 ∧
      ∀ b', k ≤ b' → b' < b → 64 ≤ check (planes b').1 (planes b').2 := by
  induction fuel generalizing k with
  | zero => simp [mineSeq] at hm
  | succ fuel ih =>
    rw [mineSeq] at hm
    split at hm
    · rename_i hlt
      simp only [Option.some.injEq, Prod.mk.injEq] at hm
      obtain ⟨rfl, rfl⟩ := hm
      exact ⟨Nat.le_refl _, by omega, rfl, hlt, fun b' h1 h2 => by omega⟩
    · rename_i hge
      obtain ⟨h1, h2, h3, h4, h5⟩ := ih (k + 1) hm
      refine ⟨by omega, by omega, h3, h4, ?_⟩
      intro b' hb1 hb2
      by_cases hb : b' = k
      · subst hb; omega
      · exact h5 b' (by omega) hb2

/-- if the loop gives up, every block it looked at was rejected -/
theorem mineSeq_none (check : Planes → Planes → Nat) (planes : Nat → Planes × Planes)
    (fuel k : Nat) (hm : mineSeq check planes fuel k = none) :
    ∀ b', k ≤ b' → b' < k + fuel → 64 ≤ check (planes b').1 (planes b').2 := by
  induction fuel generalizing k with
  | zero => intro b' h1 h2; omega
  | succ fuel ih =>
    rw [mineSeq] at hm
    split at hm
    · cases hm
    · rename_i hge
      intro b' hb1 hb2
      by_cases hb : b' = k
      · subst hb; omega
      · exact ih (k + 1) hm b' (by omega) (by omega)

/-- **P7 + P5**: single-worker v2 mining with `lx = len * t` (`8 ≤ lx < 2^64`, `1 ≤ len`): the returned lane's
score meets the target `t`, its difficulty is at least `lx`, and no earlier block (from the start block `k`)
contains a lane whose difficulty strictly exceeds `lx`. -/
theorem mineSeq_v2 (planes : Nat → Planes × Planes) (lx len t : Nat) (h8 : 8 ≤ lx) (hlx : lx < 2 ^ 64)
    (hlen : 1 ≤ len) (hlt : lx = len * t) (fuel k b i : Nat)
    (hm : mineSeq (fun l h => checkV2 l h (sufficientTrailingZeros lx) (targetHash lx)) planes fuel k
      = some (b, i)) :
    k ≤ b ∧ i < 64 ∧
    t ≤ score (laneTrits (planes b).1 (planes b).2 i) len ∧
    lx ≤ maxHash / stateToInt (planes b).1 (planes b).2 i ∧
    ∀ b', k ≤ b' → b' < b → ∀ j, j < 64 →
      maxHash / stateToInt (planes b').1 (planes b').2 j ≤ lx := by
  obtain ⟨h1, -, h3, h4, h5⟩ := mineSeq_some _ planes fuel k b i hm
  replace h3 : checkV2 (planes b).1 (planes b).2 (sufficientTrailingZeros lx) (targetHash lx) = i := h3
  subst h3
  exact ⟨h1, h4, checkV2_score _ _ lx h8 hlx len t hlen hlt h4, checkV2_sound _ _ lx h8 hlx h4,
    fun b' hb1 hb2 => checkV2_rejected _ _ lx h8 hlx (h5 b' hb1 hb2)⟩

/-- **P6 + P7**: single-worker v1 mining with the least sufficient trailing-zero count `req`: the returned
lane's score meets the target and no earlier block contains a lane whose score does. -/
theorem mineSeq_v1 {F : Type} [LE F] (le_trans : ∀ a b c : F, a ≤ b → b ≤ c → a ≤ c)
    (sc : Nat → F) (mono : ∀ a b, a ≤ b → sc a ≤ sc b) (target : F) (req : Nat) (hreq : req ≤ 243)
    (hsat : target ≤ sc req) (hleast : ∀ z, z < req → ¬ target ≤ sc z)
    (planes : Nat → Planes × Planes) (fuel k b i : Nat)
    (hm : mineSeq (fun l h => checkV1 l h req) planes fuel k = some (b, i)) :
    k ≤ b ∧ i < 64 ∧
    target ≤ sc (trailingZeros (laneTrits (planes b).1 (planes b).2 i)) ∧
    ∀ b', k ≤ b' → b' < b → ∀ j, j < 64 →
      ¬ target ≤ sc (trailingZeros (laneTrits (planes b').1 (planes b').2 j)) := by
  obtain ⟨h1, -, h3, h4, h5⟩ := mineSeq_some _ planes fuel k b i hm
  replace h3 : checkV1 (planes b).1 (planes b).2 req = i := h3
  subst h3
  refine ⟨h1, h4, checkV1_mine_sound le_trans sc mono target req hreq hsat _ _ h4, ?_⟩
  intro b' hb1 hb2 j hj hz
  have := (checkV1_mine_exact le_trans sc mono target req hreq hsat hleast
    (planes b').1 (planes b').2).mpr ⟨j, hj, hz⟩
  have := h5 b' hb1 hb2
  omega

end Iota.Proofs.Pow
