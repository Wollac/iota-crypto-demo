/-
Bit-plane lemmas for the lane tests: `firstZeroBit`, `lenNot`, `orDiff`, lane trits, and the link
between "the top k trits of a lane are zero" and the integer value of the lane.
-/
import Iota.Proofs.Pow.ToInt

namespace Iota.Proofs.Pow
open Iota.Pow

/-! ### firstZeroBit / lenNot -/

theorem allOnes_getLsbD (j : Nat) (hj : j < 64) : allOnes.getLsbD j = true := by
  unfold allOnes; rw [BitVec.getLsbD_allOnes]; exact decide_eq_true hj

theorem firstZeroBit_cases (w : W) :
    (firstZeroBit w = 64 ∧ ∀ j, j < 64 → w.getLsbD j = true) ∨
    (firstZeroBit w < 64 ∧ w.getLsbD (firstZeroBit w) = false ∧
      ∀ j, j < firstZeroBit w → w.getLsbD j = true) := by
  unfold firstZeroBit
  cases hf : (List.range 64).find? fun i => !w.getLsbD i with
  | none =>
    left
    rw [List.find?_range_eq_none] at hf
    exact ⟨rfl, fun j hj => by simpa using hf j hj⟩
  | some i =>
    right
    rw [List.find?_range_eq_some] at hf
    obtain ⟨h1, h2, h3⟩ := hf
    simp only [Option.getD_some]
    exact ⟨List.mem_range.mp h2, by simpa using h1, fun j hj => by simpa using h3 j hj⟩

theorem firstZeroBit_le (w : W) : firstZeroBit w ≤ 64 := by
  rcases firstZeroBit_cases w with h | h <;> omega

theorem eq_allOnes_iff (w : W) : w = allOnes ↔ ∀ j, j < 64 → w.getLsbD j = true := by
  constructor
  · rintro rfl j hj; exact allOnes_getLsbD j hj
  · intro h
    apply BitVec.eq_of_getLsbD_eq
    intro i hi
    rw [h i hi, allOnes_getLsbD i hi]

theorem firstZeroBit_lt_iff (w : W) : firstZeroBit w < 64 ↔ w ≠ allOnes := by
  rw [Ne, eq_allOnes_iff]
  rcases firstZeroBit_cases w with ⟨h1, h2⟩ | ⟨h1, h2, h3⟩
  · constructor
    · omega
    · intro h; exact absurd h2 h
  · constructor
    · intro _ h
      rw [h _ h1] at h2; cases h2
    · intro _; exact h1

theorem firstZeroBit_bit (w : W) (h : firstZeroBit w < 64) : w.getLsbD (firstZeroBit w) = false := by
  rcases firstZeroBit_cases w with h' | h'
  · omega
  · exact h'.2.1

theorem firstZeroBit_min (w : W) (j : Nat) (hj : j < firstZeroBit w) : w.getLsbD j = true := by
  rcases firstZeroBit_cases w with h' | h'
  · exact h'.2 j (by omega)
  · exact h'.2.2 j hj

theorem firstZeroBit_le_of_bit (w : W) (j : Nat) (hb : w.getLsbD j = false) :
    firstZeroBit w ≤ j := by
  apply Nat.le_of_not_lt
  intro h
  rw [firstZeroBit_min w j h] at hb
  cases hb

theorem lt_lenNot_of_bit (w : W) (j : Nat) (hj : j < 64) (hb : w.getLsbD j = false) :
    j < lenNot w := by
  unfold lenNot
  cases hf : (List.range 64).reverse.find? fun i => !w.getLsbD i with
  | none =>
    rw [List.find?_eq_none] at hf
    have := hf j (by simp [hj])
    simp [hb] at this
  | some i =>
    simp only [Option.map_some, Option.getD_some]
    rw [List.find?_eq_some_iff_append] at hf
    obtain ⟨h1, as, bs, h2, h3⟩ := hf
    -- `j` occurs in `range 64 |>.reverse = as ++ i :: bs`; it is not in `as`, and `bs` is below `i`
    have hmem : j ∈ as ++ i :: bs := by rw [← h2]; simp [hj]
    have hsorted : (as ++ i :: bs).Pairwise (· > ·) := by
      rw [← h2]; exact List.pairwise_reverse.mpr List.pairwise_lt_range
    rw [List.mem_append, List.mem_cons] at hmem
    rcases hmem with hm | rfl | hm
    · have := h3 j hm
      simp [hb] at this
    · omega
    · have := (List.pairwise_append.mp hsorted).2.1
      have := (List.pairwise_cons.mp this).1 j hm
      omega

/-! ### orDiff -/

/-- the difference word of trit position `i`: bit `j` is set iff trit `i` of lane `j` is non-zero. -/
def diffWord (l h : Planes) (i : Nat) : W := l.toArray.getD i 0 ^^^ h.toArray.getD i 0

theorem foldl_or_getLsbD (f : Nat → W) (start n j : Nat) :
    ((List.range n).foldl (fun v i => if start ≤ i then v ||| f i else v) 0).getLsbD j = true ↔
      ∃ i, start ≤ i ∧ i < n ∧ (f i).getLsbD j = true := by
  induction n with
  | zero => simp
  | succ n ih =>
    rw [List.range_succ, List.foldl_append]
    simp only [List.foldl_cons, List.foldl_nil]
    split
    · rename_i hs
      rw [BitVec.getLsbD_or, Bool.or_eq_true, ih]
      constructor
      · rintro (⟨i, h1, h2, h3⟩ | h)
        · exact ⟨i, h1, by omega, h3⟩
        · exact ⟨n, hs, by omega, h⟩
      · rintro ⟨i, h1, h2, h3⟩
        by_cases hi : i = n
        · subst hi; exact Or.inr h3
        · exact Or.inl ⟨i, h1, by omega, h3⟩
    · rename_i hs
      rw [ih]
      constructor
      · rintro ⟨i, h1, h2, h3⟩; exact ⟨i, h1, by omega, h3⟩
      · rintro ⟨i, h1, h2, h3⟩; exact ⟨i, h1, by omega, h3⟩

theorem orDiff_getLsbD (l h : Planes) (start j : Nat) :
    (orDiff l h start).getLsbD j = true ↔
      ∃ i, start ≤ i ∧ i < 243 ∧ (diffWord l h i).getLsbD j = true :=
  foldl_or_getLsbD (diffWord l h) start 243 j

theorem orDiff_getLsbD_false (l h : Planes) (start j : Nat) :
    (orDiff l h start).getLsbD j = false ↔
      ∀ i, start ≤ i → i < 243 → (diffWord l h i).getLsbD j = false := by
  rw [← Bool.not_eq_true, orDiff_getLsbD]
  simp only [not_exists, not_and, Bool.not_eq_true]

/-! ### lane trits -/

theorem laneTrit_valid (l h : Planes) (idx i : Nat) : ValidTrit (laneTrit l h idx i) := by
  unfold laneTrit ValidTrit
  cases (h.toArray.getD i 0).getLsbD idx <;> cases (l.toArray.getD i 0).getLsbD idx <;> simp

/-- bit `idx` of the difference word is 0 iff the trit is zero (also for the invalid (1,1)/(0,0) pairs). -/
theorem laneTrit_eq_zero (l h : Planes) (idx i : Nat) :
    laneTrit l h idx i = 0 ↔ (diffWord l h i).getLsbD idx = false := by
  unfold laneTrit diffWord
  rw [BitVec.getLsbD_xor]
  cases (h.toArray.getD i 0).getLsbD idx <;> cases (l.toArray.getD i 0).getLsbD idx <;> simp

theorem laneTrits_length (l h : Planes) (idx : Nat) : (laneTrits l h idx).length = 243 := by
  simp [laneTrits]

theorem laneTrits_valid (l h : Planes) (idx : Nat) : ∀ t ∈ laneTrits l h idx, ValidTrit t := by
  intro t ht
  simp only [laneTrits, List.mem_map] at ht
  obtain ⟨i, -, rfl⟩ := ht
  exact laneTrit_valid l h idx i

theorem laneTrits_getElem (l h : Planes) (idx i : Nat) (hi : i < (laneTrits l h idx).length) :
    (laneTrits l h idx)[i] = laneTrit l h idx i := by
  simp [laneTrits]

/-- the trits of lane `idx` at positions `a … 242` are all zero -/
def TopZero (l h : Planes) (idx a : Nat) : Prop := ∀ i, a ≤ i → i < 243 → laneTrit l h idx i = 0

theorem orDiff_bit_false_iff (l h : Planes) (a idx : Nat) :
    (orDiff l h a).getLsbD idx = false ↔ TopZero l h idx a := by
  rw [orDiff_getLsbD_false]
  unfold TopZero
  simp only [laneTrit_eq_zero]

theorem stateToInt_eq (l h : Planes) (idx : Nat) :
    stateToInt l h idx = digitsVal (laneTrits l h idx) + 1 :=
  toInt_eq _ (laneTrits_length l h idx)

theorem stateToInt_pos (l h : Planes) (idx : Nat) : 1 ≤ stateToInt l h idx := by
  rw [stateToInt_eq]; omega

theorem stateToInt_le (l h : Planes) (idx : Nat) : stateToInt l h idx ≤ 3 ^ 243 :=
  toInt_le _ (laneTrits_length l h idx) (laneTrits_valid l h idx)

theorem mem_drop_laneTrits (l h : Planes) (idx a : Nat) (t : Int) :
    t ∈ (laneTrits l h idx).drop a ↔ ∃ i, a ≤ i ∧ i < 243 ∧ laneTrit l h idx i = t := by
  rw [List.mem_iff_getElem]
  constructor
  · rintro ⟨k, hk, rfl⟩
    simp only [List.length_drop, laneTrits_length] at hk
    refine ⟨a + k, by omega, by omega, ?_⟩
    rw [List.getElem_drop, laneTrits_getElem]
  · rintro ⟨i, h1, h2, rfl⟩
    refine ⟨i - a, by simp [laneTrits_length]; omega, ?_⟩
    rw [List.getElem_drop, laneTrits_getElem]
    congr 1; omega

/-- **key arithmetic fact**: the trits `a … 242` of a lane are zero iff its integer is at most `3^a`. -/
theorem topZero_iff (l h : Planes) (idx a : Nat) :
    TopZero l h idx a ↔ stateToInt l h idx ≤ 3 ^ a := by
  rw [stateToInt_eq, digitsVal_split a (laneTrits l h idx)]
  have hv := laneTrits_valid l h idx
  have hlow := digitsVal_lt ((laneTrits l h idx).take a)
    (fun t ht => hv t (List.mem_of_mem_take ht))
  have hlow' : digitsVal ((laneTrits l h idx).take a) < 3 ^ a :=
    Nat.lt_of_lt_of_le hlow (Nat.pow_le_pow_right (by decide) (by simp; omega))
  have hz := digitsVal_eq_zero ((laneTrits l h idx).drop a)
    (fun t ht => hv t (List.mem_of_mem_drop ht))
  have htz : TopZero l h idx a ↔ ∀ t ∈ (laneTrits l h idx).drop a, t = 0 := by
    unfold TopZero
    constructor
    · intro H t ht
      obtain ⟨i, h1, h2, rfl⟩ := (mem_drop_laneTrits l h idx a t).mp ht
      exact H i h1 h2
    · intro H i h1 h2
      exact H _ ((mem_drop_laneTrits l h idx a _).mpr ⟨i, h1, h2, rfl⟩)
  rw [htz, ← hz]
  generalize digitsVal ((laneTrits l h idx).drop a) = hi at *
  generalize digitsVal ((laneTrits l h idx).take a) = lo at *
  generalize 3 ^ a = P at *
  constructor
  · rintro rfl; omega
  · intro H
    cases hi with
    | zero => rfl
    | succ n => rw [Nat.mul_succ] at H; omega

end Iota.Proofs.Pow
