/-
Lemmas of the two Curl specifications, `Iota/Spec/CurlP.lean` (trits, one lane) and `Iota/Spec/CurlW.lean`
(words, 64 lanes): entries of a round, the index walk of the unrolled loop that both the Go code and the
assembly routine follow, and the one-block hash.
-/
import Iota.Spec.CurlW

namespace Iota.Spec.CurlP

theorem idx_lt (i : Nat) : idx i < 729 := by unfold idx; omega

/-- stated for a general size: with the literal 729 the kernel evaluates the array. -/
theorem ofFn_getD {n : Nat} (g : Fin n → Int) (i : Nat) :
    (Array.ofFn g).getD i 0 = if h : i < n then g ⟨i, h⟩ else 0 := by
  simp [Array.getD]

theorem round_size (s : State) : (round s).size = 729 := by
  unfold round; exact Array.size_ofFn

theorem round_getD (s : State) {i : Nat} (h : i < 729) :
    (round s).getD i 0 = f (s.getD (idx i) 0) (s.getD (idx (i + 1)) 0) := by
  unfold round; rw [ofFn_getD, dif_pos h]

theorem zeroState_getD (i : Nat) : zeroState.getD i 0 = 0 := by
  unfold zeroState Array.getD
  split
  · exact Array.getElem_replicate _
  · rfl

/-- the two bits `(x ≤ 0, x ≥ 0)` by which the batched code stores a trit decode to its sign. -/
theorem normTrit_sign (x : Int) :
    (if decide (x ≥ 0) then 1 else 0) - (if decide (x ≤ 0) then 1 else 0) = normTrit x := by
  unfold normTrit
  simp only [decide_eq_true_eq]
  split <;> split <;> omega

/-! ### the sponge -/

theorem absorbBlock_state (s : Sponge) (block : List Int) :
    (s.absorbBlock block).state = transform (Array.ofFn (n := 729) fun i =>
      if i.val < 243 then normTrit (block.getD i.val 0) else s.state.getD i.val 0) := by
  simp only [Sponge.absorbBlock]

theorem absorb_succ (s : Sponge) (input : List Int) (n : Nat) :
    s.absorb input (n + 1) = (s.absorbBlock input).absorb (input.drop 243) n := by
  conv => lhs; unfold Sponge.absorb

theorem absorb_one (s : Sponge) (input : List Int) : s.absorb input 1 = s.absorbBlock input := rfl

theorem squeezeBlock_state (s : Sponge) :
    s.squeezeBlock.1.state = if s.squeezing then transform s.state else s.state := rfl

theorem squeeze_succ_snd (s : Sponge) (n : Nat) :
    (s.squeeze (n + 1)).2 = s.squeezeBlock.2 ++ (s.squeezeBlock.1.squeeze n).2 := rfl

theorem squeeze_one (s : Sponge) : (s.squeeze 1).2 = s.squeezeBlock.2 :=
  (squeeze_succ_snd s 0).trans (List.append_nil _)

/-- the hash of a one-block message is the first 243 trits of the 81-round permutation of
(block ‖ 486 zeros). -/
theorem one_block_hash (block : List Int) :
    ((Sponge.init.absorb block 1).squeeze 1).2 = (List.range 243).map fun i =>
      (transform (Array.ofFn (n := 729) fun i =>
        if i.val < 243 then normTrit (block.getD i.val 0) else 0)).getD i 0 := by
  rw [absorb_one, squeeze_one]
  simp only [Sponge.squeezeBlock, Sponge.absorbBlock, Sponge.init, zeroState_getD, Bool.false_eq_true,
    if_false]

end Iota.Spec.CurlP

namespace Iota.Spec.CurlW
open Iota.Curl Iota.Spec.CurlP

/-! ### total reads and writes of a plane -/

/-- total write: out of range it does nothing. -/
def wrW (p : Plane) (i : Nat) (x : W) : Plane := p.setIfInBounds i x

theorem rdW_eq (p : Plane) {i : Nat} (h : i < 729) : rdW p i = p[i] := by
  simp [rdW, h]

theorem rdW_of_ge (p : Plane) {i : Nat} (h : 729 ≤ i) : rdW p i = 0 := by
  simp only [rdW, Array.getD, Vector.size_toArray]
  rw [dif_neg (by omega)]

theorem set_eq_wrW (p : Plane) {i : Nat} (h : i < 729) (x : W) : p.set i x h = wrW p i x := by
  simp [wrW, Vector.setIfInBounds, Vector.set, Array.setIfInBounds, h]

theorem rdW_wrW (p : Plane) (i j : Nat) (x : W) (hi : i < 729) :
    rdW (wrW p i x) j = if i = j then x else rdW p j := by
  simp only [rdW, wrW]
  by_cases hj : j < 729
  · simp [hj, Array.getElem_setIfInBounds]
  · have : i ≠ j := by omega
    simp [hj, this]

theorem plane_ext {p q : Plane} (h : ∀ j, j < 729 → rdW p j = rdW q j) : p = q :=
  Vector.ext fun j hj => by rw [← rdW_eq p hj, ← rdW_eq q hj, h j hj]

/-! ### the closed-form round -/

/-- the s-box outputs (low, high plane) for inputs at positions `a` and `b` of the planes `FL`, `FH`. -/
def sL (FL FH : Plane) (a b : Nat) : W := (sBox (rdW FL a) (rdW FH a) (rdW FL b) (rdW FH b)).1
def sH (FL FH : Plane) (a b : Nat) : W := (sBox (rdW FL a) (rdW FH a) (rdW FL b) (rdW FH b)).2

theorem rdW_roundW_fst (FL FH : Plane) {j : Nat} (hj : j < 729) :
    rdW (roundW (FL, FH)).1 j = sL FL FH (idx j) (idx (j + 1)) := by
  rw [rdW_eq _ hj]
  simp only [roundW, Vector.getElem_ofFn, sL]

theorem rdW_roundW_snd (FL FH : Plane) {j : Nat} (hj : j < 729) :
    rdW (roundW (FL, FH)).2 j = sH FL FH (idx j) (idx (j + 1)) := by
  rw [rdW_eq _ hj]
  simp only [roundW, Vector.getElem_ofFn, sH]

theorem roundsW_succ (n : Nat) (lh : Plane × Plane) : roundsW (n + 1) lh = roundsW n (roundW lh) := rfl

/-! ### the walk

A round is computed in the order `j = 0, 1, 2, …`, four entries per iteration from `j = 1` on, and the
position `idx j = 364·j mod 729` is not multiplied out but carried along: with `t = 364 − 2k`, positions
`4k+1 … 4k+5` are `t, t+364, t−1, t+363, t−2`.  `q` is the plane being computed (entry `j` is `s` of the
positions `idx j`, `idx (j+1)`), `p` the buffer it is written to. -/

theorem idx_walk {k t : Nat} (hk : k < 182) (ht : t + 2 * k = 364) :
    idx (4 * k + 1) = t ∧ idx (4 * k + 2) = t + 364 ∧ idx (4 * k + 3) = t - 1 ∧
    idx (4 * k + 4) = t + 363 ∧ idx (4 * k + 5) = t - 2 := by
  unfold idx; omega

/-- writing entry `i` extends the agreement of `p` with `q` from below `i` to below `i + 1`. -/
theorem fill {p q : Plane} {i : Nat} {v : W} (hi : i < 729) (hv : rdW q i = v)
    (hp : ∀ j, j < i → rdW p j = rdW q j) : ∀ j, j < i + 1 → rdW (wrW p i v) j = rdW q j := by
  intro j hj
  rw [rdW_wrW _ _ _ _ hi]
  split
  · next h => rw [← h, hv]
  · next h => exact hp j (by omega)

theorem walk0 {s : Nat → Nat → W} {q : Plane} (hq : ∀ j, j < 729 → rdW q j = s (idx j) (idx (j + 1)))
    (p : Plane) : ∀ j, j < 4 * 0 + 1 → rdW (wrW p 0 (s 0 364)) j = rdW q j :=
  fill (by omega) (hq 0 (by omega)) fun _ h => absurd h (Nat.not_lt_zero _)

theorem walk4 {s : Nat → Nat → W} {q : Plane} (hq : ∀ j, j < 729 → rdW q j = s (idx j) (idx (j + 1)))
    {k t : Nat} (hk : k < 182) (ht : t + 2 * k = 364) {p : Plane}
    (hp : ∀ j, j < 4 * k + 1 → rdW p j = rdW q j) :
    ∀ j, j < 4 * (k + 1) + 1 →
      rdW (wrW (wrW (wrW (wrW p (4 * k + 1) (s t (t + 364))) (4 * k + 1 + 1) (s (t + 364) (t - 1)))
        (4 * k + 1 + 2) (s (t - 1) (t + 363))) (4 * k + 1 + 3) (s (t + 363) (t - 2))) j = rdW q j := by
  obtain ⟨i1, i2, i3, i4, i5⟩ := idx_walk hk ht
  have h1 : rdW q (4 * k + 1) = s t (t + 364) := by rw [hq _ (by omega), i1, i2]
  have h2 : rdW q (4 * k + 1 + 1) = s (t + 364) (t - 1) := by rw [hq _ (by omega), i2, i3]
  have h3 : rdW q (4 * k + 1 + 2) = s (t - 1) (t + 363) := by rw [hq _ (by omega), i3, i4]
  have h4 : rdW q (4 * k + 1 + 3) = s (t + 363) (t - 2) := by rw [hq _ (by omega), i4, i5]
  have b1 : 4 * k + 1 < 729 := by omega
  have b2 : 4 * k + 1 + 1 < 729 := by omega
  have b3 : 4 * k + 1 + 2 < 729 := by omega
  have b4 : 4 * k + 1 + 3 < 729 := by omega
  exact fill b4 h4 (fill b3 h3 (fill b2 h2 (fill b1 h1 hp)))

end Iota.Spec.CurlW

namespace Iota.Proofs.Curl
open Iota.Curl Iota.Spec.CurlP Iota.Spec.CurlW

theorem roundsW_succ' (n : Nat) (lh : Plane × Plane) : roundsW (n + 1) lh = roundW (roundsW n lh) := by
  induction n generalizing lh with
  | zero => rfl
  | succ n ih => rw [roundsW_succ, ih, ← roundsW_succ]

end Iota.Proofs.Curl
