/- charset and checksum lemmas for the Bech32 model. -/
import Iota.Model.Bech32
import Iota.Proofs.B1T6
import Iota.Proofs.Digits
import Iota.Proofs.BCH.Algebra

namespace Iota.Proofs.Bech32
open Iota.Bech32 Iota.Proofs

/-! ### charset -/

theorem decMap_spec : ∀ c : UInt8, decMap c ≠ 0xFF →
    (decMap c).toNat < 32 ∧ charset.getD (decMap c).toNat 0 = c := by
  apply forall_byte
  decide +kernel

theorem charset_spec : ∀ s : UInt8, s.toNat < 32 →
    decMap (charset.getD s.toNat 0) = s ∧ (charset.getD s.toNat 0).toNat < 128 ∧
    charset.getD s.toNat 0 ≠ 49 ∧ isUpperAscii (charset.getD s.toNat 0) = false := by
  apply forall_byte
  decide +kernel

theorem charsetDecode_encode (syms : List UInt8) (h : ∀ s ∈ syms, s.toNat < 32) :
    charsetDecode (charsetEncode syms) = .ok syms := by
  induction syms with
  | nil => rfl
  | cons s syms ih =>
    have hs := charset_spec s (h s (by simp))
    have hne : decMap (charset.getD s.toNat 0) ≠ 0xFF := by
      rw [hs.1]; intro h0
      have := h s (by simp); rw [h0] at this; simp at this
    simp only [charsetEncode, List.map_cons, charsetDecode, hne, if_false]
    have := ih (fun x hx => h x (by simp [hx]))
    simp only [charsetEncode] at this
    rw [this, hs.1]

theorem charsetDecode_ok (chars : Str) : ∀ syms, charsetDecode chars = .ok syms →
    chars = charsetEncode syms ∧ ∀ s ∈ syms, s.toNat < 32 := by
  induction chars with
  | nil =>
    intro syms h
    simp only [charsetDecode, Except.ok.injEq] at h
    subst h; exact ⟨rfl, by simp⟩
  | cons c cs ih =>
    intro syms h
    simp only [charsetDecode] at h
    split at h
    · simp at h
    · rename_i hne
      split at h
      · rename_i ds hds
        simp only [Except.ok.injEq] at h
        obtain ⟨hcs, hlt⟩ := ih ds hds
        obtain ⟨h32, hget⟩ := decMap_spec c hne
        subst h
        refine ⟨?_, ?_⟩
        · simp only [charsetEncode, List.map_cons, hget]
          rw [hcs]; rfl
        · intro s hs
          rcases List.mem_cons.mp hs with rfl | hs
          · exact h32
          · exact hlt s hs
      · simp at h

theorem charsetDecode_err (chars : Str) : ∀ n, charsetDecode chars = .error n → n < chars.length := by
  induction chars with
  | nil => intro n h; simp [charsetDecode] at h
  | cons c cs ih =>
    intro n h
    simp only [charsetDecode] at h
    split at h
    · simp only [Except.error.injEq] at h; subst h; simp
    · split at h
      · simp at h
      · rename_i m hm
        simp only [Except.error.injEq] at h
        have := ih m hm
        subst h; simp; omega

/-! ### polymod -/

theorem xor_add (a b i : Nat) (hb : b < 2 ^ i) : (a * 2 ^ i) ^^^ b = a * 2 ^ i + b := by
  have hd : ((a * 2 ^ i) ^^^ b) / 2 ^ i = a := by
    rw [Nat.xor_div_two_pow, Nat.mul_div_cancel _ (Nat.pow_pos (by omega)), Nat.div_eq_of_lt hb]
    simp
  have hm : ((a * 2 ^ i) ^^^ b) % 2 ^ i = b := by
    rw [Nat.xor_mod_two_pow, Nat.mul_mod_left, Nat.mod_eq_of_lt hb]
    simp
  have := Nat.div_add_mod ((a * 2 ^ i) ^^^ b) (2 ^ i)
  rw [hd, hm] at this
  rw [← this, Nat.mul_comm]

theorem polymod_lt (vs : List UInt8) : polymod vs < 2 ^ 30 := BCH.foldl_polymodStep_lt vs 1 (by omega)

/-- big-endian base-32 value of a symbol list. -/
def pack : List UInt8 → Nat := List.foldl (fun acc (c : UInt8) => acc * 32 + c.toNat) 0

theorem pack_foldl_lt (cs : List UInt8) (h : ∀ c ∈ cs, c.toNat < 32) (acc : Nat) :
    List.foldl (fun acc (c : UInt8) => acc * 32 + c.toNat) acc cs < (acc + 1) * 32 ^ cs.length := by
  rw [Digits.foldl_pos 32 UInt8.toNat, Nat.add_mul, Nat.one_mul]
  exact Nat.add_lt_add_left (Digits.foldl_pos_lt 32 UInt8.toNat cs h) _

/-- from a state with room for them the steps only shift the symbols in: the state stays below bit 25
before each step, so the generator is never mixed in. -/
theorem foldl_step_pack (cs : List UInt8) (h : ∀ c ∈ cs, c.toNat < 32) (d : Nat)
    (hd : (d + 1) * 32 ^ cs.length ≤ 2 ^ 30) :
    cs.foldl polymodStep d = cs.foldl (fun acc (c : UInt8) => acc * 32 + c.toNat) d := by
  induction cs generalizing d with
  | nil => rfl
  | cons c cs ih =>
    have hc := h c (by simp)
    rw [List.length_cons, Nat.pow_succ] at hd
    have h32 : 32 ≤ 32 ^ cs.length * 32 := Nat.le_mul_of_pos_left 32 (Nat.pow_pos (by omega))
    have hd' : d < 2 ^ 25 := by have := Nat.le_trans (Nat.mul_le_mul_left (d + 1) h32) hd; omega
    rw [List.foldl_cons, List.foldl_cons, BCH.polymodStep_eq, BCH.XN_def, Nat.mod_eq_of_lt hd',
      Nat.div_eq_of_lt hd', BCH.genMix_zero, Nat.xor_zero, xor_add d c.toNat 5 (by omega)]
    apply ih (fun x hx => h x (by simp [hx]))
    calc (d * 2 ^ 5 + c.toNat + 1) * 32 ^ cs.length ≤ (d + 1) * 32 * 32 ^ cs.length :=
          Nat.mul_le_mul_right _ (by omega)
      _ = (d + 1) * (32 ^ cs.length * 32) := by rw [Nat.mul_assoc, Nat.mul_comm 32]
      _ ≤ 2 ^ 30 := hd

/-- `polymod` is affine, so the six checksum symbols enter through their syndrome from state `0`,
which is their packed value. -/
theorem polymod_append_checksum (v cs : List UInt8) (hcs : ∀ c ∈ cs, c.toNat < 32) (hlen : cs.length = 6) :
    polymod (v ++ cs) = polymod (v ++ [0, 0, 0, 0, 0, 0]) ^^^ pack cs := by
  have h := BCH.foldl_xor [0, 0, 0, 0, 0, 0] cs hlen.symm _ 0 (polymod_lt v) (by decide)
  have hz : List.zipWith (· ^^^ ·) [0, 0, 0, 0, 0, 0] cs = cs :=
    match cs, hlen with
    | [_, _, _, _, _, _], _ => by simp only [List.zipWith_cons_cons, List.zipWith_nil_right, UInt8.zero_xor]
  rw [hz, Nat.xor_zero, foldl_step_pack cs hcs 0 (by rw [hlen]; decide)] at h
  unfold polymod
  rw [List.foldl_append, List.foldl_append]
  exact h

theorem ofNat_toNat (n : Nat) (h : n < 256) : (UInt8.ofNat n).toNat = n := UInt8.toNat_ofNat_of_lt' h

/-- the six 5-bit fields of a 30-bit value, most significant first. -/
def fields (pm : Nat) : List UInt8 :=
  [UInt8.ofNat ((pm / 2 ^ 25) % 32), UInt8.ofNat ((pm / 2 ^ 20) % 32), UInt8.ofNat ((pm / 2 ^ 15) % 32),
   UInt8.ofNat ((pm / 2 ^ 10) % 32), UInt8.ofNat ((pm / 2 ^ 5) % 32), UInt8.ofNat (pm % 32)]

theorem and31 (x : Nat) : x &&& 31 = x % 32 := Nat.and_two_pow_sub_one_eq_mod x 5

theorem createChecksum_eq (hrp : Str) (blocks : List UInt8) :
    createChecksum hrp blocks = fields (polymod (hrpExpand hrp ++ blocks ++ [0, 0, 0, 0, 0, 0]) ^^^ 1) := by
  simp [createChecksum, fields, List.range, List.range.loop, and31, Nat.shiftRight_eq_div_pow]

theorem fields_spec (pm : Nat) (h : pm < 2 ^ 30) :
    (fields pm).length = 6 ∧ (∀ c ∈ fields pm, c.toNat < 32) ∧ pack (fields pm) = pm := by
  refine ⟨rfl, ?_, ?_⟩
  · intro c hc
    simp only [fields, List.mem_cons, List.not_mem_nil, or_false] at hc
    rcases hc with rfl | rfl | rfl | rfl | rfl | rfl <;> (rw [ofNat_toNat _ (by omega)]; omega)
  · simp only [pack, fields, List.foldl_cons, List.foldl_nil]
    repeat rw [ofNat_toNat _ (by omega)]
    omega

theorem fields_unique (cs : List UInt8) (hlen : cs.length = 6) (hlt : ∀ c ∈ cs, c.toNat < 32) :
    cs = fields (pack cs) := by
  match cs, hlen with
  | [c0, c1, c2, c3, c4, c5], _ =>
    have h0 := hlt c0 (by simp); have h1 := hlt c1 (by simp); have h2 := hlt c2 (by simp)
    have h3 := hlt c3 (by simp); have h4 := hlt c4 (by simp); have h5 := hlt c5 (by simp)
    simp only [pack, fields, List.foldl_cons, List.foldl_nil, List.cons.injEq, and_true]
    refine ⟨?_, ?_, ?_, ?_, ?_, ?_⟩ <;> apply UInt8.toNat_inj.mp <;> rw [ofNat_toNat _ (by omega)] <;> omega

/-- `bech32CreateChecksum` makes `bech32VerifyChecksum` succeed. -/
theorem verify_create (hrp : Str) (data : List UInt8) :
    verifyChecksum hrp (data ++ createChecksum hrp data) = true := by
  have hP := polymod_lt (hrpExpand hrp ++ data ++ [0, 0, 0, 0, 0, 0])
  have hpm : polymod (hrpExpand hrp ++ data ++ [0, 0, 0, 0, 0, 0]) ^^^ 1 < 2 ^ 30 :=
    Nat.xor_lt_two_pow hP (by omega)
  obtain ⟨hl, hlt, hpack⟩ := fields_spec _ hpm
  unfold verifyChecksum
  rw [createChecksum_eq, ← List.append_assoc, polymod_append_checksum _ _ hlt hl, hpack,
    ← Nat.xor_assoc, Nat.xor_self, Nat.zero_xor]
  rfl

/-- a six-symbol tail that verifies is the created checksum. -/
theorem checksum_unique (hrp : Str) (data cs : List UInt8) (hlen : cs.length = 6)
    (hlt : ∀ c ∈ cs, c.toNat < 32) (hv : verifyChecksum hrp (data ++ cs) = true) :
    cs = createChecksum hrp data := by
  unfold verifyChecksum at hv
  rw [← List.append_assoc, polymod_append_checksum _ _ hlt hlen] at hv
  simp only [beq_iff_eq] at hv
  have : pack cs = polymod (hrpExpand hrp ++ data ++ [0, 0, 0, 0, 0, 0]) ^^^ 1 := by
    have h2 := congrArg (fun x => polymod (hrpExpand hrp ++ data ++ [0, 0, 0, 0, 0, 0]) ^^^ x) hv
    simp only [← Nat.xor_assoc, Nat.xor_self, Nat.zero_xor] at h2
    exact h2
  rw [createChecksum_eq, ← this]
  exact fields_unique cs hlen hlt

theorem createChecksum_spec (hrp : Str) (data : List UInt8) :
    (createChecksum hrp data).length = 6 ∧ ∀ c ∈ createChecksum hrp data, c.toNat < 32 := by
  have hP := polymod_lt (hrpExpand hrp ++ data ++ [0, 0, 0, 0, 0, 0])
  have hpm : polymod (hrpExpand hrp ++ data ++ [0, 0, 0, 0, 0, 0]) ^^^ 1 < 2 ^ 30 :=
    Nat.xor_lt_two_pow hP (by omega)
  rw [createChecksum_eq]
  exact ⟨(fields_spec _ hpm).1, (fields_spec _ hpm).2.1⟩

end Iota.Proofs.Bech32
