import Iota.Proofs.B1T6

namespace Iota.Proofs.B1T8
open Iota.B1T8

def bit2 : Fin 2 → Int
  | 0 => 0 | 1 => 1

theorem not_bad {t : Int} (h : badTrit t = false) : ∃ i : Fin 2, t = bit2 i := by
  simp only [badTrit, Bool.not_eq_false', Bool.or_eq_true, beq_iff_eq] at h
  rcases h with h | h
  · exact ⟨0, h⟩
  · exact ⟨1, h⟩

theorem byte_facts : ∀ b : UInt8, packByte (encodeByte b) = some b ∧
    encodeByte b = (List.range 8).map (fun i => (((b.toNat >>> i) % 2 : Nat) : Int)) :=
  forall_byte (by decide +kernel)

theorem group_facts : ∀ i0 i1 i2 i3 i4 i5 i6 i7 : Fin 2,
    ∀ b ∈ packByte [bit2 i0, bit2 i1, bit2 i2, bit2 i3, bit2 i4, bit2 i5, bit2 i6, bit2 i7],
    encodeByte b = [bit2 i0, bit2 i1, bit2 i2, bit2 i3, bit2 i4, bit2 i5, bit2 i6, bit2 i7] := by
  decide +kernel

theorem packByte_none_iff (g : List Int) : packByte g = none ↔ g.any badTrit = true := by
  unfold packByte
  split <;> simp_all

theorem group_sound {t0 t1 t2 t3 t4 t5 t6 t7 : Int} {b : UInt8}
    (h : packByte [t0,t1,t2,t3,t4,t5,t6,t7] = some b) :
    encodeByte b = [t0,t1,t2,t3,t4,t5,t6,t7] := by
  have hn : ¬ ([t0,t1,t2,t3,t4,t5,t6,t7].any badTrit = true) := by
    intro hb
    rw [← packByte_none_iff, h] at hb
    simp at hb
  simp only [List.any_cons, List.any_nil, Bool.or_false, Bool.or_eq_true, not_or,
    Bool.not_eq_true] at hn
  obtain ⟨h0, h1, h2, h3, h4, h5, h6, h7⟩ := hn
  obtain ⟨i0, rfl⟩ := not_bad h0
  obtain ⟨i1, rfl⟩ := not_bad h1
  obtain ⟨i2, rfl⟩ := not_bad h2
  obtain ⟨i3, rfl⟩ := not_bad h3
  obtain ⟨i4, rfl⟩ := not_bad h4
  obtain ⟨i5, rfl⟩ := not_bad h5
  obtain ⟨i6, rfl⟩ := not_bad h6
  obtain ⟨i7, rfl⟩ := not_bad h7
  exact group_facts i0 i1 i2 i3 i4 i5 i6 i7 b h

theorem encode_cons (b : UInt8) (bs : List UInt8) : encode (b :: bs) = encodeByte b ++ encode bs := by
  simp [encode]

theorem decode_group_append (g rest : List Int) (hg : g.length = 8) :
    decode (g ++ rest) =
      match packByte g with
      | none => ([], some .invalidTrit)
      | some b => (b :: (decode rest).1, (decode rest).2) := by
  match g, hg with
  | [_,_,_,_,_,_,_,_], _ =>
    simp only [List.cons_append, List.nil_append, decode]
    rfl

theorem decode_encode_append (bs : List UInt8) (rest : List Int) :
    decode (encode bs ++ rest) = (bs ++ (decode rest).1, (decode rest).2) := by
  induction bs with
  | nil => simp [encode]
  | cons b bs ih =>
    rw [encode_cons, List.append_assoc, decode_group_append _ _ rfl, (byte_facts b).1, ih]
    rfl

theorem decode_nil : decode [] = ([], none) := by simp [decode]

theorem decode_encode (bs : List UInt8) : decode (encode bs) = (bs, none) := by
  have := decode_encode_append bs []
  simpa [decode_nil] using this

theorem decode_ok_imp (ts : List Int) : ∀ bs, decode ts = (bs, none) → ts = encode bs := by
  fun_induction decode ts with
  | case1 t0 t1 t2 t3 t4 t5 t6 t7 rest hd =>
    intro bs h; simp at h
  | case2 t0 t1 t2 t3 t4 t5 t6 t7 rest b hd r ih =>
    intro bs h
    simp only [Prod.mk.injEq] at h
    have hg := group_sound hd
    have hr := ih r.1 (Prod.ext rfl h.2)
    rw [← h.1, encode_cons, hg, ← hr]
    rfl
  | case3 =>
    intro bs h
    simp only [Prod.mk.injEq] at h
    rw [← h.1]; simp [encode]
  | case4 rem h1 h2 hb =>
    intro bs h; simp at h
  | case5 rem h1 h2 hb =>
    intro bs h; simp at h

end Iota.Proofs.B1T8
