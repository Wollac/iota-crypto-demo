/-
Primality of the secp256k1 field prime `P`, the secp256k1 group order `N` and the edwards25519
subgroup order `L`, by Pratt certificates: Mathlib's `lucas_primality` applied recursively along the
factorisation of `p - 1`.  Every numeric side condition (`a^(p-1) ≡ 1`, `a^((p-1)/q) ≢ 1 (mod p)`,
`∏ q^e = p - 1`) is one Boolean `check p a fs`; the whole certificate tree is one table, checked in one
evaluation by the kernel (`decide +kernel`, GMP naturals), so the proofs rest on the three standard
axioms only.  The table (`small`, `cert`) is printed by `lean/tools/mkprimes.py` from `cert.json`.
-/
import Mathlib.NumberTheory.LucasPrimality
import Iota.Model.Secp256k1
import Iota.Model.Edwards

namespace Iota.Proofs.Primes

/-- The kernel evaluates call-by-name; `force` makes it evaluate `x` to a literal before going on. -/
@[inline] def force {α : Sort _} (x : Nat) (k : Nat → α) : α :=
  match x with
  | 0 => k 0
  | n + 1 => k (n + 1)

theorem force_eq {α : Sort _} (x : Nat) (k : Nat → α) : force x k = k x := by
  cases x <;> rfl

/-- square-and-multiply on the binary digits of `e`, most significant first; structural on fuel -/
def powModAux (a m : Nat) : Nat → Nat → Nat
  | 0, _ => 1 % m
  | fuel + 1, e =>
    if e = 0 then 1 % m
    else
      force (powModAux a m fuel (e / 2)) fun h =>
      force (h * h % m) fun s =>
      if e % 2 = 1 then s * a % m else s

/-- `a ^ e % m`, in a form the kernel evaluates in `O(log e)` multiplications -/
def powMod (a e m : Nat) : Nat := powModAux a m e e

theorem powModAux_eq (a m : Nat) : ∀ fuel e, e ≤ fuel → powModAux a m fuel e = a ^ e % m := by
  intro fuel
  induction fuel with
  | zero =>
    intro e he
    have : e = 0 := by omega
    subst this
    simp [powModAux]
  | succ fuel ih =>
    intro e he
    unfold powModAux
    by_cases h0 : e = 0
    · subst h0; simp
    · rw [if_neg h0, force_eq, force_eq, ih (e / 2) (by omega)]
      have hpow : a ^ e = a ^ (e / 2) * a ^ (e / 2) * a ^ (e % 2) := by
        rw [← pow_add, ← pow_add]
        congr 1
        omega
      rw [hpow]
      by_cases h1 : e % 2 = 1
      · rw [if_pos h1, h1, pow_one]
        simp [Nat.mul_mod]
      · have h2 : e % 2 = 0 := by omega
        rw [if_neg h1, h2, pow_zero, mul_one]
        simp [Nat.mul_mod]

theorem powMod_eq (a e m : Nat) : powMod a e m = a ^ e % m :=
  powModAux_eq a m e e (Nat.le_refl e)

/-- `∏ q ^ e` over a factor list -/
def prodPow : List (Nat × Nat) → Nat
  | [] => 1
  | f :: fs => f.1 ^ f.2 * prodPow fs

/-- every base of a factor list is prime, as a nested conjunction -/
def AllPrime : List (Nat × Nat) → Prop
  | [] => True
  | f :: fs => Nat.Prime f.1 ∧ AllPrime fs

theorem AllPrime.mem : ∀ {fs : List (Nat × Nat)}, AllPrime fs → ∀ f ∈ fs, Nat.Prime f.1
  | [], _, f, hf => by cases hf
  | g :: gs, h, f, hf => by
    rcases List.mem_cons.1 hf with rfl | hf
    · exact h.1
    · exact AllPrime.mem h.2 f hf

theorem exists_of_dvd_prodPow {q : Nat} (hq : q.Prime) :
    ∀ fs : List (Nat × Nat), AllPrime fs → q ∣ prodPow fs → ∃ f ∈ fs, f.1 = q
  | [], _, h => by
    have := Nat.le_of_dvd Nat.one_pos h
    have := hq.one_lt
    omega
  | f :: fs, hp, h => by
    rcases (Nat.Prime.dvd_mul hq).1 h with h | h
    · have := (Nat.prime_dvd_prime_iff_eq hq hp.1).1 (hq.dvd_of_dvd_pow h)
      exact ⟨f, List.mem_cons_self, this.symm⟩
    · obtain ⟨g, hg, e⟩ := exists_of_dvd_prodPow hq fs hp.2 h
      exact ⟨g, List.mem_cons_of_mem _ hg, e⟩

/-- all numeric side conditions of one Pratt node -/
def check (p a : Nat) (fs : List (Nat × Nat)) : Bool :=
  decide (1 < p) && (prodPow fs == p - 1) && (powMod a (p - 1) p == 1) &&
    fs.all fun f => powMod a ((p - 1) / f.1) p != 1

theorem natCast_pow_eq_one_iff {p : Nat} (hp : 1 < p) (a e : Nat) :
    ((a : ZMod p) ^ e = 1) ↔ a ^ e % p = 1 := by
  rw [← Nat.cast_pow, ← Nat.cast_one (R := ZMod p), ZMod.natCast_eq_natCast_iff',
    Nat.mod_eq_of_lt hp]

/-- one Pratt node: `a` has order `p - 1` modulo `p` -/
theorem pratt (p a : Nat) (fs : List (Nat × Nat)) (hprime : AllPrime fs)
    (hc : check p a fs = true) : Nat.Prime p := by
  simp only [check, Bool.and_eq_true, decide_eq_true_eq, beq_iff_eq, List.all_eq_true,
    bne_iff_ne, ne_eq, powMod_eq] at hc
  obtain ⟨⟨⟨hp, hprod⟩, h1⟩, hq⟩ := hc
  refine lucas_primality p (a : ZMod p) ((natCast_pow_eq_one_iff hp a _).2 h1) ?_
  intro q hqp hqd
  rw [← hprod] at hqd
  obtain ⟨f, hf, rfl⟩ := exists_of_dvd_prodPow hqp fs hprime hqd
  rw [ne_eq, natCast_pow_eq_one_iff hp]
  exact hq f hf

theorem AllPrime.of_mem : ∀ {fs : List (Nat × Nat)}, (∀ f ∈ fs, Nat.Prime f.1) → AllPrime fs
  | [], _ => trivial
  | _ :: _, h =>
    ⟨h _ List.mem_cons_self, AllPrime.of_mem fun g hg => h g (List.mem_cons_of_mem _ hg)⟩

/-- one line of the certificate: `a` has order `p - 1` modulo `p`, and `p - 1 = ∏ q ^ e` over `fs` -/
structure Node where
  p : Nat
  a : Nat
  fs : List (Nat × Nat)

/-- every node passes `check`, and each prime it names is in `known` or is the `p` of an earlier node -/
def checkAll (known : List Nat) : List Node → Bool
  | [] => true
  | ⟨p, a, fs⟩ :: ns =>
    fs.all (fun f => known.contains f.1) && check p a fs && checkAll (p :: known) ns

theorem checkAll_sound : ∀ (ns : List Node) (known : List Nat), (∀ q ∈ known, q.Prime) →
    checkAll known ns = true → ∀ n ∈ ns, n.p.Prime
  | [], _, _, _, _, hn => by cases hn
  | m :: ms, known, hk, h, n, hn => by
    simp only [checkAll, Bool.and_eq_true, List.all_eq_true, List.contains_iff_mem] at h
    obtain ⟨⟨hfs, hc⟩, hms⟩ := h
    have hm : m.p.Prime := pratt m.p m.a m.fs (AllPrime.of_mem fun f hf => hk _ (hfs f hf)) hc
    rcases List.mem_cons.1 hn with rfl | hn
    · exact hm
    · exact checkAll_sound ms (m.p :: known) (List.forall_mem_cons.2 ⟨hm, hk⟩) hms n hn

-- BEGIN table (mkprimes.py)
/-- the primes below 200 that occur in the certificate; primality by trial division -/
def small : List Nat :=
  [2, 3, 5, 7, 11, 13, 17, 19, 23, 29, 31, 41, 43, 47, 53, 59, 67, 73, 79, 83, 97, 101, 103, 109, 113, 131, 149, 199]
/-- the certificate tree of `P`, `N` and `L`, ascending, so that every factor comes before its multiple -/
def cert : List Node := [
  ⟨239, 7, [(2, 1), (7, 1), (17, 1)]⟩,
  ⟨269, 2, [(2, 2), (67, 1)]⟩,
  ⟨271, 6, [(2, 1), (3, 3), (5, 1)]⟩,
  ⟨293, 2, [(2, 2), (73, 1)]⟩,
  ⟨307, 5, [(2, 1), (3, 2), (17, 1)]⟩,
  ⟨419, 2, [(2, 1), (11, 1), (19, 1)]⟩,
  ⟨443, 2, [(2, 1), (13, 1), (17, 1)]⟩,
  ⟨461, 2, [(2, 2), (5, 1), (23, 1)]⟩,
  ⟨631, 3, [(2, 1), (3, 2), (5, 1), (7, 1)]⟩,
  ⟨797, 2, [(2, 2), (199, 1)]⟩,
  ⟨887, 5, [(2, 1), (443, 1)]⟩,
  ⟨971, 6, [(2, 1), (5, 1), (97, 1)]⟩,
  ⟨1361, 3, [(2, 4), (5, 1), (17, 1)]⟩,
  ⟨1373, 2, [(2, 2), (7, 3)]⟩,
  ⟨1409, 3, [(2, 7), (11, 1)]⟩,
  ⟨1627, 3, [(2, 1), (3, 1), (271, 1)]⟩,
  ⟨1723, 3, [(2, 1), (3, 1), (7, 1), (41, 1)]⟩,
  ⟨1871, 14, [(2, 1), (5, 1), (11, 1), (17, 1)]⟩,
  ⟨2011, 3, [(2, 1), (3, 1), (5, 1), (67, 1)]⟩,
  ⟨2551, 6, [(2, 1), (3, 1), (5, 2), (17, 1)]⟩,
  ⟨2621, 2, [(2, 2), (5, 1), (131, 1)]⟩,
  ⟨2657, 3, [(2, 5), (83, 1)]⟩,
  ⟨2731, 3, [(2, 1), (3, 1), (5, 1), (7, 1), (13, 1)]⟩,
  ⟨2851, 2, [(2, 1), (3, 1), (5, 2), (19, 1)]⟩,
  ⟨2861, 2, [(2, 2), (5, 1), (11, 1), (13, 1)]⟩,
  ⟨2939, 2, [(2, 1), (13, 1), (113, 1)]⟩,
  ⟨3797, 2, [(2, 2), (13, 1), (73, 1)]⟩,
  ⟨4051, 10, [(2, 1), (3, 4), (5, 2)]⟩,
  ⟨4423, 3, [(2, 1), (3, 1), (11, 1), (67, 1)]⟩,
  ⟨5323, 5, [(2, 1), (3, 1), (887, 1)]⟩,
  ⟨5879, 11, [(2, 1), (2939, 1)]⟩,
  ⟨7723, 3, [(2, 1), (3, 3), (11, 1), (13, 1)]⟩,
  ⟨9349, 2, [(2, 2), (3, 1), (19, 1), (41, 1)]⟩,
  ⟨13441, 11, [(2, 7), (3, 1), (5, 1), (7, 1)]⟩,
  ⟨16699, 3, [(2, 1), (3, 1), (11, 2), (23, 1)]⟩,
  ⟨17231, 13, [(2, 1), (5, 1), (1723, 1)]⟩,
  ⟨20113, 10, [(2, 4), (3, 1), (419, 1)]⟩,
  ⟨22111, 6, [(2, 1), (3, 1), (5, 1), (11, 1), (67, 1)]⟩,
  ⟨24809, 6, [(2, 3), (7, 1), (443, 1)]⟩,
  ⟨28181, 2, [(2, 2), (5, 1), (1409, 1)]⟩,
  ⟨30703, 3, [(2, 1), (3, 1), (7, 1), (17, 1), (43, 1)]⟩,
  ⟨34123, 2, [(2, 1), (3, 1), (11, 2), (47, 1)]⟩,
  ⟨41081, 3, [(2, 3), (5, 1), (13, 1), (79, 1)]⟩,
  ⟨41201, 3, [(2, 4), (5, 2), (103, 1)]⟩,
  ⟨82163, 2, [(2, 1), (41081, 1)]⟩,
  ⟨85831, 3, [(2, 1), (3, 1), (5, 1), (2861, 1)]⟩,
  ⟨96557, 2, [(2, 2), (101, 1), (239, 1)]⟩,
  ⟨120233, 3, [(2, 3), (7, 1), (19, 1), (113, 1)]⟩,
  ⟨132667, 5, [(2, 1), (3, 1), (22111, 1)]⟩,
  ⟨137849, 3, [(2, 3), (17231, 1)]⟩,
  ⟨305873, 3, [(2, 4), (7, 1), (2731, 1)]⟩,
  ⟨409477, 2, [(2, 2), (3, 1), (34123, 1)]⟩,
  ⟨531581, 2, [(2, 2), (5, 1), (7, 1), (3797, 1)]⟩,
  ⟨1206781, 10, [(2, 2), (3, 1), (5, 1), (20113, 1)]⟩,
  ⟨1224481, 13, [(2, 5), (3, 1), (5, 1), (2551, 1)]⟩,
  ⟨1627771, 3, [(2, 1), (3, 1), (5, 1), (29, 1), (1871, 1)]⟩,
  ⟨4681609, 23, [(2, 3), (3, 1), (97, 1), (2011, 1)]⟩,
  ⟨7240687, 3, [(2, 1), (3, 1), (1206781, 1)]⟩,
  ⟨13331831, 13, [(2, 1), (5, 1), (971, 1), (1373, 1)]⟩,
  ⟨14741173, 2, [(2, 2), (3, 2), (409477, 1)]⟩,
  ⟨44706919, 6, [(2, 1), (3, 1), (797, 1), (9349, 1)]⟩,
  ⟨58964693, 2, [(2, 2), (14741173, 1)]⟩,
  ⟨107590001, 3, [(2, 4), (5, 4), (7, 1), (29, 1), (53, 1)]⟩,
  ⟨292386187, 2, [(2, 1), (3, 4), (307, 1), (5879, 1)]⟩,
  ⟨545358713, 5, [(2, 3), (41, 1), (59, 1), (28181, 1)]⟩,
  ⟨213441916511, 13, [(2, 1), (5, 1), (73, 1), (292386187, 1)]⟩,
  ⟨297159362677, 2, [(2, 2), (3, 2), (11, 1), (461, 1), (1627771, 1)]⟩,
  ⟨1257559732178653, 2, [(2, 2), (3, 1), (7, 1), (23, 1), (531581, 1), (1224481, 1)]⟩,
  ⟨107361793816595537, 3, [(2, 4), (16699, 1), (85831, 1), (4681609, 1)]⟩,
  ⟨173378833005251801, 6, [(2, 3), (5, 2), (2621, 1), (24809, 1), (13331831, 1)]⟩,
  ⟨4434155615661930479, 17, [(2, 1), (41, 1), (43, 1), (1257559732178653, 1)]⟩,
  ⟨174723607534414371449, 3, [(2, 3), (17, 1), (59, 1), (4051, 1), (120233, 1), (44706919, 1)]⟩,
  ⟨3044861653679985063343, 5, [(2, 1), (3, 1), (11, 1), (30703, 1), (82163, 1), (132667, 1), (137849, 1)]⟩,
  ⟨22149492674086928081353, 5, [(2, 3), (3, 1), (5323, 1), (173378833005251801, 1)]⟩,
  ⟨132896956044521568488119, 6, [(2, 1), (3, 1), (22149492674086928081353, 1)]⟩,
  ⟨172054593956031949258510691, 2, [(2, 1), (5, 1), (1361, 1), (2851, 1), (4434155615661930479, 1)]⟩,
  ⟨29047611873442575647497758179, 2, [(2, 1), (293, 1), (305873, 1), (545358713, 1), (297159362677, 1)]⟩,
  ⟨198211423230930754013084525763697, 5, [(2, 4), (3, 1), (23, 1), (58964693, 1), (3044861653679985063343, 1)]⟩,
  ⟨341948486974166000522343609283189, 2, [(2, 2), (3, 3), (109, 1), (29047611873442575647497758179, 1)]⟩,
  ⟨255515944373312847190720520512484175977, 3, [(2, 3), (7, 2), (11, 1), (1627, 1), (2657, 1), (4423, 1), (41201, 1), (96557, 1), (7240687, 1), (107590001, 1)]⟩,
  ⟨19757330305831588566944191468367130476339, 2, [(2, 1), (269, 1), (213441916511, 1), (172054593956031949258510691, 1)]⟩,
  ⟨276602624281642239937218680557139826668747, 2, [(2, 1), (7, 1), (19757330305831588566944191468367130476339, 1)]⟩,
  ⟨205115282021455665897114700593932402728804164701536103180137503955397371, 10, [(2, 1), (3, 1), (5, 1), (29, 2), (31, 1), (7723, 1), (132896956044521568488119, 1), (255515944373312847190720520512484175977, 1)]⟩,
  ⟨7237005577332262213973186563042994240857116359379907606001950938285454250989, 2, [(2, 2), (3, 1), (11, 1), (198211423230930754013084525763697, 1), (276602624281642239937218680557139826668747, 1)]⟩,
  ⟨115792089237316195423570985008687907852837564279074904382605163141518161494337, 7, [(2, 6), (3, 1), (149, 1), (631, 1), (107361793816595537, 1), (174723607534414371449, 1), (341948486974166000522343609283189, 1)]⟩,
  ⟨115792089237316195423570985008687907853269984665640564039457584007908834671663, 3, [(2, 1), (3, 1), (7, 1), (13441, 1), (205115282021455665897114700593932402728804164701536103180137503955397371, 1)]⟩]
-- END table

theorem small_prime : ∀ q ∈ small, q.Prime := by decide +kernel

theorem prime_of_mem_cert {p : Nat} (h : p ∈ cert.map Node.p) : p.Prime := by
  obtain ⟨n, hn, rfl⟩ := List.mem_map.1 h
  exact checkAll_sound cert small small_prime (by decide +kernel) n hn

/-- the secp256k1 field characteristic `2^256 - 2^32 - 977` is prime -/
theorem prime_P : Nat.Prime Iota.Secp256k1.P.toNat := prime_of_mem_cert (by decide +kernel)
/-- the secp256k1 group order is prime -/
theorem prime_N : Nat.Prime Iota.Secp256k1.N.toNat := prime_of_mem_cert (by decide +kernel)
/-- the edwards25519 prime-subgroup order `2^252 + 27742317777372353535851937790883648493` is prime -/
theorem prime_L : Nat.Prime Iota.Edwards.L := prime_of_mem_cert (by decide +kernel)

instance : Fact (Nat.Prime Iota.Secp256k1.P.toNat) := ⟨prime_P⟩

end Iota.Proofs.Primes
