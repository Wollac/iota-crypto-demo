/-
From the bit-plane core of the PoW proofs to `Score(data ‖ nonce)`.
Model: `Iota/Model/PowScore.lean` (nonce encoding, the hashed block, the single-lane Curl-P-81 hash,
the worker loop over batches of 64 consecutive nonces).  The lane tests and the sequential scan are those of
`Iota/Proofs/Pow` (P5 `checkV2`, P6 `checkV1`, P7 `mineSeq`); here they are tied to the hash of each NONCE.

  S1  `sliceOf_faithful`       the one hypothesis about iota.go's `curl/bct`, `BctFaithful slice`, is satisfied
                               by the plain bit-slicing (so it is an assumption about the library, not a
                               logical one); `curlHash_isHash`, `powBlock_isHash`: hashes / blocks are 243
                               balanced trits; `bctOfSlice_faithful`: the block form follows from the slice form
  S2  `worker_v2`              every nonce a v2 worker returns (ANY start nonce, hence every worker of `Mine`)
                               scores ≥ t; no earlier batch holds a nonce of difficulty > len·t
      `worker_v2_first`        start nonce 0 (the single worker): in terms of the nonce value itself
      `mine_v2_score`          … as `ScoreV2 H data n ≥ t`, and `ScoreMsgV2 H (data ‖ nonce LE) ≥ t`
  S3  `worker_v1`              a v1 worker returns the FIRST nonce in scan order with ≥ z trailing zeros
      `worker_v1_score`        … hence `target ≤ sc (trailingZeros …)` for a monotone score, and (z least) no
                               earlier nonce meets the target; `mine_v1_score`: as `ScoreV1` / `ScoreMsgV1`
  S4  `worker_none_v1/v2`      a worker that gives up rejected every nonce it scanned (v2: none of difficulty > len·t)
  `…B` variants                the same with the library as a map from input blocks to planes (`workerB`)
  S5  `hashTrits_zero`         a closed hash value (Curl-P-81 of the zero block is zero: constant states have
                               period 3 under `round`), `worker_v1_instance`, `worker_v2_instance`: with any
                               faithful sponge the workers do return nonces (non-vacuity of `worker … = some n`)

`Mine` (both packages) returns a nonce only if some worker returned it: that is `Iota.Props.C13.outcome`
(every schedule of the concurrency model); worker `i` of `W` runs with `start = i · ⌊(2^64−1)/W⌋`, so the
theorems here, stated for an arbitrary `start`, cover every worker.
Core Lean only.
-/
import Iota.Model.PowScore
import Iota.Proofs.Pow
import Iota.Proofs.B1T6
import Iota.Proofs.CurlSpec

namespace Iota.Proofs.PowScore
open Iota.Pow Iota.PowScore Iota.Proofs.Pow Iota.Spec.CurlP

/-! ## S1 — hashes, blocks, and the bit-slicing hypothesis -/

/-! ### the nonce bytes -/

theorem nonceBytes_length (n : Nat) : (nonceBytes n).length = 8 := by simp [nonceBytes]

/-- only `n mod 2^64` matters (the nonce is a `uint64`). -/
theorem nonceBytes_mod (n : Nat) : nonceBytes (n % 2 ^ 64) = nonceBytes n := by
  unfold nonceBytes; rw [Nat.mod_mod]

/-- the `k` low bytes of `m`, read back little-endian, are `m mod 256^k`. -/
theorem leBytes (k m : Nat) :
    ((List.range k).map fun i => UInt8.ofNat (m / 256 ^ i % 256)).foldr (fun b acc => b.toNat + 256 * acc) 0
      = m % 256 ^ k := by
  induction k generalizing m with
  | zero => simp [Nat.mod_one]
  | succ k ih =>
    have e : ∀ i, m / 256 ^ (i + 1) = m / 256 / 256 ^ i := fun i => by
      rw [Nat.pow_succ, Nat.mul_comm, Nat.div_div_eq_div_mul]
    simp only [List.range_succ_eq_map, List.map_cons, List.map_map, List.foldr_cons, Function.comp_def, e]
    rw [ih, Nat.pow_zero, Nat.div_one, UInt8.toNat_ofNat', Nat.pow_succ' (n := k), Nat.mod_mul,
      show 2 ^ 8 = 256 from rfl, Nat.mod_mod]

/-- `binary.LittleEndian.Uint64` inverts `PutUint64`. -/
theorem leUint64_nonceBytes (n : Nat) : leUint64 (nonceBytes n) = n % 2 ^ 64 := by
  unfold nonceBytes leUint64
  rw [leBytes 8, show 256 ^ 8 = 2 ^ 64 by decide, Nat.mod_mod]

theorem powBlock_mod (digest : List UInt8) (n : Nat) : powBlock digest (n % 2 ^ 64) = powBlock digest n := by
  unfold powBlock; rw [nonceBytes_mod]

theorem hashTrits_mod (digest : List UInt8) (n : Nat) : hashTrits digest (n % 2 ^ 64) = hashTrits digest n := by
  unfold hashTrits; rw [powBlock_mod]

/-- the block is `6·len(digest)` digest trits, 48 nonce trits, and zero padding: 243 balanced trits
(192 + 48 + 3 for a 32-byte digest). -/
theorem powBlock_isHash (digest : List UInt8) (n : Nat) (hd : digest.length ≤ 32) : IsHash (powBlock digest n) := by
  unfold powBlock IsHash
  have hl : (Iota.B1T6.encode digest ++ Iota.B1T6.encode (nonceBytes n)).length = 6 * digest.length + 48 := by
    rw [List.length_append, B1T6.encode_length, B1T6.encode_length, nonceBytes_length]
  refine ⟨?_, ?_⟩
  · simp only [List.length_append, List.length_replicate] at hl ⊢; omega
  · intro t ht
    simp only [List.mem_append, List.mem_replicate] at ht
    rcases ht with (ht | ht) | ⟨-, rfl⟩
    · exact B1T6.encode_valid _ t ht
    · exact B1T6.encode_valid _ t ht
    · exact Or.inr (Or.inl rfl)

/-- the layout of the block for a 32-byte digest: `[0,192)` digest, `[192,240)` nonce, `[240,243)` zero. -/
theorem powBlock_layout (digest : List UInt8) (n : Nat) (hd : digest.length = 32) :
    powBlock digest n = Iota.B1T6.encode digest ++ Iota.B1T6.encode (nonceBytes n) ++ [0, 0, 0] ∧
    (Iota.B1T6.encode digest).length = 192 ∧ (Iota.B1T6.encode (nonceBytes n)).length = 48 := by
  have h1 : (Iota.B1T6.encode digest).length = 192 := by rw [B1T6.encode_length, hd]
  have h2 : (Iota.B1T6.encode (nonceBytes n)).length = 48 := by rw [B1T6.encode_length, nonceBytes_length]
  refine ⟨?_, h1, h2⟩
  unfold powBlock
  simp only [List.length_append, h1, h2]
  rfl

/-! ### the single-lane hash -/

/-- the hash is the first 243 trits of the 81-round permutation of (block ‖ 486 zeros). -/
theorem curlHash_eq (block : List Int) :
    curlHash block = (List.range 243).map fun i =>
      (transform (Array.ofFn (n := 729) fun i =>
        if i.val < 243 then normTrit (block.getD i.val 0) else 0)).getD i 0 :=
  one_block_hash block

theorem f_valid {a b : Int} (ha : ValidTrit a) (hb : ValidTrit b) : ValidTrit (f a b) := by
  unfold ValidTrit at *; rcases ha with rfl | rfl | rfl <;> rcases hb with rfl | rfl | rfl <;> decide

theorem normTrit_valid (t : Int) : ValidTrit (normTrit t) := by
  unfold normTrit ValidTrit; split
  · simp
  · split <;> simp

theorem normTrit_of_valid {t : Int} (h : ValidTrit t) : normTrit t = t := by
  rcases h with rfl | rfl | rfl <;> decide

def ValidState (s : State) : Prop := ∀ i, ValidTrit (s.getD i 0)

theorem round_valid (s : State) (hs : ValidState s) : ValidState (round s) := by
  intro i
  unfold round
  rw [ofFn_getD]
  split
  · exact f_valid (hs _) (hs _)
  · exact Or.inr (Or.inl rfl)

theorem rounds_valid (n : Nat) (s : State) (hs : ValidState s) : ValidState (rounds n s) := by
  induction n generalizing s with
  | zero => exact hs
  | succ n ih => exact ih _ (round_valid s hs)

/-- every Curl-P-81 hash (of any block) is 243 balanced trits. -/
theorem curlHash_isHash (block : List Int) : IsHash (curlHash block) := by
  rw [curlHash_eq]
  refine ⟨by simp, ?_⟩
  intro t ht
  rw [List.mem_map] at ht
  obtain ⟨i, -, rfl⟩ := ht
  refine rounds_valid 81 _ (fun j => ?_) i
  rw [ofFn_getD]
  split
  · split
    · exact normTrit_valid _
    · exact Or.inr (Or.inl rfl)
  · exact Or.inr (Or.inl rfl)

theorem hashTrits_isHash (digest : List UInt8) (n : Nat) : IsHash (hashTrits digest n) := curlHash_isHash _

/-! ### the bit-slicing -/

theorem wordOfBits_getLsbD (p : Nat → Bool) (j : Nat) (hj : j < 64) : (wordOfBits p).getLsbD j = p j := by
  unfold wordOfBits
  rw [BitVec.getLsbD_setWidth, BitVec.getLsbD_ofBoolListLE]
  simp [hj]

/-- stated for a general size: with the literal 243 the kernel evaluates the vector. -/
theorem vector_ofFn_getD {n : Nat} (g : Fin n → W) (k : Nat) (hk : k < n) :
    (Vector.ofFn g).toArray.getD k 0 = g ⟨k, hk⟩ := by
  simp [Array.getD, hk]

/-- bit `j` of word `k` of the two planes of `sliceOf f`. -/
theorem sliceOf_bits (f : Fin 64 → List Int) (j : Fin 64) (k : Nat) (hk : k < 243) :
    (((sliceOf f).1.toArray.getD k 0).getLsbD j.val, ((sliceOf f).2.toArray.getD k 0).getLsbD j.val) =
      (decide ((f j).getD k 0 ≤ 0), decide ((f j).getD k 0 ≥ 0)) := by
  unfold sliceOf
  simp only [vector_ofFn_getD _ k hk, wordOfBits_getLsbD _ _ j.isLt, j.isLt, dite_true, Fin.eta]

/-- decoding lane `j` of `sliceOf f` gives the (sign-normalised) trits of `f j`. -/
theorem laneTrit_sliceOf (f : Fin 64 → List Int) (j : Fin 64) (k : Nat) (hk : k < 243) :
    laneTrit (sliceOf f).1 (sliceOf f).2 j.val k = normTrit ((f j).getD k 0) := by
  have h := sliceOf_bits f j k hk
  unfold laneTrit
  rw [(Prod.mk.inj h).1, (Prod.mk.inj h).2]
  exact normTrit_sign _

/-- **S1**: the hypothesis `BctFaithful` is satisfiable — the plain bit-slicing satisfies it. -/
theorem sliceOf_faithful : BctFaithful sliceOf := by
  intro f hf i
  obtain ⟨hlen, hv⟩ := hf i
  apply List.ext_getElem
  · rw [laneTrits_length, hlen]
  · intro k h1 h2
    rw [laneTrits_length] at h1
    rw [laneTrits_getElem, laneTrit_sliceOf f i k h1, List.getD_eq_getElem?_getD, List.getElem?_eq_getElem h2]
    exact normTrit_of_valid (hv _ (List.getElem_mem h2))

/-- the slice form of the hypothesis gives the block form (for the sponge "hash each lane, then slice"). -/
theorem bctOfSlice_faithful (slice : (Fin 64 → List Int) → Planes × Planes) (hs : BctFaithful slice) :
    BctBlocksFaithful (bctOfSlice slice) := by
  intro blocks _ i
  exact hs (fun i => curlHash (blocks i)) (fun i => curlHash_isHash _) i

theorem bctOfSlice_sliceOf_faithful : BctBlocksFaithful (bctOfSlice sliceOf) :=
  bctOfSlice_faithful _ sliceOf_faithful

theorem worker_eq_workerB (slice : (Fin 64 → List Int) → Planes × Planes) (test : Planes → Planes → Nat)
    (digest : List UInt8) (start fuel : Nat) :
    worker slice test digest start fuel = workerB (bctOfSlice slice) test digest start fuel := rfl

/-! ## the scan -/

/-- the worker loop is `mineSeq` (P7) followed by the map (batch, lane) ↦ nonce. -/
theorem scan_eq_mineSeq (planes : Nat → Planes × Planes) (test : Planes → Planes → Nat) (start fuel b : Nat) :
    scan planes test start fuel b = (mineSeq test planes fuel b).map fun p => laneNonce start p.1 p.2 := by
  induction fuel generalizing b with
  | zero => rfl
  | succ fuel ih =>
    rw [scan, mineSeq]
    split
    · rfl
    · exact ih (b + 1)

/-- `planes` are tied to `hash`: lane `i` of batch `b` decodes to the hash of the nonce `start + 64·b + i`. -/
def Tied (planes : Nat → Planes × Planes) (hash : Nat → List Int) (start : Nat) : Prop :=
  ∀ b i, i < 64 → laneTrits (planes b).1 (planes b).2 i = hash (laneNonce start b i)

theorem tied_of_slice (slice : (Fin 64 → List Int) → Planes × Planes) (hs : BctFaithful slice)
    (digest : List UInt8) (start : Nat) :
    Tied (batchPlanes slice digest start) (hashTrits digest) start := by
  intro b i hi
  exact hs (fun i => hashTrits digest (laneNonce start b i.val)) (fun _ => hashTrits_isHash _ _) ⟨i, hi⟩

theorem tied_of_bct (bct : (Fin 64 → List Int) → Planes × Planes) (hb : BctBlocksFaithful bct)
    (digest : List UInt8) (hd : digest.length ≤ 32) (start : Nat) :
    Tied (fun b => bct fun i => powBlock digest (laneNonce start b i.val)) (hashTrits digest) start := by
  intro b i hi
  exact hb (fun i => powBlock digest (laneNonce start b i.val)) (fun _ => powBlock_isHash _ _ hd) ⟨i, hi⟩

theorem laneNonce_eq (start b i : Nat) : laneNonce start b i = (start + (64 * b + i)) % 2 ^ 64 := by
  unfold laneNonce; rw [Nat.add_assoc]

/-- the hash of the nonce at offset `k` from `start` sits in lane `k % 64` of batch `k / 64`. -/
theorem Tied.offset {planes : Nat → Planes × Planes} {hash : Nat → List Int} {start : Nat}
    (htied : Tied planes hash start) (k : Nat) :
    laneTrits (planes (k / 64)).1 (planes (k / 64)).2 (k % 64) = hash ((start + k) % 2 ^ 64) := by
  rw [htied _ _ (Nat.mod_lt _ (by decide)), laneNonce_eq, Nat.div_add_mod]

/-- a returned nonce is `start + k` for the first offset `k` whose batch passes the test, in the lane the
test names. -/
theorem scan_some (planes : Nat → Planes × Planes) (test : Planes → Planes → Nat) (start fuel n : Nat)
    (hs : scan planes test start fuel 0 = some n) :
    ∃ k, k < 64 * fuel ∧ n = (start + k) % 2 ^ 64 ∧ test (planes (k / 64)).1 (planes (k / 64)).2 = k % 64 ∧
      ∀ b', b' < k / 64 → 64 ≤ test (planes b').1 (planes b').2 := by
  rw [scan_eq_mineSeq, Option.map_eq_some_iff] at hs
  obtain ⟨⟨b, i⟩, hm, rfl⟩ := hs
  obtain ⟨-, h2, h3, h4, h5⟩ := mineSeq_some test planes fuel 0 b i hm
  have hb : (64 * b + i) / 64 = b := by omega
  refine ⟨64 * b + i, by omega, laneNonce_eq _ _ _, ?_, ?_⟩
  · rw [hb, Nat.mul_add_mod, Nat.mod_eq_of_lt h4]; exact h3
  · rw [hb]; exact fun b' hb' => h5 b' (Nat.zero_le _) hb'

theorem scan_none (planes : Nat → Planes × Planes) (test : Planes → Planes → Nat) (start fuel : Nat)
    (hs : scan planes test start fuel 0 = none) :
    ∀ b', b' < fuel → 64 ≤ test (planes b').1 (planes b').2 := by
  rw [scan_eq_mineSeq, Option.map_eq_none_iff] at hs
  exact fun b' hb => mineSeq_none test planes fuel 0 hs b' (Nat.zero_le _) (by omega)

/-! ## S2 — v2 -/

/-- the v2 lane test for `lx = len·t` -/
abbrev testV2 (lx : Nat) : Planes → Planes → Nat :=
  fun l h => checkV2 l h (sufficientTrailingZeros lx) (targetHash lx)

/-- the v1 lane test for `z` trailing zeros -/
abbrev testV1 (z : Nat) : Planes → Planes → Nat := fun l h => checkV1 l h z

/-- an offset whose batch the v2 test passed over has difficulty at most `lx`. -/
theorem passed_v2 {planes : Nat → Planes × Planes} {hash : Nat → List Int} {start : Nat}
    (htied : Tied planes hash start) (lx : Nat) (h8 : 8 ≤ lx) (hlx : lx < 2 ^ 64) (k : Nat)
    (h64 : 64 ≤ testV2 lx (planes (k / 64)).1 (planes (k / 64)).2) :
    difficulty (hash ((start + k) % 2 ^ 64)) ≤ lx := by
  rw [← htied.offset k]
  exact checkV2_rejected _ _ lx h8 hlx h64 (k % 64) (Nat.mod_lt _ (by decide))

/-- P5 + P7 through the tie: the returned nonce is `start + k` (mod 2^64) for some offset `k` scanned; its
hash scores ≥ t and has difficulty ≥ lx; every offset in an earlier batch has difficulty ≤ lx. -/
theorem scan_v2 (planes : Nat → Planes × Planes) (hash : Nat → List Int) (start : Nat)
    (htied : Tied planes hash start) (lx len t : Nat) (h8 : 8 ≤ lx) (hlx : lx < 2 ^ 64)
    (hlen : 1 ≤ len) (hlt : lx = len * t) (fuel n : Nat)
    (hs : scan planes (testV2 lx) start fuel 0 = some n) :
    ∃ k, k < 64 * fuel ∧ n = (start + k) % 2 ^ 64 ∧
      t ≤ score (hash n) len ∧ lx ≤ difficulty (hash n) ∧
      ∀ k', k' / 64 < k / 64 → difficulty (hash ((start + k') % 2 ^ 64)) ≤ lx := by
  obtain ⟨k, hk, hn, htest, hearlier⟩ := scan_some _ _ _ _ _ hs
  replace htest : checkV2 (planes (k / 64)).1 (planes (k / 64)).2 (sufficientTrailingZeros lx) (targetHash lx)
    = k % 64 := htest
  have hi := htest ▸ Nat.mod_lt k (by decide : 0 < 64)
  have hsc := checkV2_score _ _ lx h8 hlx len t hlen hlt hi
  have hso := checkV2_sound _ _ lx h8 hlx hi
  unfold stateToInt at hso
  rw [htest, htied.offset k, ← hn] at hsc hso
  exact ⟨k, hk, hn, hsc, hso, fun k' hk' => passed_v2 htied lx h8 hlx k' (hearlier _ hk')⟩

theorem scan_none_v2 (planes : Nat → Planes × Planes) (hash : Nat → List Int) (start : Nat)
    (htied : Tied planes hash start) (lx : Nat) (h8 : 8 ≤ lx) (hlx : lx < 2 ^ 64) (fuel : Nat)
    (hs : scan planes (testV2 lx) start fuel 0 = none) :
    ∀ k, k < 64 * fuel → difficulty (hash ((start + k) % 2 ^ 64)) ≤ lx :=
  fun k hk => passed_v2 htied lx h8 hlx k (scan_none _ _ _ _ hs (k / 64) (by omega))

/-- **S2 (v2 worker, any start nonce).**  Under the one hypothesis on the batched sponge: if the worker
started at `start` returns `n`, then `n = start + k mod 2^64` for an offset `k` it scanned, the Curl-P-81 hash
of digest ‖ n has `score ≥ t` for message length `len` (soundness) and difficulty ≥ `lx = len·t`, and no nonce
`start + k'` in an earlier batch of 64 has difficulty strictly above `lx` (no pass-over). -/
theorem worker_v2 (slice : (Fin 64 → List Int) → Planes × Planes) (hslice : BctFaithful slice)
    (digest : List UInt8) (start fuel lx len t n : Nat) (h8 : 8 ≤ lx) (hlx : lx < 2 ^ 64)
    (hlen : 1 ≤ len) (hlt : lx = len * t)
    (hw : worker slice (testV2 lx) digest start fuel = some n) :
    ∃ k, k < 64 * fuel ∧ n = (start + k) % 2 ^ 64 ∧
      t ≤ score (hashTrits digest n) len ∧ lx ≤ difficulty (hashTrits digest n) ∧
      ∀ k', k' / 64 < k / 64 → difficulty (hashTrits digest ((start + k') % 2 ^ 64)) ≤ lx :=
  scan_v2 _ _ start (tied_of_slice slice hslice digest start) lx len t h8 hlx hlen hlt fuel n hw

/-- the same with the library as a map from the 64 input blocks to planes (digest of at most 32 bytes). -/
theorem workerB_v2 (bct : (Fin 64 → List Int) → Planes × Planes) (hbct : BctBlocksFaithful bct)
    (digest : List UInt8) (hd : digest.length ≤ 32) (start fuel lx len t n : Nat) (h8 : 8 ≤ lx) (hlx : lx < 2 ^ 64)
    (hlen : 1 ≤ len) (hlt : lx = len * t)
    (hw : workerB bct (testV2 lx) digest start fuel = some n) :
    ∃ k, k < 64 * fuel ∧ n = (start + k) % 2 ^ 64 ∧
      t ≤ score (hashTrits digest n) len ∧ lx ≤ difficulty (hashTrits digest n) ∧
      ∀ k', k' / 64 < k / 64 → difficulty (hashTrits digest ((start + k') % 2 ^ 64)) ≤ lx :=
  scan_v2 _ _ start (tied_of_bct bct hbct digest hd start) lx len t h8 hlx hlen hlt fuel n hw

/-- **S2, single worker** (`start = 0`; `fuel ≤ 2^58` batches: the scan does not wrap around): in terms of
nonce values — the returned `n` scores ≥ t, and every nonce `m` in an earlier 64-block (`m/64 < n/64`) has
difficulty ≤ len·t, i.e. none whose difficulty strictly exceeds len·t was passed over. -/
theorem worker_v2_first (slice : (Fin 64 → List Int) → Planes × Planes) (hslice : BctFaithful slice)
    (digest : List UInt8) (fuel lx len t n : Nat) (hfuel : fuel ≤ 2 ^ 58) (h8 : 8 ≤ lx) (hlx : lx < 2 ^ 64)
    (hlen : 1 ≤ len) (hlt : lx = len * t)
    (hw : worker slice (testV2 lx) digest 0 fuel = some n) :
    n < 64 * fuel ∧ t ≤ score (hashTrits digest n) len ∧
      ∀ m, m / 64 < n / 64 → difficulty (hashTrits digest m) ≤ lx := by
  obtain ⟨k, hk, hn, hsc, -, hno⟩ := worker_v2 slice hslice digest 0 fuel lx len t n h8 hlx hlen hlt hw
  have hk64 : k < 2 ^ 64 := by omega
  rw [Nat.zero_add, Nat.mod_eq_of_lt hk64] at hn
  subst hn
  refine ⟨hk, hsc, ?_⟩
  intro m hm
  have := hno m hm
  rwa [Nat.zero_add, Nat.mod_eq_of_lt (Nat.lt_trans (Nat.lt_of_div_lt_div hm) hk64)] at this

/-- a v2 worker that gives up has seen no nonce of difficulty > len·t. -/
theorem worker_none_v2 (slice : (Fin 64 → List Int) → Planes × Planes) (hslice : BctFaithful slice)
    (digest : List UInt8) (start fuel lx : Nat) (h8 : 8 ≤ lx) (hlx : lx < 2 ^ 64)
    (hw : worker slice (testV2 lx) digest start fuel = none) :
    ∀ k, k < 64 * fuel → difficulty (hashTrits digest ((start + k) % 2 ^ 64)) ≤ lx :=
  scan_none_v2 _ _ start (tied_of_slice slice hslice digest start) lx h8 hlx fuel hw

/-- `Score` splits `data ‖ nonce` back into `data` and the nonce. -/
theorem split_append (data : List UInt8) (n : Nat) :
    (data ++ nonceBytes n).length = data.length + 8 ∧
    (data ++ nonceBytes n).take (data.length + 8 - 8) = data ∧
    leUint64 ((data ++ nonceBytes n).drop (data.length + 8 - 8)) = n % 2 ^ 64 := by
  rw [Nat.add_sub_cancel, List.take_left' rfl, List.drop_left' rfl, leUint64_nonceBytes, List.length_append,
    nonceBytes_length]
  exact ⟨rfl, rfl, rfl⟩

/-- `Score(data ‖ nonce)` on the byte string is `ScoreV2 H data nonce`. -/
theorem ScoreMsgV2_append (H : List UInt8 → List UInt8) (data : List UInt8) (n : Nat) :
    ScoreMsgV2 H (data ++ nonceBytes n) = ScoreV2 H data n := by
  obtain ⟨h1, h2, h3⟩ := split_append data n
  unfold ScoreMsgV2 ScoreV2
  simp only [h1, h2, h3, hashTrits_mod]

/-- **S2 at the level of `Score`** (v2): `Mine(data, t)` with `t ≥ 1` and `(len(data)+8)·t < 2^64` runs its
workers with `sufficientTrailingZeros`/`targetHash` of `lx = (len(data)+8)·t` on the digest `H data`; a nonce
any of them returns satisfies `Score(data ‖ nonce) ≥ t`. -/
theorem mine_v2_score (slice : (Fin 64 → List Int) → Planes × Planes) (hslice : BctFaithful slice)
    (H : List UInt8 → List UInt8) (data : List UInt8) (t start fuel n : Nat)
    (ht : 1 ≤ t) (hlx : (data.length + 8) * t < 2 ^ 64)
    (hw : worker slice (testV2 ((data.length + 8) * t)) (H data) start fuel = some n) :
    t ≤ ScoreV2 H data n ∧ t ≤ ScoreMsgV2 H (data ++ nonceBytes n) := by
  have h8 : 8 ≤ (data.length + 8) * t :=
    Nat.le_trans (Nat.le_add_left 8 _) (Nat.le_mul_of_pos_right _ ht)
  obtain ⟨k, -, -, hsc, -⟩ := worker_v2 slice hslice (H data) start fuel _ (data.length + 8) t n h8 hlx
    (by omega) rfl hw
  rw [ScoreMsgV2_append]
  exact ⟨hsc, hsc⟩

/-! ## S3 — v1 -/

/-- an offset whose batch the v1 test passed over has fewer than `z` trailing zeros. -/
theorem passed_v1 {planes : Nat → Planes × Planes} {hash : Nat → List Int} {start : Nat}
    (htied : Tied planes hash start) (z : Nat) (hz : z ≤ 243) (k : Nat)
    (h64 : 64 ≤ testV1 z (planes (k / 64)).1 (planes (k / 64)).2) :
    ¬ z ≤ trailingZeros (hash ((start + k) % 2 ^ 64)) := by
  rw [← htied.offset k]
  exact fun h => Nat.not_lt.mpr h64 ((checkV1_lt_iff _ _ z hz).mpr ⟨k % 64, Nat.mod_lt _ (by decide), h⟩)

/-- P6 + P7 through the tie: the returned nonce is the first in scan order with ≥ z trailing zeros. -/
theorem scan_v1 (planes : Nat → Planes × Planes) (hash : Nat → List Int) (start : Nat)
    (htied : Tied planes hash start) (z : Nat) (hz : z ≤ 243) (fuel n : Nat)
    (hs : scan planes (testV1 z) start fuel 0 = some n) :
    ∃ k, k < 64 * fuel ∧ n = (start + k) % 2 ^ 64 ∧ z ≤ trailingZeros (hash n) ∧
      ∀ k', k' < k → ¬ z ≤ trailingZeros (hash ((start + k') % 2 ^ 64)) := by
  obtain ⟨k, hk, hn, htest, hearlier⟩ := scan_some _ _ _ _ _ hs
  replace htest : checkV1 (planes (k / 64)).1 (planes (k / 64)).2 z = k % 64 := htest
  obtain ⟨hge, hfirst⟩ := (checkV1_spec _ _ z hz).2.1 (htest ▸ Nat.mod_lt k (by decide : 0 < 64))
  rw [htest] at hge hfirst
  rw [htied.offset k, ← hn] at hge
  refine ⟨k, hk, hn, hge, fun k' hk' => ?_⟩
  rcases Nat.lt_or_ge (k' / 64) (k / 64) with hlt | hge'
  · exact passed_v1 htied z hz k' (hearlier _ hlt)
  · have e : k' / 64 = k / 64 := Nat.le_antisymm (Nat.div_le_div_right (Nat.le_of_lt hk')) hge'
    rw [← htied.offset k', e]
    exact hfirst _ (by omega)

theorem scan_none_v1 (planes : Nat → Planes × Planes) (hash : Nat → List Int) (start : Nat)
    (htied : Tied planes hash start) (z : Nat) (hz : z ≤ 243) (fuel : Nat)
    (hs : scan planes (testV1 z) start fuel 0 = none) :
    ∀ k, k < 64 * fuel → ¬ z ≤ trailingZeros (hash ((start + k) % 2 ^ 64)) :=
  fun k hk => passed_v1 htied z hz k (scan_none _ _ _ _ hs (k / 64) (by omega))

/-- **S3 (v1 worker, any start nonce).**  If the worker started at `start` with `targetZeros = z ≤ 243`
returns `n`, then `n = start + k mod 2^64`, the Curl-P-81 hash of digest ‖ n has at least `z` trailing zero
trits, and `n` is the FIRST such nonce in scan order `start, start+1, …` (exactness). -/
theorem worker_v1 (slice : (Fin 64 → List Int) → Planes × Planes) (hslice : BctFaithful slice)
    (digest : List UInt8) (start fuel z n : Nat) (hz : z ≤ 243)
    (hw : worker slice (testV1 z) digest start fuel = some n) :
    ∃ k, k < 64 * fuel ∧ n = (start + k) % 2 ^ 64 ∧ z ≤ trailingZeros (hashTrits digest n) ∧
      ∀ k', k' < k → ¬ z ≤ trailingZeros (hashTrits digest ((start + k') % 2 ^ 64)) :=
  scan_v1 _ _ start (tied_of_slice slice hslice digest start) z hz fuel n hw

theorem workerB_v1 (bct : (Fin 64 → List Int) → Planes × Planes) (hbct : BctBlocksFaithful bct)
    (digest : List UInt8) (hd : digest.length ≤ 32) (start fuel z n : Nat) (hz : z ≤ 243)
    (hw : workerB bct (testV1 z) digest start fuel = some n) :
    ∃ k, k < 64 * fuel ∧ n = (start + k) % 2 ^ 64 ∧ z ≤ trailingZeros (hashTrits digest n) ∧
      ∀ k', k' < k → ¬ z ≤ trailingZeros (hashTrits digest ((start + k') % 2 ^ 64)) :=
  scan_v1 _ _ start (tied_of_bct bct hbct digest hd start) z hz fuel n hw

/-- a v1 worker that gives up has seen no nonce with ≥ z trailing zeros. -/
theorem worker_none_v1 (slice : (Fin 64 → List Int) → Planes × Planes) (hslice : BctFaithful slice)
    (digest : List UInt8) (start fuel z : Nat) (hz : z ≤ 243)
    (hw : worker slice (testV1 z) digest start fuel = none) :
    ∀ k, k < 64 * fuel → ¬ z ≤ trailingZeros (hashTrits digest ((start + k) % 2 ^ 64)) :=
  scan_none_v1 _ _ start (tied_of_slice slice hslice digest start) z hz fuel hw

/-- **S3 with the abstract monotone score of C11** (`sc z` = the float `3^z / len`): when `target ≤ sc z`
the returned nonce's score meets the target; when moreover `z` is the least such count (what `Mine` computes,
with the expression of `Score`), no earlier nonce in scan order meets the target. -/
theorem worker_v1_score {F : Type} [LE F] (le_trans : ∀ a b c : F, a ≤ b → b ≤ c → a ≤ c)
    (sc : Nat → F) (mono : ∀ a b, a ≤ b → sc a ≤ sc b) (target : F) (z : Nat) (hz : z ≤ 243)
    (hsat : target ≤ sc z)
    (slice : (Fin 64 → List Int) → Planes × Planes) (hslice : BctFaithful slice)
    (digest : List UInt8) (start fuel n : Nat)
    (hw : worker slice (testV1 z) digest start fuel = some n) :
    ∃ k, k < 64 * fuel ∧ n = (start + k) % 2 ^ 64 ∧
      target ≤ sc (trailingZeros (hashTrits digest n)) ∧
      ((∀ z', z' < z → ¬ target ≤ sc z') →
        ∀ k', k' < k → ¬ target ≤ sc (trailingZeros (hashTrits digest ((start + k') % 2 ^ 64)))) := by
  obtain ⟨k, hk, hn, hge, hfirst⟩ := worker_v1 slice hslice digest start fuel z n hz hw
  refine ⟨k, hk, hn, le_trans _ _ _ hsat (mono _ _ hge), ?_⟩
  intro hleast k' hk' hmeet
  exact hfirst k' hk' (Nat.le_of_not_lt fun hlt => hleast _ hlt hmeet)

/-- `Score(data ‖ nonce)` on the byte string is `ScoreV1 sc H data nonce`. -/
theorem ScoreMsgV1_append {F : Type} (sc : Nat → Nat → F) (H : List UInt8 → List UInt8) (data : List UInt8)
    (n : Nat) : ScoreMsgV1 sc H (data ++ nonceBytes n) = ScoreV1 sc H data n := by
  obtain ⟨h1, h2, h3⟩ := split_append data n
  unfold ScoreMsgV1 ScoreV1
  simp only [h1, h2, h3, hashTrits_mod]

/-- **S3 at the level of `Score`** (v1): `sc len z` is the float `math.Pow(3, z) / float64(len)`, assumed
monotone in `z`; `Mine(data, target)` searches for `z` trailing zeros with `target ≤ sc (len(data)+8) z`
(and `z ≤ 243`) on the digest `H data`; a nonce any worker returns satisfies `Score(data ‖ nonce) ≥ target`. -/
theorem mine_v1_score {F : Type} [LE F] (le_trans : ∀ a b c : F, a ≤ b → b ≤ c → a ≤ c)
    (sc : Nat → Nat → F) (mono : ∀ len a b, a ≤ b → sc len a ≤ sc len b)
    (slice : (Fin 64 → List Int) → Planes × Planes) (hslice : BctFaithful slice)
    (H : List UInt8 → List UInt8) (data : List UInt8) (target : F) (z start fuel n : Nat) (hz : z ≤ 243)
    (hsat : target ≤ sc (data.length + 8) z)
    (hw : worker slice (testV1 z) (H data) start fuel = some n) :
    target ≤ ScoreV1 sc H data n ∧ target ≤ ScoreMsgV1 sc H (data ++ nonceBytes n) := by
  obtain ⟨k, -, -, hsc, -⟩ := worker_v1_score le_trans (sc (data.length + 8)) (mono _) target z hz hsat
    slice hslice (H data) start fuel n hw
  rw [ScoreMsgV1_append]
  exact ⟨hsc, hsc⟩

/-! ## a concrete hash: Curl-P-81 of the zero block is zero

`f 0 0 = -1`, `f (-1) (-1) = 1`, `f 1 1 = 0`: a constant state has period 3 under `round`, and 81 = 3·27.  The
block of the all-zero 32-byte digest with nonce 0 is all zero (b1t6 maps byte 0 to six zero trits).  This gives
closed instances of every definition above without evaluating 81 rounds in the kernel. -/

def constState (c : Int) : State := Array.ofFn (n := 729) fun _ => c

theorem round_const (c : Int) : round (constState c) = constState (f c c) := by
  unfold round constState
  refine congrArg Array.ofFn (funext fun i => ?_)
  rw [ofFn_getD, ofFn_getD, dif_pos (idx_lt _), dif_pos (idx_lt _)]

theorem rounds_three_zero (k : Nat) : rounds (3 * k) (constState 0) = constState 0 := by
  induction k with
  | zero => rfl
  | succ k ih =>
    have e : 3 * (k + 1) = 3 * k + 1 + 1 + 1 := by omega
    rw [e, rounds, rounds, rounds, round_const, round_const, round_const]
    have : f (f (f 0 0) (f 0 0)) (f (f 0 0) (f 0 0)) = 0 := by decide
    rw [this]; exact ih

theorem transform_zero : transform (constState 0) = constState 0 := rounds_three_zero 27

theorem curlHash_zero : curlHash (List.replicate 243 0) = List.replicate 243 0 := by
  rw [curlHash_eq]
  have : (Array.ofFn (n := 729) fun i => if i.val < 243 then normTrit ((List.replicate 243 (0 : Int)).getD i.val 0) else 0)
      = constState 0 := by
    refine congrArg Array.ofFn (funext fun i => ?_)
    split
    · rename_i h
      rw [List.getD_eq_getElem?_getD, List.getElem?_replicate, if_pos h]; rfl
    · rfl
  rw [this, transform_zero, List.eq_replicate_iff]
  refine ⟨by simp, fun t ht => ?_⟩
  obtain ⟨k, hk, rfl⟩ := List.mem_map.mp ht
  unfold constState
  rw [ofFn_getD, dif_pos (Nat.lt_trans (List.mem_range.mp hk) (by decide))]

theorem powBlock_zero : powBlock (List.replicate 32 0) 0 = List.replicate 243 0 := by decide +kernel

theorem hashTrits_zero : hashTrits (List.replicate 32 0) 0 = List.replicate 243 0 := by
  unfold hashTrits; rw [powBlock_zero, curlHash_zero]

/-- the zero digest, used for the instances below -/
abbrev zeroDigest : List UInt8 := List.replicate 32 0

/-- with any faithful batched sponge, lane 0 of the first batch from nonce 0 holds the zero hash. -/
theorem lane0_zero (slice : (Fin 64 → List Int) → Planes × Planes) (hslice : BctFaithful slice) :
    laneTrits (batchPlanes slice zeroDigest 0 0).1 (batchPlanes slice zeroDigest 0 0).2 0
      = List.replicate 243 0 := by
  rw [tied_of_slice slice hslice zeroDigest 0 0 0 (by decide)]; exact hashTrits_zero

/-- with any faithful batched sponge, the v1 worker started at 0 on the zero digest, asked for 243 trailing
zeros, returns nonce 0 in its first batch (the hypotheses of `worker_v1` are satisfiable with `some`). -/
theorem worker_v1_instance (slice : (Fin 64 → List Int) → Planes × Planes) (hslice : BctFaithful slice) (fuel : Nat) :
    worker slice (testV1 243) zeroDigest 0 (fuel + 1) = some 0 := by
  have hi0 : checkV1 (batchPlanes slice zeroDigest 0 0).1 (batchPlanes slice zeroDigest 0 0).2 243 = 0 :=
    checkV1_eq_zero (Nat.le_refl _) (by rw [lane0_zero slice hslice]; decide +kernel)
  unfold worker
  rw [scan]
  simp only [hi0]
  rfl

/-- … and the v2 worker returns some nonce in its first batch, for every admissible `lx`. -/
theorem worker_v2_instance (slice : (Fin 64 → List Int) → Planes × Planes) (hslice : BctFaithful slice)
    (lx : Nat) (h8 : 8 ≤ lx) (hlx : lx < 2 ^ 64) (fuel : Nat) :
    ∃ n, worker slice (testV2 lx) zeroDigest 0 (fuel + 1) = some n := by
  have hd : maxHash / stateToInt (batchPlanes slice zeroDigest 0 0).1 (batchPlanes slice zeroDigest 0 0).2 0 > lx := by
    unfold stateToInt
    rw [lane0_zero slice hslice]
    have : maxHash / toInt (List.replicate 243 0) ≥ 2 ^ 64 := by decide +kernel
    omega
  have hlt := checkV2_no_passover (batchPlanes slice zeroDigest 0 0).1 (batchPlanes slice zeroDigest 0 0).2 lx h8 hlx
    ⟨0, by decide, hd⟩
  unfold worker
  rw [scan]
  simp only [hlt, if_true]
  exact ⟨_, rfl⟩

/-! ## non-vacuity -/

-- the hypothesis has a model
example : BctFaithful sliceOf := sliceOf_faithful
example : BctBlocksFaithful (bctOfSlice sliceOf) := bctOfSlice_sliceOf_faithful

-- the nonce bytes are little-endian, the block has 192 + 48 + 3 = 243 trits for a 32-byte digest
example : nonceBytes 0x0102030405060708 = [8, 7, 6, 5, 4, 3, 2, 1] := by decide +kernel
example : nonceBytes (2 ^ 64 + 5) = [5, 0, 0, 0, 0, 0, 0, 0] ∧ leUint64 [5, 0, 0, 0, 0, 0, 0, 1] = 2 ^ 56 + 5 := by
  decide +kernel
example : (powBlock (List.replicate 32 7) 12345).length = 243 ∧
    (Iota.B1T6.encode (List.replicate 32 (7 : UInt8))).length = 192 ∧
    (Iota.B1T6.encode (nonceBytes 12345)).length = 48 ∧
    (powBlock (List.replicate 32 7) 12345).drop 240 = [0, 0, 0] := by decide +kernel
-- lane nonces wrap around like `uint64`
example : laneNonce (2 ^ 64 - 3) 0 5 = 2 ∧ laneNonce 100 2 63 = 291 := by decide +kernel
-- slicing: lane 3 carries the trits [1, 0, -1, …]
example : (((sliceOf fun i => if i.val = 3 then [1, 0, -1] else []).1.toArray.getD 0 0).getLsbD 3,
           ((sliceOf fun i => if i.val = 3 then [1, 0, -1] else []).2.toArray.getD 0 0).getLsbD 3,
           ((sliceOf fun i => if i.val = 3 then [1, 0, -1] else []).1.toArray.getD 2 0).getLsbD 3,
           ((sliceOf fun i => if i.val = 3 then [1, 0, -1] else []).2.toArray.getD 2 0).getLsbD 3)
    = (false, true, true, false) := by
  have h0 := Prod.mk.inj (sliceOf_bits (fun i => if i.val = 3 then [1, 0, -1] else []) ⟨3, by decide⟩ 0 (by decide))
  have h2 := Prod.mk.inj (sliceOf_bits (fun i => if i.val = 3 then [1, 0, -1] else []) ⟨3, by decide⟩ 2 (by decide))
  simp only at h0 h2
  rw [h0.1, h0.2, h2.1, h2.2]
  decide
-- a closed hash value: Curl-P-81 of the zero block, its trailing zeros, difficulty and (saturated) score
example : hashTrits zeroDigest 0 = List.replicate 243 0 := hashTrits_zero
example : trailingZeros (hashTrits zeroDigest 0) = 243 ∧ difficulty (hashTrits zeroDigest 0) = 3 ^ 243 ∧
    ScoreV2 (fun _ => zeroDigest) [1, 2, 3] 0 = 2 ^ 64 - 1 := by
  unfold ScoreV2; rw [hashTrits_zero]; decide +kernel
-- the workers return nonces (so the hypotheses `worker … = some n` of S2/S3 are satisfiable)
example : worker sliceOf (testV1 243) zeroDigest 0 1 = some 0 := worker_v1_instance _ sliceOf_faithful 0
example : ∃ n, worker sliceOf (testV2 8) zeroDigest 0 1 = some n :=
  worker_v2_instance _ sliceOf_faithful 8 (by decide) (by decide) 0

end Iota.Proofs.PowScore
