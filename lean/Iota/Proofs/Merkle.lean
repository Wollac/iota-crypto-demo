import Iota.Spec.Merkle

namespace Iota.Proofs.Merkle
open Iota.Merkle Iota.Spec.Merkle

/-! ### the split point -/

theorem lpo2_eq (n : Nat) (h2 : 2 ≤ n) (h63 : n ≤ 2 ^ 63) :
    largestPowerOfTwo n = 2 ^ (n - 1).log2 := by
  unfold largestPowerOfTwo bitsLen
  have hne : n - 1 ≠ 0 := by omega
  have hlog : (n - 1).log2 < 63 := (Nat.log2_lt hne).mpr (by omega)
  simp only [hne, if_false, Nat.add_sub_cancel, Nat.shiftLeft_eq, Nat.one_mul]
  have : (n - 1).log2 &&& 63 = (n - 1).log2 := by
    have := @Nat.and_two_pow_sub_one_of_lt_two_pow 6 (n - 1).log2 (by omega)
    simpa using this
  rw [this]

theorem pow_log2_pred (n : Nat) (h2 : 2 ≤ n) : 2 ^ (n - 1).log2 < n ∧ n ≤ 2 * 2 ^ (n - 1).log2 := by
  have hlo := Nat.log2_self_le (n := n - 1) (by omega)
  have hhi := @Nat.lt_log2_self (n - 1)
  rw [Nat.pow_succ] at hhi
  omega

theorem lpo2_spec (n : Nat) (h2 : 2 ≤ n) (h63 : n ≤ 2 ^ 63) :
    ∃ e, largestPowerOfTwo n = 2 ^ e ∧ largestPowerOfTwo n < n ∧ n ≤ 2 * largestPowerOfTwo n := by
  rw [lpo2_eq n h2 h63]
  exact ⟨_, rfl, pow_log2_pred n h2⟩

/-- the power of two `k` with `k < n ≤ 2k` is unique. -/
theorem pow2_split_unique (n a b : Nat) (ha : 2 ^ a < n) (ha' : n ≤ 2 * 2 ^ a)
    (hb : 2 ^ b < n) (hb' : n ≤ 2 * 2 ^ b) : a = b := by
  rcases Nat.lt_trichotomy a b with h | h | h
  · have : 2 ^ (a + 1) ≤ 2 ^ b := Nat.pow_le_pow_right (by omega) h
    rw [Nat.pow_succ] at this; omega
  · exact h
  · have : 2 ^ (b + 1) ≤ 2 ^ a := Nat.pow_le_pow_right (by omega) h
    rw [Nat.pow_succ] at this; omega

/-! ### unfolding lemmas for `hash` -/

variable {ε : Type}

theorem hash_nil (H : Bytes → Bytes) : hash (ε := ε) H [] = .ok (H []) := by
  rw [Iota.Merkle.hash]; simp

theorem hash_single (H : Bytes → Bytes) (x : Except ε Bytes) :
    hash H [x] = match x with | .ok b => .ok (hashLeaf H b) | .error e => .error e := by
  rw [Iota.Merkle.hash]; cases x <;> simp

theorem hash_split (H : Bytes → Bytes) (data : List (Except ε Bytes)) (h : 2 ≤ data.length) :
    hash H data =
      match hash H (data.take (largestPowerOfTwo data.length)) with
      | .error e => .error e
      | .ok l =>
        match hash H (data.drop (largestPowerOfTwo data.length)) with
        | .error e => .error e
        | .ok r => .ok (hashNode H l r) := by
  rw [Iota.Merkle.hash]
  have h0 : ¬ data.length = 0 := by omega
  have h1 : ¬ data.length = 1 := by omega
  simp only [h0, h1, dite_false]
  cases Iota.Merkle.hash H (data.take (largestPowerOfTwo data.length)) with
  | error e => rfl
  | ok l => cases Iota.Merkle.hash H (data.drop (largestPowerOfTwo data.length)) <;> rfl

/-- Induction over a list along a split point `k n` with `0 < k n < n`: the shape of the recursion of `hash`
(with `largestPowerOfTwo`) and of the RFC's `mth` (with `splitPoint`). -/
theorem split_induction {α : Type} {motive : List α → Prop} (k : Nat → Nat)
    (hk : ∀ n, 2 ≤ n → 0 < k n ∧ k n < n) (nil : motive []) (one : ∀ a, motive [a])
    (node : ∀ l, 2 ≤ l.length → motive (l.take (k l.length)) → motive (l.drop (k l.length)) → motive l) :
    ∀ l, motive l := by
  intro l
  induction hn : l.length using Nat.strongRecOn generalizing l with
  | _ n ih =>
    match l, hn with
    | [], _ => exact nil
    | [a], _ => exact one a
    | a :: b :: rest, hn =>
      have h2 : 2 ≤ (a :: b :: rest).length := Nat.le_add_left 2 _
      generalize a :: b :: rest = l at hn h2
      have := hk l.length h2
      exact node l h2 (ih _ (by rw [List.length_take]; omega) _ rfl)
        (ih _ (by rw [List.length_drop]; omega) _ rfl)

/-! ### Hash = MTH -/

theorem isMTH_functional (H : Bytes → Bytes) (D : List Bytes) (h h' : Bytes)
    (a : IsMTH H D h) (b : IsMTH H D h') : h = h' := by
  induction a generalizing h' with
  | empty => cases b with
    | empty => rfl
    | node D k e l r h2 => simp at h2
  | leaf d => cases b with
    | leaf => rfl
    | node D k e l r h2 => simp at h2
  | node D k e l r h2 hk hlt hle _ _ ihl ihr =>
    cases b with
    | empty => simp at h2
    | leaf d => simp at h2
    | node D k' e' l' r' h2' hk' hlt' hle' ml mr =>
      have : e = e' := pow2_split_unique D.length e e' (hk ▸ hlt) (hk ▸ hle) (hk' ▸ hlt') (hk' ▸ hle')
      subst this
      have hkk : k = k' := by rw [hk, hk']
      subst hkk
      rw [ihl l' ml, ihr r' mr]

theorem hash_ok_mth (H : Bytes → Bytes) (D : List Bytes) : D.length ≤ 2 ^ 63 →
    ∃ h, hash (ε := ε) H (D.map .ok) = .ok h ∧ IsMTH H D h := by
  induction D using split_induction largestPowerOfTwo lpo2_pos_lt with
  | nil => exact fun _ => ⟨H [], hash_nil H, IsMTH.empty⟩
  | one d => exact fun _ => ⟨H (0 :: d), by rw [List.map_singleton, hash_single]; rfl, IsMTH.leaf d⟩
  | node D h2 ihl ihr =>
    intro h63
    obtain ⟨e, hke, hklt, hkle⟩ := lpo2_spec D.length h2 h63
    obtain ⟨l, hl, ml⟩ := ihl (by rw [List.length_take]; omega)
    obtain ⟨r, hr, mr⟩ := ihr (by rw [List.length_drop]; omega)
    refine ⟨H (1 :: (l ++ r)), ?_, IsMTH.node D _ e l r h2 hke hklt hkle ml mr⟩
    rw [hash_split H _ (by rw [List.length_map]; exact h2), List.length_map, ← List.map_take, ← List.map_drop, hl, hr]
    rfl

theorem hash_eq_mth (H : Bytes → Bytes) (D : List Bytes) (h63 : D.length ≤ 2 ^ 63) (h : Bytes) :
    hash (ε := ε) H (D.map .ok) = .ok h ↔ IsMTH H D h := by
  obtain ⟨h0, hh, hm⟩ := hash_ok_mth (ε := ε) H D h63
  constructor
  · intro hx
    rw [hh] at hx
    cases hx; exact hm
  · intro hx
    rw [hh, isMTH_functional H D h0 h hm hx]

/-! ### errors -/

theorem firstError_append (xs ys : List (Except ε Bytes)) :
    firstError (xs ++ ys) = (firstError xs).or (firstError ys) := by
  induction xs with
  | nil => simp [firstError]
  | cons x xs ih => cases x <;> simp [firstError, ih]

theorem firstError_none_iff (xs : List (Except ε Bytes)) :
    firstError xs = none ↔ ∃ D : List Bytes, xs = D.map .ok := by
  constructor
  · induction xs with
    | nil => exact fun _ => ⟨[], rfl⟩
    | cons x xs ih =>
      cases x with
      | error e => intro h; cases h
      | ok b =>
        intro h
        obtain ⟨D, rfl⟩ := ih h
        exact ⟨b :: D, rfl⟩
  · rintro ⟨D, rfl⟩
    induction D with
    | nil => rfl
    | cons d D ih => exact ih

/-- `hash` returns the first marshaling error in index order, and a hash if there is none. -/
theorem hash_firstError (H : Bytes → Bytes) (data : List (Except ε Bytes)) :
    match firstError data with
    | some e => hash H data = .error e
    | none => ∃ h, hash H data = .ok h := by
  induction data using split_induction largestPowerOfTwo lpo2_pos_lt with
  | nil => exact ⟨_, hash_nil H⟩
  | one x =>
    rw [hash_single]
    cases x with
    | ok b => exact ⟨_, rfl⟩
    | error e => rfl
  | node data h2 ihl ihr =>
    have hs := firstError_append (data.take (largestPowerOfTwo data.length))
      (data.drop (largestPowerOfTwo data.length))
    rw [List.take_append_drop] at hs
    rw [hs, hash_split H _ h2]
    cases hl : firstError (data.take (largestPowerOfTwo data.length)) with
    | some e => rw [hl] at ihl; rw [ihl]; rfl
    | none =>
      rw [hl] at ihl
      obtain ⟨l, hl'⟩ := ihl
      rw [hl', Option.none_or]
      cases hr : firstError (data.drop (largestPowerOfTwo data.length)) with
      | some e => rw [hr] at ihr; rw [ihr]
      | none =>
        rw [hr] at ihr
        obtain ⟨r, hr'⟩ := ihr
        exact ⟨_, by rw [hr']⟩

end Iota.Proofs.Merkle
