import Iota.Model.Slip10

namespace Iota.Proofs.Slip10
open Iota.Slip10

variable {κ : Type} (hmac : Bytes → Bytes → Bytes) (c : Curve κ)

/-- SLIP-0010's candidate sequence I₀ = HMAC(key, S), Iₙ₊₁ = HMAC(key, Iₙ); that the master-key loop returns
the first valid one is `Iota.Proofs.Slip10Spec.masterLoop_ok_iff` with `masterSeq_eq`. -/
def masterSeq (seed : Bytes) : Nat → Bytes
  | 0 => hmac c.hmacKey seed
  | n + 1 => hmac c.hmacKey (masterSeq seed n)

/-- CKD inputs: hardened uses 0x00 ‖ ser256(k) ‖ ser32(i), normal uses serP(point(k)) ‖ ser32(i). -/
theorem deriveChild_hardened (fuel : Nat) (e : ExtKey κ) (i : Nat) (hi : hardened ≤ i) (hp : c.isPrivate e.key = true) :
    deriveChild hmac c fuel e i =
      childLoop hmac c e i fuel (hmac e.chainCode (0x00 :: (c.bytes e.key ++ ser32 i))) := by
  simp [deriveChild, hi, hp]

theorem deriveChild_normal (fuel : Nat) (e : ExtKey κ) (i : Nat) (hi : i < hardened) (hh : c.hardenedOnly e.key = false) :
    deriveChild hmac c fuel e i =
      childLoop hmac c e i fuel (hmac e.chainCode (c.bytes (c.pub e.key) ++ ser32 i)) := by
  have : ¬ (i ≥ hardened) := by omega
  simp [deriveChild, this, hh]

/-- derivations SLIP-0010 does not define fail with an error. -/
theorem hardened_child_of_public (fuel : Nat) (e : ExtKey κ) (i : Nat) (hi : hardened ≤ i) (hp : c.isPrivate e.key = false) :
    deriveChild hmac c fuel e i = .error .hardenedChildPublicKey := by
  simp [deriveChild, hi, hp]

theorem non_hardened_on_hardened_only (fuel : Nat) (e : ExtKey κ) (i : Nat) (hi : i < hardened) (hh : c.hardenedOnly e.key = true) :
    deriveChild hmac c fuel e i = .error .notHardened := by
  have : ¬ (i ≥ hardened) := by omega
  simp [deriveChild, this, hh]

/-- deriving along `p ++ q` is deriving along `p`, then along `q` from the key reached; an error on `p` is the result. -/
theorem deriveFrom_append (fuel : Nat) (e : ExtKey κ) (p q : List Nat) :
    deriveFrom hmac c fuel e (p ++ q) =
      match deriveFrom hmac c fuel e p with
      | .ok e' => deriveFrom hmac c fuel e' q
      | .error x => .error x := by
  induction p generalizing e with
  | nil => simp [deriveFrom]
  | cons i p ih =>
    simp only [List.cons_append, deriveFrom]
    cases deriveChild hmac c fuel e i with
    | ok e' => exact ih e'
    | error x => rfl

/-- the fingerprint is the first 4 bytes of HASH160 of the parent's public key, zero for a master key. -/
theorem fingerprint_master (hash160 : Bytes → Bytes) (e : ExtKey κ) (h : e.parent = none) :
    fingerprint c hash160 e = [0, 0, 0, 0] := by
  simp [fingerprint, h]

theorem fingerprint_child (hash160 : Bytes → Bytes) (e : ExtKey κ) (p : κ) (h : e.parent = some p) :
    fingerprint c hash160 e = (hash160 (c.bytes (c.pub p))).take 4 := by
  simp [fingerprint, h]

/-- ed25519 keys are hardened-only (for the Weierstrass curves `hardenedOnly` is constantly `false` in Iota/Model/Slip10.lean). -/
theorem ed_hardened_only (edPublic : Bytes → Bytes) (k : EdKey) : (edCurve edPublic).hardenedOnly k = true := rfl

end Iota.Proofs.Slip10
