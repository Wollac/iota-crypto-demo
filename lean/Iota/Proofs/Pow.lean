/-
Proof of work (pkg/pow v1, pkg/pow/v2): proofs about `Iota.Model.Pow`.
  ToInt   P1 constants; P2 `toInt` = little-endian base-3 value + 1, range, no uint64 overflow in the chunk loop
  Score   P3 closed form of `score`; P4 `sufficientTrailingZeros` = least s with 3^s ≥ lx, no overflow
  Bits    `firstZeroBit`, `lenNot`, `orDiff`, lane trits; top trits zero ⇔ lane integer ≤ 3^a
  V2      P5 `checkV2`: range, soundness, no pass-over, score
  V1      P6 `checkV1` exact w.r.t. trailing zeros; conditional soundness of v1 mining
  Mine    P7 `mineSeq` returns the first accepted block; combination with P5 and with P6
-/
import Iota.Proofs.Pow.ToInt
import Iota.Proofs.Pow.Score
import Iota.Proofs.Pow.Bits
import Iota.Proofs.Pow.V2
import Iota.Proofs.Pow.V1
import Iota.Proofs.Pow.Mine
