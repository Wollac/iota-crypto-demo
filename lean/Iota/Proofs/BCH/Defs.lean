import Iota.Model.Bech32
/-!
Definitions for the finite certificate behind `bch_detects`: the Nat-level step map `XN`,
a search tree with payloads, and the kernel-evaluable check functions.
-/
namespace Iota.Proofs.BCH
open Iota.Bech32

/-- `polymodStep · 0` on `Nat`. -/
def XN (c : Nat) : Nat := ((c &&& 0x1ffffff) <<< 5) ^^^ genMix (c >>> 25)

/-- `XN` iterated. -/
def Xn : Nat → Nat → Nat
  | 0, c => c
  | k + 1, c => XN (Xn k c)

/-- force a `Nat` to a literal before continuing (keeps kernel evaluation linear). -/
@[inline] def force {α : Sort _} (x : Nat) (k : Nat → α) : α :=
  match x with
  | 0 => k 0
  | n + 1 => k (n + 1)

theorem force_eq {α : Sort _} (x : Nat) (k : Nat → α) : force x k = k x := by
  cases x <;> rfl

/-- the table `m ↦ b ↦ Xn m b` for `m = 1..rows`, `b = 1..31`. -/
def expectedTbl (rows : Nat) : List (List Nat) :=
  (List.range' 1 rows).map fun m => (List.range' 1 31).map fun b => Xn m b

/-- search tree with payloads -/
inductive Tr
  | leaf
  | node (l : Tr) (k v : Nat) (r : Tr)

/-- payload stored under key `x`, `0` if absent. -/
def lookup : Tr → Nat → Nat
  | .leaf, _ => 0
  | .node l k v r, x =>
    bif Nat.blt x k then lookup l x else bif Nat.blt k x then lookup r x else v

/-- force a list to weak head normal form. -/
@[inline] def forceL {α : Sort _} {β : Type _} (l : List β) (k : List β → α) : α :=
  match l with
  | [] => k []
  | a :: as => k (a :: as)

theorem forceL_eq {α : Sort _} {β : Type _} (l : List β) (k : List β → α) : forceL l k = k l := by
  cases l <;> rfl

/-- `List.all` through the recursor (cheaper for the kernel than the compiled structural
recursion). -/
noncomputable def allR (l : List Nat) (p : Nat → Bool) : Bool :=
  List.rec true (fun h _ ih => cond (p h) ih false) l

theorem allR_eq (l : List Nat) (p : Nat → Bool) : allR l p = l.all p := by
  induction l with
  | nil => rfl
  | cons a l ih =>
    show cond (p a) (allR l p) false = _
    rw [ih]; cases h : p a <;> simp [h]

def clearAt (m i : Nat) : Bool := Nat.beq (Nat.land (Nat.shiftRight m i) 1) 0

/-- `key` is certainly not stored: one of the two bit-set filters is clear at its hash, or the
tree has no entry. -/
def miss (m1 m2 : Nat) (t : Tr) (key : Nat) : Bool :=
  cond (clearAt m1 (Nat.mod key 32749)) true
    (cond (clearAt m2 (Nat.mod key 32719)) true
      (force key fun k => Nat.beq (lookup t k) 0))

/-- `key` is stored with payload `v` and passes both filters. -/
def hit (m1 m2 : Nat) (t : Tr) (key v : Nat) : Bool :=
  !clearAt m1 (Nat.mod key 32749) && !clearAt m2 (Nat.mod key 32719) && Nat.beq (lookup t key) v

theorem miss_of_hit {m1 m2 t key v} (hv : v ≠ 0) (h : hit m1 m2 t key v = true) :
    miss m1 m2 t key = false := by
  simp only [hit, Bool.and_eq_true, Bool.not_eq_eq_eq_not, Bool.not_true] at h
  obtain ⟨⟨h1, h2⟩, h3⟩ := h
  have h3 := Nat.eq_of_beq_eq_true h3
  simp only [miss, h1, h2, cond_false, force_eq, h3]
  cases v with
  | zero => exact absurd rfl hv
  | succ v => rfl

/-- `p i x` for every entry `x` of the list, the entries counted from `i`.  (Walking the list costs
the kernel a third of indexing it with `getD` from a range.) -/
def allFrom {α : Type} (p : Nat → α → Bool) : List α → Nat → Bool
  | [], _ => true
  | x :: l, i => cond (p i x) (force (i + 1) (allFrom p l)) false

/-- every key of the table is stored in the tree with payload `32 * m + b` (rows `m` and columns `b`
counted from 1). -/
def checkKeys (T : List (List Nat)) (m1 m2 : Nat) (t : Tr) : Bool :=
  allFrom (fun m row => allFrom (fun b x => force (x >>> 5) fun key => hit m1 m2 t key (32 * m + b)) row 1) T 1

/-- no XOR of the first entry of row `i` with an entry of a later row `j` has its key in the tree
(rows counted from 1, as in `checkKeys`). -/
noncomputable def checkPairs (T : List (List Nat)) (m1 m2 : Nat) (t : Tr) : Bool :=
  (List.range' 1 87).all fun i =>
    force ((T.getD (i - 1) []).getD 0 0) fun x =>
      (List.range' (i + 1) (88 - i)).all fun j =>
        forceL (T.getD (j - 1) []) fun rj =>
          allR rj fun y => miss m1 m2 t (Nat.shiftRight (Nat.xor x y) 5)

end Iota.Proofs.BCH
