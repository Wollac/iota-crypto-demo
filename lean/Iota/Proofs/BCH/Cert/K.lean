import Iota.Proofs.BCH.Data
/-! Certificate: the generated table and tree are what they claim to be, and the tree holds no key of
a pair `Xn i 1 ^^^ Xn j d`, `i < j`. -/
namespace Iota.Proofs.BCH

theorem tbl_ok : tbl = expectedTbl 88 := by decide +kernel

theorem keys_ok : checkKeys tbl mask1 mask2 tree = true := by decide +kernel

theorem lookup_zero : lookup tree 0 = 0 := by decide +kernel

theorem pairs_ok : checkPairs tbl mask1 mask2 tree = true := by decide +kernel

end Iota.Proofs.BCH
