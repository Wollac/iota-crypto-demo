import Iota.Proofs.BCH.Cert.K
import Iota.Proofs.BCH.Lift
import Iota.Proofs.BCH.Scalar
/-!
The finite core, read off the certificate: no XOR of one, two or three shifted nonzero symbols at
distinct distances `1..88` has all of its upper 25 bits zero.
-/
namespace Iota.Proofs.BCH

theorem key_hit (m : Nat) (hm1 : 1 ≤ m) (hm2 : m ≤ 88) (b : Nat) (hb1 : 1 ≤ b) (hb2 : b < 32) :
    hit mask1 mask2 tree (Xn m b >>> 5) (32 * m + b) = true := by
  have h := checkKeys_spec keys_ok m hm1 (b := b) (hb1 := hb1)
  rw [tbl_ok, expectedTbl_entry m hm1 hm2 b hb1 (by omega), expectedTbl_row (m - 1) (by omega)] at h
  exact h (by simp [expectedTbl]; omega) (by simp; omega)

theorem key_lookup (m : Nat) (hm1 : 1 ≤ m) (hm2 : m ≤ 88) (b : Nat) (hb1 : 1 ≤ b) (hb2 : b < 32) :
    lookup tree (Xn m b >>> 5) = 32 * m + b := by
  have h := key_hit m hm1 hm2 b hb1 hb2
  simp only [hit, Bool.and_eq_true] at h
  exact Nat.eq_of_beq_eq_true h.2

theorem K1 (m : Nat) (hm1 : 1 ≤ m) (hm2 : m ≤ 88) (b : Nat) (hb1 : 1 ≤ b) (hb2 : b < 32) :
    Xn m b >>> 5 ≠ 0 := by
  intro h
  have := key_lookup m hm1 hm2 b hb1 hb2
  rw [h, lookup_zero] at this
  omega

theorem K2 (m i : Nat) (hm1 : 1 ≤ m) (hmi : m < i) (hi : i ≤ 88) (b c : Nat) (hb1 : 1 ≤ b)
    (hb2 : b < 32) (hc1 : 1 ≤ c) (hc2 : c < 32) : (Xn m b ^^^ Xn i c) >>> 5 ≠ 0 := by
  intro h
  rw [Nat.shiftRight_xor_distrib] at h
  have h := eq_of_xor_eq_zero h
  have e1 := key_lookup m hm1 (by omega) b hb1 hb2
  have e2 := key_lookup i (by omega) hi c hc1 hc2
  rw [h, e2] at e1
  omega

/-- `K3` with the middle symbol `1`: the pairs the certificate enumerates. -/
theorem K3_one (m i j : Nat) (hm1 : 1 ≤ m) (hmi : m < i) (hij : i < j) (hj : j ≤ 88) (b d : Nat)
    (hb1 : 1 ≤ b) (hb2 : b < 32) (hd1 : 1 ≤ d) (hd2 : d < 32) :
    (Xn m b ^^^ (Xn i 1 ^^^ Xn j d)) >>> 5 ≠ 0 := by
  intro h
  rw [Nat.shiftRight_xor_distrib] at h
  have h := eq_of_xor_eq_zero h
  have e1 := miss_of_hit (by omega) (key_hit m hm1 (by omega) b hb1 hb2)
  have hy : Xn (j - 1 + 1) d ∈ tbl.getD (j - 1) [] := by
    rw [tbl_ok]; exact expectedTbl_mem (j - 1) (by omega) d hd1 (by omega)
  have e2 := checkPairs_spec pairs_ok i j (by omega) hij hj _ hy
  rw [tbl_ok, expectedTbl_entry i (by omega) (by omega) 1 (by omega) (by omega),
    show j - 1 + 1 = j by omega, ← h, e1] at e2
  exact Bool.noConfusion e2

/-- scaling by `xᵏ = c⁻¹` reduces to `c = 1`. -/
theorem K3 (m i j : Nat) (hm1 : 1 ≤ m) (hmi : m < i) (hij : i < j) (hj : j ≤ 88) (b c d : Nat)
    (hb1 : 1 ≤ b) (hb2 : b < 32) (hc1 : 1 ≤ c) (hc2 : c < 32) (hd1 : 1 ≤ d) (hd2 : d < 32) :
    (Xn m b ^^^ (Xn i c ^^^ Xn j d)) >>> 5 ≠ 0 := by
  obtain ⟨k, -, hk⟩ := xtime_orbit c hc2 hc1
  induction k generalizing b c d with
  | zero => subst hk; exact K3_one m i j hm1 hmi hij hj b d hb1 hb2 hd1 hd2
  | succ k ih =>
    exact fun h => ih (xtime b) (xtime c) (xtime d) (xtime_pos b hb2 hb1) (xtime_lt b hb2)
      (xtime_pos c hc2 hc1) (xtime_lt c hc2) (xtime_pos d hd2 hd1) (xtime_lt d hd2) hk
      (scale3 m i j b c d hb2 hc2 hd2 h)

end Iota.Proofs.BCH
