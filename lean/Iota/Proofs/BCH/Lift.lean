import Iota.Proofs.BCH.Defs
/-! Meaning of the check functions of `Defs`. -/
namespace Iota.Proofs.BCH

theorem allFrom_spec {α : Type} {p : Nat → α → Bool} {l : List α} {i : Nat} (h : allFrom p l i = true)
    (k : Nat) (hk : k < l.length) (d : α) : p (i + k) (l.getD k d) = true := by
  induction l generalizing i k with
  | nil => exact absurd hk (Nat.not_lt_zero k)
  | cons x l ih =>
    rw [allFrom, force_eq] at h
    cases hp : p i x
    · rw [hp] at h; exact Bool.noConfusion h
    · cases k with
      | zero => exact hp
      | succ k =>
        rw [hp] at h
        rw [← Nat.add_assoc, Nat.add_right_comm]
        exact ih h k (Nat.lt_of_succ_lt_succ hk)

theorem checkKeys_spec {T : List (List Nat)} {m1 m2 : Nat} {t : Tr}
    (h : checkKeys T m1 m2 t = true) (m : Nat) (hm1 : 1 ≤ m) (hm2 : m ≤ T.length) (b : Nat)
    (hb1 : 1 ≤ b) (hb2 : b ≤ (T.getD (m - 1) []).length) :
    hit m1 m2 t ((T.getD (m - 1) []).getD (b - 1) 0 >>> 5) (32 * m + b) = true := by
  have h := allFrom_spec (allFrom_spec h (m - 1) (by omega) []) (b - 1) (by omega) 0
  rwa [force_eq, Nat.add_sub_cancel' hm1, Nat.add_sub_cancel' hb1] at h

theorem checkPairs_spec {T : List (List Nat)} {m1 m2 : Nat} {t : Tr}
    (h : checkPairs T m1 m2 t = true) (i j : Nat) (hi : 1 ≤ i) (hij : i < j) (hj : j ≤ 88)
    (y : Nat) (hy : y ∈ T.getD (j - 1) []) :
    miss m1 m2 t (((T.getD (i - 1) []).getD 0 0 ^^^ y) >>> 5) = true := by
  simp only [checkPairs, List.all_eq_true, List.mem_range'_1, forceL_eq, force_eq, allR_eq] at h
  exact h i ⟨hi, by omega⟩ j ⟨by omega, by omega⟩ y hy

theorem expectedTbl_row (i : Nat) (hi : i < 88) :
    (expectedTbl 88).getD i [] = (List.range' 1 31).map fun b => Xn (i + 1) b := by
  simp [expectedTbl, List.getD_eq_getElem?_getD, hi, Nat.add_comm]

theorem expectedTbl_mem (i : Nat) (hi : i < 88) (b : Nat) (hb1 : 1 ≤ b) (hb2 : b ≤ 31) :
    Xn (i + 1) b ∈ (expectedTbl 88).getD i [] := by
  rw [expectedTbl_row i hi]
  exact List.mem_map.mpr ⟨b, List.mem_range'_1.mpr ⟨hb1, by omega⟩, rfl⟩

theorem expectedTbl_entry (m : Nat) (hm1 : 1 ≤ m) (hm2 : m ≤ 88) (b : Nat) (hb1 : 1 ≤ b)
    (hb2 : b ≤ 31) : ((expectedTbl 88).getD (m - 1) []).getD (b - 1) 0 = Xn m b := by
  rw [expectedTbl_row (m - 1) (by omega)]
  have hm : m - 1 + 1 = m := by omega
  have hb : b - 1 < 31 := by omega
  have hb' : 1 + (b - 1) = b := by omega
  simp [List.getD_eq_getElem?_getD, hm, hb, hb']

end Iota.Proofs.BCH
