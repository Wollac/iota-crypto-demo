import Iota.Proofs.BCH.Algebra
/-!
The code is linear over GF(32) = GF(2)[x]/(x⁵+x³+1), not only over GF(2): the generator constants
are `gen[i] = xⁱ · gen[0]` symbol by symbol, so `genMix (x·p) = x • genMix p` and the step map `XN`
commutes with multiplying each of the six 5-bit symbols of a word by `x` (`xmul 6`).  Hence
`Xn k (x·b) = x • Xn k b`, and a word with zero upper 25 bits stays one under `x •`.  Every nonzero
scalar is a power of `x`, so in a sum of shifted symbols one of them may be taken to be `1`.
-/
namespace Iota.Proofs.BCH
open Iota.Bech32

/-- times `x` in GF(32): `x⁵ = x³ + 1 = 9`.  (`force`: `p` is used twice, and iterating would
otherwise evaluate the argument `2ᵏ` times.) -/
def xtime (p : Nat) : Nat := force p fun p => 2 * p % 32 ^^^ (if 16 ≤ p then 9 else 0)

/-- times `xᵏ`. -/
def xpow : Nat → Nat → Nat
  | 0, p => p
  | k + 1, p => xpow k (xtime p)

/-- the `n` low symbols of `w`, each multiplied by `x`. -/
def xmul : Nat → Nat → Nat
  | 0, _ => 0
  | n + 1, w => xtime (w % 32) + 32 * xmul n (w / 32)

/-! ### the field, by evaluation -/

theorem xtime_xor : ∀ p < 32, ∀ q < 32, xtime (p ^^^ q) = xtime p ^^^ xtime q := by decide +kernel

theorem xtime_lt : ∀ p < 32, xtime p < 32 := by decide

theorem xtime_pos : ∀ p < 32, 1 ≤ p → 1 ≤ xtime p := by decide

/-- `x` generates the multiplicative group. -/
theorem xtime_orbit : ∀ c < 32, 1 ≤ c → ∃ k, k < 31 ∧ xpow k c = 1 := by decide +kernel

/-- `gen[i] = xⁱ · gen[0]` symbol by symbol. -/
theorem xmul_genMix : ∀ p < 32, xmul 6 (genMix p) = genMix (xtime p) := by decide +kernel

/-! ### additivity -/

theorem xor_digits {p₁ p₂ : Nat} (q₁ q₂ : Nat) (h₁ : p₁ < 32) (h₂ : p₂ < 32) :
    (p₁ + 32 * q₁) ^^^ (p₂ + 32 * q₂) = (p₁ ^^^ p₂) + 32 * (q₁ ^^^ q₂) := by
  rw [← Nat.mod_add_div (_ ^^^ _) (2 ^ 5), Nat.xor_mod_two_pow, Nat.xor_div_two_pow]
  simp [Nat.add_mul_mod_self_left, Nat.add_mul_div_left, Nat.mod_eq_of_lt, Nat.div_eq_of_lt, h₁, h₂]

theorem xmul_xor (n a b : Nat) : xmul n (a ^^^ b) = xmul n a ^^^ xmul n b := by
  induction n generalizing a b with
  | zero => exact (Nat.xor_self 0).symm
  | succ n ih =>
    have ha : a % 32 < 32 := Nat.mod_lt _ (by decide)
    have hb : b % 32 < 32 := Nat.mod_lt _ (by decide)
    simp only [xmul]
    rw [xor_digits _ _ (xtime_lt _ ha) (xtime_lt _ hb), ← ih, ← xtime_xor _ ha _ hb]
    exact congr (congrArg _ (congrArg _ (Nat.xor_mod_two_pow (n := 5))))
      (congrArg _ (congrArg _ (Nat.xor_div_two_pow (n := 5))))

/-! ### both ends of a word -/

theorem xmul_zero (n : Nat) : xmul n 0 = 0 := by
  induction n with
  | zero => rfl
  | succ n ih => simp only [xmul, Nat.zero_div, ih]; rfl

theorem xmul_lt (n w : Nat) : xmul n w < 32 ^ n := by
  induction n generalizing w with
  | zero => exact Nat.one_pos
  | succ n ih =>
    have := xtime_lt (w % 32) (Nat.mod_lt _ (by decide))
    have := ih (w / 32)
    simp only [xmul, Nat.pow_succ]
    omega

theorem xmul_low (n w : Nat) (hw : w < 32) : xmul (n + 1) w = xtime w := by
  simp only [xmul, Nat.mod_eq_of_lt hw, Nat.div_eq_of_lt hw, xmul_zero n]
  rfl

theorem xmul_mul32 (n w : Nat) : xmul (n + 1) (w * 32) = xmul n w * 32 := by
  simp only [xmul, Nat.mul_mod_left, Nat.mul_div_cancel _ (show 0 < 32 by decide)]
  rw [show xtime 0 = 0 from rfl, Nat.zero_add, Nat.mul_comm]

theorem xmul_top (n w : Nat) :
    xmul (n + 1) w = xmul n (w % 32 ^ n) + 32 ^ n * xtime (w / 32 ^ n % 32) := by
  induction n generalizing w with
  | zero => simp [xmul]
  | succ n ih =>
    rw [xmul, ih, xmul, Nat.pow_succ', Nat.mod_mul_right_mod, Nat.mod_mul_right_div_self,
      Nat.div_div_eq_div_mul]
    simp only [Nat.mul_add, Nat.mul_assoc, Nat.add_assoc]

/-! ### scaling commutes with the step map -/

theorem xmul_XN (c : Nat) (hc : c < 2 ^ 30) : xmul 6 (XN c) = XN (xmul 6 c) := by
  have ht : xmul 6 c = xmul 5 (c % 2 ^ 25) + 2 ^ 25 * xtime (c / 2 ^ 25 % 32) := xmul_top 5 c
  have hl : xmul 5 (c % 2 ^ 25) < 2 ^ 25 := xmul_lt 5 _
  have hp : c / 2 ^ 25 < 32 := by omega
  rw [Nat.mod_eq_of_lt hp] at ht
  rw [XN_def, XN_def, xmul_xor, xmul_mul32, xmul_genMix _ hp, ht, Nat.add_mul_mod_self_left,
    Nat.add_mul_div_left _ _ (Nat.two_pow_pos 25), Nat.mod_eq_of_lt hl, Nat.div_eq_of_lt hl,
    Nat.zero_add]

theorem xmul_Xn (k b : Nat) (hb : b < 32) : xmul 6 (Xn k b) = Xn k (xtime b) := by
  induction k with
  | zero => exact xmul_low 5 b hb
  | succ k ih => rw [Xn, xmul_XN _ (Xn_lt k b (by omega)), ih]; rfl

/-- scaling a sum of three shifted symbols whose upper 25 bits vanish. -/
theorem scale3 (m i j b c d : Nat) (hb : b < 32) (hc : c < 32) (hd : d < 32)
    (h : (Xn m b ^^^ (Xn i c ^^^ Xn j d)) >>> 5 = 0) :
    (Xn m (xtime b) ^^^ (Xn i (xtime c) ^^^ Xn j (xtime d))) >>> 5 = 0 := by
  rw [Nat.shiftRight_eq_div_pow] at h ⊢
  rw [← xmul_Xn m b hb, ← xmul_Xn i c hc, ← xmul_Xn j d hd, ← xmul_xor, ← xmul_xor,
    xmul_low 5 _ (by omega)]
  exact Nat.div_eq_of_lt (xtime_lt _ (by omega))

end Iota.Proofs.BCH
