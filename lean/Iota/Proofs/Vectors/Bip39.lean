/-
Known-answer tests for the BIP-39 model with the committed English word list and the SHA-256 oracle,
proved by kernel evaluation (of SHA-256 in the form `sha256Eval`, Proofs/Hash/Sha256.lean).  Source: /repo/pkg/bip39/testdata/TestBIP39.json (the Trezor reference
vectors), entries 1 and 4 of the English list; the repository's pkg/bip39 gives the same values.
(The seed of these vectors needs PBKDF2 with 2048 iterations and is out of reach, see Mac.lean.)
Core Lean only.
-/
import Iota.Model.Mnemonic
import Iota.Proofs.Hash.Sha256
import Iota.Spec.Bip39Words

namespace Iota.Proofs.Vectors
open Iota Iota.Bip39

/-- "abandon abandon abandon abandon abandon abandon abandon abandon abandon abandon abandon about" -/
def bip39Mnemonic_zero : List Word :=
    [[0x61,0x62,0x61,0x6e,0x64,0x6f,0x6e],
     [0x61,0x62,0x61,0x6e,0x64,0x6f,0x6e],
     [0x61,0x62,0x61,0x6e,0x64,0x6f,0x6e],
     [0x61,0x62,0x61,0x6e,0x64,0x6f,0x6e],
     [0x61,0x62,0x61,0x6e,0x64,0x6f,0x6e],
     [0x61,0x62,0x61,0x6e,0x64,0x6f,0x6e],
     [0x61,0x62,0x61,0x6e,0x64,0x6f,0x6e],
     [0x61,0x62,0x61,0x6e,0x64,0x6f,0x6e],
     [0x61,0x62,0x61,0x6e,0x64,0x6f,0x6e],
     [0x61,0x62,0x61,0x6e,0x64,0x6f,0x6e],
     [0x61,0x62,0x61,0x6e,0x64,0x6f,0x6e],
     [0x61,0x62,0x6f,0x75,0x74]]

/-- entropy 00000000000000000000000000000000 ↦ "abandon abandon abandon abandon abandon abandon abandon abandon abandon abandon abandon about". -/
theorem bip39_entropyToMnemonic_zero :
    entropyToMnemonic Hash.sha256 Spec.Bip39Words.english
    [0x00,0x00,0x00,0x00,0x00,0x00,0x00,0x00,0x00,0x00,0x00,0x00,0x00,0x00,0x00,0x00] = .ok bip39Mnemonic_zero := by
  rw [Hash.sha256_eq_eval]
  decide +kernel

/-- and back. -/
theorem bip39_mnemonicToEntropy_zero :
    mnemonicToEntropy Hash.sha256 Spec.Bip39Words.english bip39Mnemonic_zero =
    .ok [0x00,0x00,0x00,0x00,0x00,0x00,0x00,0x00,0x00,0x00,0x00,0x00,0x00,0x00,0x00,0x00] := by
  rw [Hash.sha256_eq_eval]
  decide +kernel

/-- "zoo zoo zoo zoo zoo zoo zoo zoo zoo zoo zoo wrong" -/
def bip39Mnemonic_ones : List Word :=
    [[0x7a,0x6f,0x6f],
     [0x7a,0x6f,0x6f],
     [0x7a,0x6f,0x6f],
     [0x7a,0x6f,0x6f],
     [0x7a,0x6f,0x6f],
     [0x7a,0x6f,0x6f],
     [0x7a,0x6f,0x6f],
     [0x7a,0x6f,0x6f],
     [0x7a,0x6f,0x6f],
     [0x7a,0x6f,0x6f],
     [0x7a,0x6f,0x6f],
     [0x77,0x72,0x6f,0x6e,0x67]]

/-- entropy ffffffffffffffffffffffffffffffff ↦ "zoo zoo zoo zoo zoo zoo zoo zoo zoo zoo zoo wrong". -/
theorem bip39_entropyToMnemonic_ones :
    entropyToMnemonic Hash.sha256 Spec.Bip39Words.english
    [0xff,0xff,0xff,0xff,0xff,0xff,0xff,0xff,0xff,0xff,0xff,0xff,0xff,0xff,0xff,0xff] = .ok bip39Mnemonic_ones := by
  rw [Hash.sha256_eq_eval]
  decide +kernel

/-- and back. -/
theorem bip39_mnemonicToEntropy_ones :
    mnemonicToEntropy Hash.sha256 Spec.Bip39Words.english bip39Mnemonic_ones =
    .ok [0xff,0xff,0xff,0xff,0xff,0xff,0xff,0xff,0xff,0xff,0xff,0xff,0xff,0xff,0xff,0xff] := by
  rw [Hash.sha256_eq_eval]
  decide +kernel

/-- twelve times "abandon" has a wrong checksum (Go `MnemonicToEntropy` returns ErrInvalidChecksum). -/
theorem bip39_mnemonicToEntropy_bad_checksum :
    mnemonicToEntropy Hash.sha256 Spec.Bip39Words.english (List.replicate 12 [0x61,0x62,0x61,0x6e,0x64,0x6f,0x6e]) =
    .error .invalidChecksum := by
  rw [Hash.sha256_eq_eval]
  decide +kernel

/-- `Mnemonic.String`: the words joined by single spaces. -/
theorem mnemonic_join_zero :
    Mnemonic.join bip39Mnemonic_zero =
    [0x61,0x62,0x61,0x6e,0x64,0x6f,0x6e,0x20,0x61,0x62,0x61,0x6e,0x64,0x6f,0x6e,0x20,
     0x61,0x62,0x61,0x6e,0x64,0x6f,0x6e,0x20,0x61,0x62,0x61,0x6e,0x64,0x6f,0x6e,0x20,
     0x61,0x62,0x61,0x6e,0x64,0x6f,0x6e,0x20,0x61,0x62,0x61,0x6e,0x64,0x6f,0x6e,0x20,
     0x61,0x62,0x61,0x6e,0x64,0x6f,0x6e,0x20,0x61,0x62,0x61,0x6e,0x64,0x6f,0x6e,0x20,
     0x61,0x62,0x61,0x6e,0x64,0x6f,0x6e,0x20,0x61,0x62,0x61,0x6e,0x64,0x6f,0x6e,0x20,
     0x61,0x62,0x61,0x6e,0x64,0x6f,0x6e,0x20,0x61,0x62,0x6f,0x75,0x74] := by decide +kernel

end Iota.Proofs.Vectors
