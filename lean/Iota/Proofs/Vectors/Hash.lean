/-
Known-answer tests for the hash oracles, proved by kernel evaluation (`decide +kernel`).
tools/vectors/govec/main.go reproduces every expected value with Go (crypto/sha256, crypto/sha512, golang.org/x/crypto
v0.2.0 blake2b and ripemd160 — the versions of /repo/go.mod); the published
source of each vector is named in its doc comment.  Each hash is evaluated in the form `sha256Eval`,
`sha512Eval`, `blake2bEval`, `ripemd160Eval` (Proofs/Hash/), equal to the oracle on every input.  Core Lean only.
-/
import Iota.Proofs.Hash.Sha256
import Iota.Proofs.Hash.Sha512
import Iota.Proofs.Hash.Blake2b
import Iota.Proofs.Hash.Ripemd160

namespace Iota.Proofs.Vectors
open Iota

/-! ### SHA-256 (FIPS 180-4 / NIST CSRC example values) -/

/-- SHA-256(""), NIST CSRC "SHA256 example values" / FIPS 180-4; = Go `sha256.Sum256`. -/
theorem sha256_empty :
    Hash.sha256 [] =
    [0xe3,0xb0,0xc4,0x42,0x98,0xfc,0x1c,0x14,0x9a,0xfb,0xf4,0xc8,0x99,0x6f,0xb9,0x24,
     0x27,0xae,0x41,0xe4,0x64,0x9b,0x93,0x4c,0xa4,0x95,0x99,0x1b,0x78,0x52,0xb8,0x55] := by
  rw [Hash.sha256_eq_eval]
  decide +kernel

/-- SHA-256("abc"), FIPS 180-4 one-block example; = Go `sha256.Sum256`. -/
theorem sha256_abc :
    Hash.sha256 [0x61,0x62,0x63] =
    [0xba,0x78,0x16,0xbf,0x8f,0x01,0xcf,0xea,0x41,0x41,0x40,0xde,0x5d,0xae,0x22,0x23,
     0xb0,0x03,0x61,0xa3,0x96,0x17,0x7a,0x9c,0xb4,0x10,0xff,0x61,0xf2,0x00,0x15,0xad] := by
  rw [Hash.sha256_eq_eval]
  decide +kernel

/-- SHA-256 of the 56-byte FIPS 180-4 two-block example "abcdbcdecdefdefgefghfghighijhijkijkljklmklmnlmnomnopnopq"; = Go `sha256.Sum256`. -/
theorem sha256_448bits :
    Hash.sha256
    [0x61,0x62,0x63,0x64,0x62,0x63,0x64,0x65,0x63,0x64,0x65,0x66,0x64,0x65,0x66,0x67,
     0x65,0x66,0x67,0x68,0x66,0x67,0x68,0x69,0x67,0x68,0x69,0x6a,0x68,0x69,0x6a,0x6b,
     0x69,0x6a,0x6b,0x6c,0x6a,0x6b,0x6c,0x6d,0x6b,0x6c,0x6d,0x6e,0x6c,0x6d,0x6e,0x6f,
     0x6d,0x6e,0x6f,0x70,0x6e,0x6f,0x70,0x71] =
    [0x24,0x8d,0x6a,0x61,0xd2,0x06,0x38,0xb8,0xe5,0xc0,0x26,0x93,0x0c,0x3e,0x60,0x39,
     0xa3,0x3c,0xe4,0x59,0x64,0xff,0x21,0x67,0xf6,0xec,0xed,0xd4,0x19,0xdb,0x06,0xc1] := by
  rw [Hash.sha256_eq_eval]
  decide +kernel

/-! ### SHA-512 (FIPS 180-4 / NIST CSRC example values) -/

/-- SHA-512(""); = Go `sha512.Sum512`. -/
theorem sha512_empty :
    Hash.sha512 [] =
    [0xcf,0x83,0xe1,0x35,0x7e,0xef,0xb8,0xbd,0xf1,0x54,0x28,0x50,0xd6,0x6d,0x80,0x07,
     0xd6,0x20,0xe4,0x05,0x0b,0x57,0x15,0xdc,0x83,0xf4,0xa9,0x21,0xd3,0x6c,0xe9,0xce,
     0x47,0xd0,0xd1,0x3c,0x5d,0x85,0xf2,0xb0,0xff,0x83,0x18,0xd2,0x87,0x7e,0xec,0x2f,
     0x63,0xb9,0x31,0xbd,0x47,0x41,0x7a,0x81,0xa5,0x38,0x32,0x7a,0xf9,0x27,0xda,0x3e] := by
  rw [Hash.sha512_eq_eval]
  decide +kernel

/-- SHA-512("abc"), FIPS 180-4 one-block example; = Go `sha512.Sum512`. -/
theorem sha512_abc :
    Hash.sha512 [0x61,0x62,0x63] =
    [0xdd,0xaf,0x35,0xa1,0x93,0x61,0x7a,0xba,0xcc,0x41,0x73,0x49,0xae,0x20,0x41,0x31,
     0x12,0xe6,0xfa,0x4e,0x89,0xa9,0x7e,0xa2,0x0a,0x9e,0xee,0xe6,0x4b,0x55,0xd3,0x9a,
     0x21,0x92,0x99,0x2a,0x27,0x4f,0xc1,0xa8,0x36,0xba,0x3c,0x23,0xa3,0xfe,0xeb,0xbd,
     0x45,0x4d,0x44,0x23,0x64,0x3c,0xe8,0x0e,0x2a,0x9a,0xc9,0x4f,0xa5,0x4c,0xa4,0x9f] := by
  rw [Hash.sha512_eq_eval]
  decide +kernel

/-- SHA-512 of the 112-byte FIPS 180-4 two-block example "abcdefghbcdefghi…nopqrstu"; = Go `sha512.Sum512`. -/
theorem sha512_896bits :
    Hash.sha512
    [0x61,0x62,0x63,0x64,0x65,0x66,0x67,0x68,0x62,0x63,0x64,0x65,0x66,0x67,0x68,0x69,
     0x63,0x64,0x65,0x66,0x67,0x68,0x69,0x6a,0x64,0x65,0x66,0x67,0x68,0x69,0x6a,0x6b,
     0x65,0x66,0x67,0x68,0x69,0x6a,0x6b,0x6c,0x66,0x67,0x68,0x69,0x6a,0x6b,0x6c,0x6d,
     0x67,0x68,0x69,0x6a,0x6b,0x6c,0x6d,0x6e,0x68,0x69,0x6a,0x6b,0x6c,0x6d,0x6e,0x6f,
     0x69,0x6a,0x6b,0x6c,0x6d,0x6e,0x6f,0x70,0x6a,0x6b,0x6c,0x6d,0x6e,0x6f,0x70,0x71,
     0x6b,0x6c,0x6d,0x6e,0x6f,0x70,0x71,0x72,0x6c,0x6d,0x6e,0x6f,0x70,0x71,0x72,0x73,
     0x6d,0x6e,0x6f,0x70,0x71,0x72,0x73,0x74,0x6e,0x6f,0x70,0x71,0x72,0x73,0x74,0x75] =
    [0x8e,0x95,0x9b,0x75,0xda,0xe3,0x13,0xda,0x8c,0xf4,0xf7,0x28,0x14,0xfc,0x14,0x3f,
     0x8f,0x77,0x79,0xc6,0xeb,0x9f,0x7f,0xa1,0x72,0x99,0xae,0xad,0xb6,0x88,0x90,0x18,
     0x50,0x1d,0x28,0x9e,0x49,0x00,0xf7,0xe4,0x33,0x1b,0x99,0xde,0xc4,0xb5,0x43,0x3a,
     0xc7,0xd3,0x29,0xee,0xb6,0xdd,0x26,0x54,0x5e,0x96,0xe5,0x5b,0x87,0x4b,0xe9,0x09] := by
  rw [Hash.sha512_eq_eval]
  decide +kernel

/-! ### BLAKE2b-256 (values of golang.org/x/crypto/blake2b `Sum256`; "abc" is also the RFC 7693 message) -/

/-- BLAKE2b-256(""); Go x/crypto `blake2b.Sum256(nil)`. -/
theorem blake2b256_empty :
    Hash.blake2b256 [] =
    [0x0e,0x57,0x51,0xc0,0x26,0xe5,0x43,0xb2,0xe8,0xab,0x2e,0xb0,0x60,0x99,0xda,0xa1,
     0xd1,0xe5,0xdf,0x47,0x77,0x8f,0x77,0x87,0xfa,0xab,0x45,0xcd,0xf1,0x2f,0xe3,0xa8] := by
  rw [Hash.blake2b256, Hash.blake2b_eq_eval]
  decide +kernel

/-- BLAKE2b-256("abc"); Go x/crypto `blake2b.Sum256`. -/
theorem blake2b256_abc :
    Hash.blake2b256 [0x61,0x62,0x63] =
    [0xbd,0xdd,0x81,0x3c,0x63,0x42,0x39,0x72,0x31,0x71,0xef,0x3f,0xee,0x98,0x57,0x9b,
     0x94,0x96,0x4e,0x3b,0xb1,0xcb,0x3e,0x42,0x72,0x62,0xc8,0xc0,0x68,0xd5,0x23,0x19] := by
  rw [Hash.blake2b256, Hash.blake2b_eq_eval]
  decide +kernel

/-- BLAKE2b-512("abc"): the worked example of RFC 7693 Appendix A; = Go x/crypto `blake2b.Sum512`. -/
theorem blake2b512_abc :
    Hash.blake2b 64 [0x61,0x62,0x63] =
    [0xba,0x80,0xa5,0x3f,0x98,0x1c,0x4d,0x0d,0x6a,0x27,0x97,0xb6,0x9f,0x12,0xf6,0xe9,
     0x4c,0x21,0x2f,0x14,0x68,0x5a,0xc4,0xb7,0x4b,0x12,0xbb,0x6f,0xdb,0xff,0xa2,0xd1,
     0x7d,0x87,0xc5,0x39,0x2a,0xab,0x79,0x2d,0xc2,0x52,0xd5,0xde,0x45,0x33,0xcc,0x95,
     0x18,0xd3,0x8a,0xa8,0xdb,0xf1,0x92,0x5a,0xb9,0x23,0x86,0xed,0xd4,0x00,0x99,0x23] := by
  rw [Hash.blake2b_eq_eval]
  decide +kernel

/-! ### RIPEMD-160 (test values of the RIPEMD-160 paper, Dobbertin–Bosselaers–Preneel) -/

/-- RIPEMD-160(""); published test value, = Go x/crypto `ripemd160`. -/
theorem ripemd160_empty :
    Hash.ripemd160 [] =
    [0x9c,0x11,0x85,0xa5,0xc5,0xe9,0xfc,0x54,0x61,0x28,0x08,0x97,0x7e,0xe8,0xf5,0x48,0xb2,0x25,0x8d,0x31] := by
  rw [Hash.ripemd160_eq_eval]
  decide +kernel

/-- RIPEMD-160("abc"); published test value, = Go x/crypto `ripemd160`. -/
theorem ripemd160_abc :
    Hash.ripemd160 [0x61,0x62,0x63] =
    [0x8e,0xb2,0x08,0xf7,0xe0,0x5d,0x98,0x7a,0x9b,0x04,0x4a,0x8e,0x98,0xc6,0xb0,0x87,0xf1,0x5a,0x0b,0xfc] := by
  rw [Hash.ripemd160_eq_eval]
  decide +kernel

end Iota.Proofs.Vectors
