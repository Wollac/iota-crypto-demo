/-
Known-answer tests for the secp256k1 model (Iota/Model/Secp256k1.lean), the affine Weierstrass oracle
(Iota/Model/WeierOracle.lean) and SLIP-0010 key derivation (Iota/Model/Slip10.lean) instantiated exactly
as the driver does (Iota/Driver/Slip10.lean: `secpW`, `edPublic`, `hmac512`, `hash160`, `fuel`), proved by
kernel evaluation with `sha256Eval`, `sha512Eval` and `ripemd160Eval` in the place of SHA-256, SHA-512 and
RIPEMD-160 (Proofs/Hash/Driver.lean).

Sources: SEC 2 (generator G) and the standard multiples 2G, 3G; SLIP-0010 "Test vector 1" for secp256k1 and
ed25519 = first entries of /repo/pkg/slip10/testdata/TestSecp256k1.json and TestEd25519.json (chains m and
m/0H).  tools/vectors/govec reproduces all values with the repository's packages (pkg/slip10, btccurve)
and crypto/elliptic.  Core Lean only.
-/
import Iota.Proofs.Hash.Driver

namespace Iota.Proofs.Vectors
open Iota Iota.Slip10 Iota.Driver.Slip10

/-! ### secp256k1 model: multiples of the generator -/

/-- 1·G = G (SEC 2 §2.4.1 generator). -/
theorem secp256k1_1G :
    Secp256k1.scalarBaseMult [1] = some (Secp256k1.Gx, Secp256k1.Gy) := by decide +kernel

/-- 2·G (standard value c6047f94…; = repository `btccurve.Secp256k1().ScalarBaseMult`). -/
theorem secp256k1_2G :
    Secp256k1.scalarBaseMult [2] =
    some (0xc6047f9441ed7d6d3045406e95c07cd85c778e4b8cef3ca7abac09b95c709ee5,
          0x1ae168fea63dc339a3c58419466ceaeef7f632653266d0e1236431a950cfe52a) := by decide +kernel

/-- 3·G (standard value f9308a01…; = repository `btccurve`). -/
theorem secp256k1_3G :
    Secp256k1.scalarBaseMult [3] =
    some (0xf9308a019258c31049344f85f89d5229b531c845836f99b08601f113bce036f9,
          0x388f7b0f632de8140fe337e62a37f3566500a99934c2231b6cb9fd7584b8e672) := by decide +kernel

/-- k·G for the 32-byte SLIP-0010 test-vector-1 master key k = e8f32e72…: the point whose compression is the
published public key 0339a360…; y from the repository `btccurve`. -/
theorem secp256k1_slip10_master_pub :
    Secp256k1.scalarBaseMult
    [0xe8,0xf3,0x2e,0x72,0x3d,0xec,0xf4,0x05,0x1a,0xef,0xac,0x8e,0x2c,0x93,0xc9,0xc5,
     0xb2,0x14,0x31,0x38,0x17,0xcd,0xb0,0x1a,0x14,0x94,0xb9,0x17,0xc8,0x43,0x6b,0x35] =
    some (0x39a36013301597daef41fbe593a02cc513d0b55527ec2df1050e2e8ff49c85c2,
          0x3cbe7ded0e7ce6a594896b8f62888fdbc5c8821305e2ea42bf01e37300116281) := by decide +kernel

/-- 2·G satisfies the curve equation of the model. -/
theorem secp256k1_2G_on_curve :
    Secp256k1.isOnCurve
      0xc6047f9441ed7d6d3045406e95c07cd85c778e4b8cef3ca7abac09b95c709ee5
      0x1ae168fea63dc339a3c58419466ceaeef7f632653266d0e1236431a950cfe52a = true := by decide +kernel

/-! ### Weierstrass oracle (P-256 and, as a second opinion, secp256k1) -/

/-- 2·G on NIST P-256 (= Go `elliptic.P256().ScalarBaseMult`). -/
theorem p256_2G :
    WeierOracle.baseMul WeierOracle.p256 2 =
    (0x7cf27b188d034f7e8a52380304b51ac3c08969e277f21b35a60b48fc47669978,
     0x07775510db8ed040293d9ac69f7430dbba7dade63ce982299e04b79d227873d1) := by decide +kernel

/-- k·G on NIST P-256 for k = 112233445566778899 (NIST "point-mul" test value 33915084…; = Go crypto/elliptic). -/
theorem p256_k112233445566778899 :
    WeierOracle.baseMul WeierOracle.p256 112233445566778899 =
    (0x339150844ec15234807fe862a86be77977dbfb3ae3d96f4c22795513aeaab82f,
     0xb1c14ddfdc8ec1b2583f51e85a5eb3a155840f2034730e9b5ada38b674336a21) := by decide +kernel

/-- 3·G on secp256k1 by the affine oracle: agrees with the Jacobian model above. -/
theorem weierOracle_secp256k1_3G :
    WeierOracle.baseMul WeierOracle.secp256k1 3 =
    (0xf9308a019258c31049344f85f89d5229b531c845836f99b08601f113bce036f9,
     0x388f7b0f632de8140fe337e62a37f3566500a99934c2231b6cb9fd7584b8e672) := by decide +kernel

/-! ### SLIP-0010 test vector 1 (seed 000102030405060708090a0b0c0d0e0f) -/

/-- what the test data lists for an extended key: private key, chain code, public key, parent fingerprint. -/
def slip10View {κ : Type} (c : Curve κ) (r : Except Err (ExtKey κ)) : Option (Bytes × Bytes × Bytes × Bytes) :=
  match r with
  | .ok e => some (c.bytes e.key, e.chainCode, c.bytes (c.pub e.key), fingerprint c hash160 e)
  | .error _ => none

/-- the driver's "k1" curve: HMAC key "Bitcoin seed". -/
def slip10K1 : Curve (WKey Pt) := wCurve secpW [66, 105, 116, 99, 111, 105, 110, 32, 115, 101, 101, 100]

/-- the driver's "ed" curve. -/
def slip10Ed : Curve EdKey := edCurve edPublic

def slip10Seed : Bytes := [0x00,0x01,0x02,0x03,0x04,0x05,0x06,0x07,0x08,0x09,0x0a,0x0b,0x0c,0x0d,0x0e,0x0f]

/-- secp256k1, chain m. -/
theorem slip10_secp256k1_tv1_m :
    slip10View slip10K1 (deriveKeyFromPath hmac512 slip10K1 fuel slip10Seed []) =
    some ([0xe8,0xf3,0x2e,0x72,0x3d,0xec,0xf4,0x05,0x1a,0xef,0xac,0x8e,0x2c,0x93,0xc9,0xc5,
           0xb2,0x14,0x31,0x38,0x17,0xcd,0xb0,0x1a,0x14,0x94,0xb9,0x17,0xc8,0x43,0x6b,0x35],
          [0x87,0x3d,0xff,0x81,0xc0,0x2f,0x52,0x56,0x23,0xfd,0x1f,0xe5,0x16,0x7e,0xac,0x3a,
           0x55,0xa0,0x49,0xde,0x3d,0x31,0x4b,0xb4,0x2e,0xe2,0x27,0xff,0xed,0x37,0xd5,0x08],
          [0x03,0x39,0xa3,0x60,0x13,0x30,0x15,0x97,0xda,0xef,0x41,0xfb,0xe5,0x93,0xa0,0x2c,
           0xc5,0x13,0xd0,0xb5,0x55,0x27,0xec,0x2d,0xf1,0x05,0x0e,0x2e,0x8f,0xf4,0x9c,0x85,
           0xc2],
          [0x00,0x00,0x00,0x00]) := by
  rw [slip10View.eq_def, Hash.hmac512_eq_eval, Hash.hash160_eq_eval]
  decide +kernel

/-- secp256k1, chain m/0H. -/
theorem slip10_secp256k1_tv1_m_0H :
    slip10View slip10K1 (deriveKeyFromPath hmac512 slip10K1 fuel slip10Seed [hardened + 0]) =
    some ([0xed,0xb2,0xe1,0x4f,0x9e,0xe7,0x7d,0x26,0xdd,0x93,0xb4,0xec,0xed,0xe8,0xd1,0x6e,
           0xd4,0x08,0xce,0x14,0x9b,0x6c,0xd8,0x0b,0x07,0x15,0xa2,0xd9,0x11,0xa0,0xaf,0xea],
          [0x47,0xfd,0xac,0xbd,0x0f,0x10,0x97,0x04,0x3b,0x78,0xc6,0x3c,0x20,0xc3,0x4e,0xf4,
           0xed,0x9a,0x11,0x1d,0x98,0x00,0x47,0xad,0x16,0x28,0x2c,0x7a,0xe6,0x23,0x61,0x41],
          [0x03,0x5a,0x78,0x46,0x62,0xa4,0xa2,0x0a,0x65,0xbf,0x6a,0xab,0x9a,0xe9,0x8a,0x6c,
           0x06,0x8a,0x81,0xc5,0x2e,0x4b,0x03,0x2c,0x0f,0xb5,0x40,0x0c,0x70,0x6c,0xfc,0xcc,
           0x56],
          [0x34,0x42,0x19,0x3e]) := by
  rw [slip10View.eq_def, Hash.hmac512_eq_eval, Hash.hash160_eq_eval]
  decide +kernel

/-- ed25519, chain m. -/
theorem slip10_ed25519_tv1_m :
    slip10View slip10Ed (deriveKeyFromPath hmac512 slip10Ed fuel slip10Seed []) =
    some ([0x2b,0x4b,0xe7,0xf1,0x9e,0xe2,0x7b,0xbf,0x30,0xc6,0x67,0xb6,0x42,0xd5,0xf4,0xaa,
           0x69,0xfd,0x16,0x98,0x72,0xf8,0xfc,0x30,0x59,0xc0,0x8e,0xba,0xe2,0xeb,0x19,0xe7],
          [0x90,0x04,0x6a,0x93,0xde,0x53,0x80,0xa7,0x2b,0x5e,0x45,0x01,0x07,0x48,0x56,0x7d,
           0x5e,0xa0,0x2b,0xbf,0x65,0x22,0xf9,0x79,0xe0,0x5c,0x0d,0x8d,0x8c,0xa9,0xff,0xfb],
          [0x00,0xa4,0xb2,0x85,0x6b,0xfe,0xc5,0x10,0xab,0xab,0x89,0x75,0x3f,0xac,0x1a,0xc0,
           0xe1,0x11,0x23,0x64,0xe7,0xd2,0x50,0x54,0x59,0x63,0xf1,0x35,0xf2,0xa3,0x31,0x88,
           0xed],
          [0x00,0x00,0x00,0x00]) := by
  rw [slip10View.eq_def, slip10Ed, Hash.hmac512_eq_eval, Hash.hash160_eq_eval, Hash.edPublic_eq_eval]
  decide +kernel

/-- ed25519, chain m/0H. -/
theorem slip10_ed25519_tv1_m_0H :
    slip10View slip10Ed (deriveKeyFromPath hmac512 slip10Ed fuel slip10Seed [hardened + 0]) =
    some ([0x68,0xe0,0xfe,0x46,0xdf,0xb6,0x7e,0x36,0x8c,0x75,0x37,0x9a,0xce,0xc5,0x91,0xda,
           0xd1,0x9d,0xf3,0xcd,0xe2,0x6e,0x63,0xb9,0x3a,0x8e,0x70,0x4f,0x1d,0xad,0xe7,0xa3],
          [0x8b,0x59,0xaa,0x11,0x38,0x0b,0x62,0x4e,0x81,0x50,0x7a,0x27,0xfe,0xdd,0xa5,0x9f,
           0xea,0x6d,0x0b,0x77,0x9a,0x77,0x89,0x18,0xa2,0xfd,0x35,0x90,0xe1,0x6e,0x9c,0x69],
          [0x00,0x8c,0x8a,0x13,0xdf,0x77,0xa2,0x8f,0x34,0x45,0x21,0x3a,0x0f,0x43,0x2f,0xde,
           0x64,0x4a,0xca,0xa2,0x15,0xfc,0x72,0xdc,0xdf,0x30,0x0d,0x5e,0xfa,0xa8,0x5d,0x35,
           0x0c],
          [0xdd,0xeb,0xc6,0x75]) := by
  rw [slip10View.eq_def, slip10Ed, Hash.hmac512_eq_eval, Hash.hash160_eq_eval, Hash.edPublic_eq_eval]
  decide +kernel

end Iota.Proofs.Vectors
