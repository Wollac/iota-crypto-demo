/-
Known-answer tests for the Curl-P-81 specification (Iota/Spec/CurlP.lean), kernel-checked.

Evaluating the specification directly is out of reach of the kernel: one `round` builds a 729-element
array with `Array.ofFn` and reads it through list walks (≈ 30 s and 2.7 GB per round, 81 rounds
per permutation).  Instead this file proves, for ALL states, that the permutation of the specification
equals a bit-sliced evaluation on two 729-bit natural numbers (planes for +1 and −1), on which a round
is a handful of GMP-accelerated `Nat` operations:

  with  u_k(j) = state_k(m_k·j mod 729),  m_k = (−2)^k mod 729  (364⁻¹ ≡ −2),
  new[i] = f(old[364·i], old[364·(i+1)])  becomes  u_{k+1}(j) = f(u_k(j), u_k(j + t_k)),  t_k = 364^{k+1},

i.e. the s-box applied to the planes and their rotation by `t_k` (`transform_planes`).  The vectors are then
closed by `decide +kernel` on the planes.

Vectors: entries 1 and 2 of /repo/pkg/curl/testdata/curlp81.json (81 trytes in, 81 trytes out, one block);
the tryte ↔ trit conversion is the one of Iota/Model/B1T6.lean (`tryteValue`, `tryteTrits`, `tritsToTrytes`).
Only one-block messages are covered by `hash_one_block`.  Core Lean only.
-/
import Iota.Proofs.CurlSpec
import Iota.Model.B1T6

namespace Iota.Proofs.Vectors.CurlFast
open Iota.Spec.CurlP

/-! ### index arithmetic: `u_k(j) = state_k(m_k · j mod 729)` turns a round into a rotation -/

theorem idx_mul {a m : Nat} (h : 364 * a % 729 = m % 729) (j : Nat) :
    idx (a * j % 729) = m * j % 729 := by
  unfold idx
  rw [Nat.mul_mod_mod, ← Nat.mul_assoc, ← Nat.mod_mul_mod, h, Nat.mod_mul_mod]

theorem idx_mul_succ {a m t : Nat} (h : 364 * a % 729 = m % 729) (ht : m * t % 729 = 364) (j : Nat) :
    idx (a * j % 729 + 1) = m * ((j + t) % 729) % 729 := by
  have h1 := idx_mul h j
  unfold idx at *
  rw [Nat.mul_mod_mod m, Nat.mul_add m]
  generalize m * j = X at *
  generalize m * t = Y at *
  generalize a * j % 729 = i at *
  omega

/-! ### two bit planes as natural numbers -/

def mask : Nat := 2 ^ 729 - 1

theorem mask_testBit (i : Nat) : mask.testBit i = decide (i < 729) := by
  unfold mask; exact Nat.testBit_two_pow_sub_one 729 i

/-- the trit at position `j`: plane `P` marks +1, plane `N` marks −1 (`P` wins). -/
def trit (P N : Nat) (j : Nat) : Int := if P.testBit j then 1 else if N.testBit j then -1 else 0

/-- cyclic rotation of the low 729 bits: bit `j` of the result is bit `(j + t) mod 729` of `x`. -/
def rot (x t : Nat) : Nat := ((x &&& mask) >>> t) ||| ((x <<< (729 - t)) &&& mask)

theorem rot_testBit (x : Nat) {t j : Nat} (ht : t < 729) (hj : j < 729) :
    (rot x t).testBit j = x.testBit ((j + t) % 729) := by
  unfold rot
  rw [Nat.testBit_or, Nat.testBit_shiftRight, Nat.testBit_and, Nat.testBit_and, Nat.testBit_shiftLeft,
    mask_testBit, mask_testBit]
  by_cases hc : j + t < 729
  · have h1 : (j + t) % 729 = t + j := by omega
    have h2 : ¬ (j ≥ 729 - t) := by omega
    have h3 : t + j < 729 := by omega
    simp [h1, h2, h3]
  · have h1 : (j + t) % 729 = j - (729 - t) := by omega
    have h2 : j ≥ 729 - t := by omega
    have h3 : ¬ (t + j < 729) := by omega
    simp [h1, h2, h3, hj]

/-- one round on the planes of `u`, where the second argument of the s-box sits `t` places further. -/
def fastRound (t P N : Nat) : Nat × Nat :=
  let P' := rot P t
  let N' := rot N t
  let na := N &&& (P ^^^ mask)
  let za := (P ||| N) ^^^ mask
  let nb := N' &&& (P' ^^^ mask)
  let zb := (P' ||| N') ^^^ mask
  ((na &&& (P' ^^^ mask)) ||| (za &&& P'), (P &&& nb) ||| (za &&& zb) ||| (na &&& P'))

theorem f_bits (a b c d : Bool) :
    (if ((b && (a ^^ true)) && (c ^^ true) || ((a || b) ^^ true) && c) = true then (1 : Int)
      else if ((a && (d && (c ^^ true))) || (((a || b) ^^ true) && ((c || d) ^^ true)) || ((b && (a ^^ true)) && c)) = true
        then -1 else 0) =
    f (if a = true then 1 else if b = true then -1 else 0) (if c = true then 1 else if d = true then -1 else 0) := by
  cases a <;> cases b <;> cases c <;> cases d <;> decide

theorem fastRound_trit (P N : Nat) {t j : Nat} (ht : t < 729) (hj : j < 729) :
    trit (fastRound t P N).1 (fastRound t P N).2 j = f (trit P N j) (trit P N ((j + t) % 729)) := by
  unfold trit fastRound
  simp only [Nat.testBit_or, Nat.testBit_and, Nat.testBit_xor, mask_testBit, rot_testBit _ ht hj, hj, decide_true]
  exact f_bits _ _ _ _

/-! ### the multipliers and rotation distances of the 81 rounds -/

/-- `m_k = (−2)^k mod 729` (364⁻¹ = −2). -/
def ms : Nat → Nat
  | 0 => 1
  | k + 1 => ms k * 727 % 729

/-- `t_k = 364^(k+1) mod 729`, so that `m_k · t_k = 364`. -/
def ts : Nat → Nat
  | 0 => 364
  | k + 1 => ts k * 364 % 729

theorem ms_ts : ∀ k < 81, 364 * ms (k + 1) % 729 = ms k % 729 ∧ ms k * ts k % 729 = 364 ∧ ts k < 729 := by
  decide +kernel

/-- forces the evaluation of a natural number before it is passed on (the kernel is lazy). -/
@[inline] def force {α : Type} (x : Nat) (k : Nat → α) : α :=
  match x with
  | 0 => k 0
  | n + 1 => k (n + 1)

theorem force_eq {α : Type} (x : Nat) (k : Nat → α) : force x k = k x := by
  cases x <;> rfl

/-- rounds `k, k+1, …, k+n−1` on the planes. -/
def fastFrom : Nat → Nat → Nat → Nat → Nat × Nat
  | _, 0, P, N => (P, N)
  | k, n + 1, P, N =>
    force (fastRound (ts k) P N).1 fun P' => force (fastRound (ts k) P N).2 fun N' => fastFrom (k + 1) n P' N'

theorem fastFrom_succ (k n P N : Nat) :
    fastFrom k (n + 1) P N = fastFrom (k + 1) n (fastRound (ts k) P N).1 (fastRound (ts k) P N).2 := by
  rw [fastFrom, force_eq, force_eq]

/-- the planes `P`, `N` describe the state `s` read through the multiplier `m_k`. -/
def Inv (k : Nat) (s : State) (P N : Nat) : Prop :=
  ∀ j < 729, s.getD (ms k * j % 729) 0 = trit P N j

theorem inv_round {k : Nat} (hk : k < 81) {s : State} {P N : Nat} (h : Inv k s P N) :
    Inv (k + 1) (round s) (fastRound (ts k) P N).1 (fastRound (ts k) P N).2 := by
  obtain ⟨h1, h2, h3⟩ := ms_ts k hk
  intro j hj
  rw [round_getD _ (Nat.mod_lt _ (by decide)), idx_mul h1, idx_mul_succ h1 h2, fastRound_trit _ _ h3 hj,
    h j hj, h _ (Nat.mod_lt _ (by decide))]

theorem inv_rounds (n : Nat) : ∀ (k : Nat), k + n ≤ 81 → ∀ (s : State) (P N : Nat), Inv k s P N →
    Inv (k + n) (rounds n s) (fastFrom k n P N).1 (fastFrom k n P N).2 := by
  induction n with
  | zero => intro k _ s P N h; exact h
  | succ n ih =>
    intro k hk s P N h
    rw [fastFrom_succ]
    have := ih (k + 1) (by omega) (round s) _ _ (inv_round (by omega) h)
    rw [show k + (n + 1) = k + 1 + n by omega]
    exact this

/-- the whole permutation: `transform s` read through `m_81` is `fastFrom 0 81` of the planes of `s`. -/
theorem transform_planes (s : State) (P N : Nat) (h : ∀ j < 729, s.getD j 0 = trit P N j) :
    ∀ j < 729, (transform s).getD (ms 81 * j % 729) 0 = trit (fastFrom 0 81 P N).1 (fastFrom 0 81 P N).2 j := by
  have h0 : Inv 0 s P N := by
    intro j hj
    rw [show ms 0 = 1 from rfl, Nat.one_mul, Nat.mod_eq_of_lt hj]
    exact h j hj
  exact inv_rounds 81 0 (by decide) s P N h0


/-! ### one-block hashes -/

/-- `m_81⁻¹ mod 729`. -/
def minv : Nat := 244

theorem minv_spec : ∀ i < 729, ms 81 * (minv * i % 729) % 729 = i := by decide +kernel

/-- the 243 hash trits of a one-block message, from planes `P`, `N` that hold the block followed by zeros
(one list equation, so that the block is evaluated once). -/
theorem hash_one_block (block : List Int) (P N : Nat) (hlen : block.length = 243)
    (h : (List.range 729).map (trit P N) = block.map normTrit ++ List.replicate 486 0) :
    ((Sponge.init.absorb block 1).squeeze 1).2 =
      (List.range 243).map fun i => trit (fastFrom 0 81 P N).1 (fastFrom 0 81 P N).2 (minv * i % 729) := by
  have hload : ∀ j < 729, (Array.ofFn (n := 729) fun i =>
      if i.val < 243 then normTrit (block.getD i.val 0) else 0).getD j 0 = trit P N j := by
    intro j hj
    have hj' := congrArg (fun l => l[j]?.getD 0) h
    simp only [List.getElem?_map, List.getElem?_range hj, Option.map_some, Option.getD_some] at hj'
    rw [ofFn_getD, dif_pos hj, hj']
    show (if j < 243 then normTrit (block.getD j 0) else 0) = _
    split
    · next h243 =>
      rw [List.getElem?_append_left (by rw [List.length_map, hlen]; exact h243), List.getElem?_map,
        List.getD_eq_getElem?_getD, List.getElem?_eq_getElem (by omega)]
      rfl
    · next h243 =>
      rw [List.getElem?_append_right (by rw [List.length_map, hlen]; omega), List.getElem?_replicate,
        if_pos (by rw [List.length_map, hlen]; omega)]
      rfl
  rw [one_block_hash]
  apply List.map_congr_left
  intro i hi
  have hi : i < 243 := List.mem_range.mp hi
  have key := transform_planes _ P N hload (minv * i % 729) (Nat.mod_lt _ (by decide))
  rw [minv_spec i (by omega)] at key
  exact key

end Iota.Proofs.Vectors.CurlFast

namespace Iota.Proofs.Vectors
open Iota.Spec.CurlP Iota.B1T6 CurlFast

def tritsOfTrytes (s : List UInt8) : List Int := s.flatMap fun c => tryteTrits (tryteValue c)

/-- Curl-P-81 of a tryte string whose length is a multiple of 81, as a tryte string. -/
def curlHashTrytes (s : List UInt8) : List UInt8 :=
  tritsToTrytes ((Sponge.init.absorb (tritsOfTrytes s) (s.length / 81)).squeeze 1).2

/-! ### vector 1: "QZELVPOZTGSBCMEIZWZBGFSRPQNSMBREV9QD9JINWPNHHVCIFFGMHUH99OLWPXUZ9AWKJVYEC9JDTKRZO" -/

def curlIn0 : List UInt8 := [81,90,69,76,86,80,79,90,84,71,83,66,67,77,69,73,90,87,90,66,71,70,83,82,80,81,78,83,77,66,82,69,86,57,81,68,57,74,73,78,87,80,78,72,72,86,67,73,70,70,71,77,72,85,72,57,57,79,76,87,80,88,85,90,57,65,87,75,74,86,89,69,67,57,74,68,84,75,82,90,79]
/-- planes of the trits of `curlIn0` (bit `j` of `curlP0`: trit `j` is +1; of `curlN0`: −1); checked in `curlP81_vector0`. -/
def curlP0 : Nat := 0x3274285dc08081180114f6489c80812860381720106540093a46a00bd00
def curlN0 : Nat := 0x630d0006a02c03166300610920213f3e001447089ee9122590c03153b40cd

/-- the 81 rounds on the planes. -/
theorem curl_planes0 : fastFrom 0 81 curlP0 curlN0 =
    (0x199c2d44d98ba810d0058013894040002200110409c5943102749a9187f8228d53464287e5808d400078b20c150c40808222917a1c13b38063a271d6881029a1d44e0220618895d60c1f140a98a04b35ac1d0100590b020a431e68,
     0x40018001226442cd2f407e8064902e4750802ac84022698c298b052c40029d420c09bd00187b62838481499328509157584c280022e448571c54882820e8464623b0e0d990730a0142002b21265290485220d2f324b44d35040190) := by decide +kernel

/-- /repo/pkg/curl/testdata/curlp81.json entry 1:
"QZELVPOZTGSBCMEIZWZBGFSRPQNSMBREV9QD9JINWPNHHVCIFFGMHUH99OLWPXUZ9AWKJVYEC9JDTKRZO" ↦
"9MMGDFTUNMXVFRWTMVYWHKIUMJRWZPYVYDYHNATZWSLWPUSULDZVSJJXQPKXENXJFLTSEEMBJIWZLLXBX" -/
theorem curlP81_vector0 : curlHashTrytes curlIn0 =
    [57,77,77,71,68,70,84,85,78,77,88,86,70,82,87,84,77,86,89,87,72,75,73,85,77,74,82,87,90,80,89,86,89,68,89,72,78,65,84,90,87,83,76,87,80,85,83,85,76,68,90,86,83,74,74,88,81,80,75,88,69,78,88,74,70,76,84,83,69,69,77,66,74,73,87,90,76,76,88,66,88] := by
  unfold curlHashTrytes
  rw [show curlIn0.length / 81 = 1 by decide,
    hash_one_block (tritsOfTrytes curlIn0) curlP0 curlN0 (by decide +kernel) (by decide +kernel),
    curl_planes0]
  decide +kernel

/-! ### vector 2: "ZYMHMWWBGGZYFLBGVBIUIRBWBIZOJEVOBUSIVUEIHI9S9EHIVZPZWGHG9THDDPBNIXDLCPYIAVQELZEFD" -/

def curlIn1 : List UInt8 := [90,89,77,72,77,87,87,66,71,71,90,89,70,76,66,71,86,66,73,85,73,82,66,87,66,73,90,79,74,69,86,79,66,85,83,73,86,85,69,73,72,73,57,83,57,69,72,73,86,90,80,90,87,71,72,71,57,84,72,68,68,80,66,78,73,88,68,76,67,80,89,73,65,86,81,69,76,90,69,70,68]
/-- planes of the trits of `curlIn1` (bit `j` of `curlP1`: trit `j` is +1; of `curlN1`: −1); checked in `curlP81_vector1`. -/
def curlP1 : Nat := 0x390681984acc408b710b280439202249138520e5022084513ab422d4079c8
def curlN1 : Nat := 0x4c87600b0010e7006845338c0588010e4121d18c4166080c4424522d8211

/-- the 81 rounds on the planes. -/
theorem curl_planes1 : fastFrom 0 81 curlP1 curlN1 =
    (0x11d8a020320514ff09280060846816ac3140942105842002043f1944a2099b4e554380ca402d4a6bac80134a2e830400041f72a50a511821c212978409200810e05010c00b2422680028105918024a828c2058e39548e3af680808a,
     0x8204a8009faeb00a252f01123042013ca340a84f06ad1f0bac0a23005c6401188102b100102049053436cb1900c618c3a000c128022864a3148283ac29d10061c04661b9083c985ee8463a042ac247c110ba7144a871c5000a2371) := by decide +kernel

/-- /repo/pkg/curl/testdata/curlp81.json entry 2:
"ZYMHMWWBGGZYFLBGVBIUIRBWBIZOJEVOBUSIVUEIHI9S9EHIVZPZWGHG9THDDPBNIXDLCPYIAVQELZEFD" ↦
"KMNWODCXRXYVGKSTRTAOV9SQDHIVKACSHGQQINUNVFITWFHOCEWEZDVVUBDVJJLTESKTOUAXBSBICGL9K" -/
theorem curlP81_vector1 : curlHashTrytes curlIn1 =
    [75,77,78,87,79,68,67,88,82,88,89,86,71,75,83,84,82,84,65,79,86,57,83,81,68,72,73,86,75,65,67,83,72,71,81,81,73,78,85,78,86,70,73,84,87,70,72,79,67,69,87,69,90,68,86,86,85,66,68,86,74,74,76,84,69,83,75,84,79,85,65,88,66,83,66,73,67,71,76,57,75] := by
  unfold curlHashTrytes
  rw [show curlIn1.length / 81 = 1 by decide,
    hash_one_block (tritsOfTrytes curlIn1) curlP1 curlN1 (by decide +kernel) (by decide +kernel),
    curl_planes1]
  decide +kernel

end Iota.Proofs.Vectors
