/-
Known-answer tests for the from-scratch edwards25519 oracle (Iota/Model/Edwards.lean) through the
models of pkg/ed25519 and pkg/vrf instantiated with the concrete library `Ed25519.edLib` (the
instance the driver uses), proved by kernel evaluation with `sha512Eval` in the place of SHA-512
(Proofs/Hash/EdLib.lean).

Sources: RFC 8032 §7.1 TEST 1 and TEST 2 = lines 1 and 2 of /repo/pkg/ed25519/testdata/sign.input.gz
(seed ‖ public key, public key, message, signature ‖ message); RFC 9381 Appendix B.3 Example 16 =
first entry of /repo/pkg/vrf/testdata/rfc.json.  tools/vectors/govec/main.go reproduces all values with Go
(crypto/ed25519 and the repository's pkg/ed25519, pkg/vrf).
Core Lean only.
-/
import Iota.Model.Vrf
import Iota.Proofs.Hash.EdLib

namespace Iota.Proofs.Vectors
open Iota Iota.Ed25519

/-! ### Ed25519, RFC 8032 §7.1 -/

/-- RFC 8032 §7.1 TEST 1: secret seed ↦ private key `seed ‖ A` (A = the public key d75a9801…). -/
theorem ed25519_rfc8032_test1_keygen :
    newKeyFromSeed edLib
    [0x9d,0x61,0xb1,0x9d,0xef,0xfd,0x5a,0x60,0xba,0x84,0x4a,0xf4,0x92,0xec,0x2c,0xc4,
     0x44,0x49,0xc5,0x69,0x7b,0x32,0x69,0x19,0x70,0x3b,0xac,0x03,0x1c,0xae,0x7f,0x60] =
    some [0x9d,0x61,0xb1,0x9d,0xef,0xfd,0x5a,0x60,0xba,0x84,0x4a,0xf4,0x92,0xec,0x2c,0xc4,
          0x44,0x49,0xc5,0x69,0x7b,0x32,0x69,0x19,0x70,0x3b,0xac,0x03,0x1c,0xae,0x7f,0x60,
          0xd7,0x5a,0x98,0x01,0x82,0xb1,0x0a,0xb7,0xd5,0x4b,0xfe,0xd3,0xc9,0x64,0x07,0x3a,
          0x0e,0xe1,0x72,0xf3,0xda,0xa6,0x23,0x25,0xaf,0x02,0x1a,0x68,0xf7,0x07,0x51,0x1a] := by
  rw [Hash.edLib_eq_eval]
  decide +kernel

/-- RFC 8032 §7.1 TEST 1: signature of the empty message. -/
theorem ed25519_rfc8032_test1_sign :
    sign edLib
    [0x9d,0x61,0xb1,0x9d,0xef,0xfd,0x5a,0x60,0xba,0x84,0x4a,0xf4,0x92,0xec,0x2c,0xc4,
     0x44,0x49,0xc5,0x69,0x7b,0x32,0x69,0x19,0x70,0x3b,0xac,0x03,0x1c,0xae,0x7f,0x60,
     0xd7,0x5a,0x98,0x01,0x82,0xb1,0x0a,0xb7,0xd5,0x4b,0xfe,0xd3,0xc9,0x64,0x07,0x3a,
     0x0e,0xe1,0x72,0xf3,0xda,0xa6,0x23,0x25,0xaf,0x02,0x1a,0x68,0xf7,0x07,0x51,0x1a]
    [] =
    some [0xe5,0x56,0x43,0x00,0xc3,0x60,0xac,0x72,0x90,0x86,0xe2,0xcc,0x80,0x6e,0x82,0x8a,
          0x84,0x87,0x7f,0x1e,0xb8,0xe5,0xd9,0x74,0xd8,0x73,0xe0,0x65,0x22,0x49,0x01,0x55,
          0x5f,0xb8,0x82,0x15,0x90,0xa3,0x3b,0xac,0xc6,0x1e,0x39,0x70,0x1c,0xf9,0xb4,0x6b,
          0xd2,0x5b,0xf5,0xf0,0x59,0x5b,0xbe,0x24,0x65,0x51,0x41,0x43,0x8e,0x7a,0x10,0x0b] := by
  rw [Hash.edLib_eq_eval]
  decide +kernel

/-- RFC 8032 §7.1 TEST 1: the signature verifies. -/
theorem ed25519_rfc8032_test1_verify :
    verify edLib
    [0xd7,0x5a,0x98,0x01,0x82,0xb1,0x0a,0xb7,0xd5,0x4b,0xfe,0xd3,0xc9,0x64,0x07,0x3a,
     0x0e,0xe1,0x72,0xf3,0xda,0xa6,0x23,0x25,0xaf,0x02,0x1a,0x68,0xf7,0x07,0x51,0x1a]
    []
    [0xe5,0x56,0x43,0x00,0xc3,0x60,0xac,0x72,0x90,0x86,0xe2,0xcc,0x80,0x6e,0x82,0x8a,
     0x84,0x87,0x7f,0x1e,0xb8,0xe5,0xd9,0x74,0xd8,0x73,0xe0,0x65,0x22,0x49,0x01,0x55,
     0x5f,0xb8,0x82,0x15,0x90,0xa3,0x3b,0xac,0xc6,0x1e,0x39,0x70,0x1c,0xf9,0xb4,0x6b,
     0xd2,0x5b,0xf5,0xf0,0x59,0x5b,0xbe,0x24,0x65,0x51,0x41,0x43,0x8e,0x7a,0x10,0x0b] = some true := by
  rw [Hash.edLib_eq_eval]
  decide +kernel

/-- RFC 8032 §7.1 TEST 2: secret seed ↦ private key `seed ‖ A` (A = the public key 3d4017c3…). -/
theorem ed25519_rfc8032_test2_keygen :
    newKeyFromSeed edLib
    [0x4c,0xcd,0x08,0x9b,0x28,0xff,0x96,0xda,0x9d,0xb6,0xc3,0x46,0xec,0x11,0x4e,0x0f,
     0x5b,0x8a,0x31,0x9f,0x35,0xab,0xa6,0x24,0xda,0x8c,0xf6,0xed,0x4f,0xb8,0xa6,0xfb] =
    some [0x4c,0xcd,0x08,0x9b,0x28,0xff,0x96,0xda,0x9d,0xb6,0xc3,0x46,0xec,0x11,0x4e,0x0f,
          0x5b,0x8a,0x31,0x9f,0x35,0xab,0xa6,0x24,0xda,0x8c,0xf6,0xed,0x4f,0xb8,0xa6,0xfb,
          0x3d,0x40,0x17,0xc3,0xe8,0x43,0x89,0x5a,0x92,0xb7,0x0a,0xa7,0x4d,0x1b,0x7e,0xbc,
          0x9c,0x98,0x2c,0xcf,0x2e,0xc4,0x96,0x8c,0xc0,0xcd,0x55,0xf1,0x2a,0xf4,0x66,0x0c] := by
  rw [Hash.edLib_eq_eval]
  decide +kernel

/-- RFC 8032 §7.1 TEST 2: signature of the one-byte message 0x72. -/
theorem ed25519_rfc8032_test2_sign :
    sign edLib
    [0x4c,0xcd,0x08,0x9b,0x28,0xff,0x96,0xda,0x9d,0xb6,0xc3,0x46,0xec,0x11,0x4e,0x0f,
     0x5b,0x8a,0x31,0x9f,0x35,0xab,0xa6,0x24,0xda,0x8c,0xf6,0xed,0x4f,0xb8,0xa6,0xfb,
     0x3d,0x40,0x17,0xc3,0xe8,0x43,0x89,0x5a,0x92,0xb7,0x0a,0xa7,0x4d,0x1b,0x7e,0xbc,
     0x9c,0x98,0x2c,0xcf,0x2e,0xc4,0x96,0x8c,0xc0,0xcd,0x55,0xf1,0x2a,0xf4,0x66,0x0c]
    [0x72] =
    some [0x92,0xa0,0x09,0xa9,0xf0,0xd4,0xca,0xb8,0x72,0x0e,0x82,0x0b,0x5f,0x64,0x25,0x40,
          0xa2,0xb2,0x7b,0x54,0x16,0x50,0x3f,0x8f,0xb3,0x76,0x22,0x23,0xeb,0xdb,0x69,0xda,
          0x08,0x5a,0xc1,0xe4,0x3e,0x15,0x99,0x6e,0x45,0x8f,0x36,0x13,0xd0,0xf1,0x1d,0x8c,
          0x38,0x7b,0x2e,0xae,0xb4,0x30,0x2a,0xee,0xb0,0x0d,0x29,0x16,0x12,0xbb,0x0c,0x00] := by
  rw [Hash.edLib_eq_eval]
  decide +kernel

/-- RFC 8032 §7.1 TEST 2: the signature verifies. -/
theorem ed25519_rfc8032_test2_verify :
    verify edLib
    [0x3d,0x40,0x17,0xc3,0xe8,0x43,0x89,0x5a,0x92,0xb7,0x0a,0xa7,0x4d,0x1b,0x7e,0xbc,
     0x9c,0x98,0x2c,0xcf,0x2e,0xc4,0x96,0x8c,0xc0,0xcd,0x55,0xf1,0x2a,0xf4,0x66,0x0c]
    [0x72]
    [0x92,0xa0,0x09,0xa9,0xf0,0xd4,0xca,0xb8,0x72,0x0e,0x82,0x0b,0x5f,0x64,0x25,0x40,
     0xa2,0xb2,0x7b,0x54,0x16,0x50,0x3f,0x8f,0xb3,0x76,0x22,0x23,0xeb,0xdb,0x69,0xda,
     0x08,0x5a,0xc1,0xe4,0x3e,0x15,0x99,0x6e,0x45,0x8f,0x36,0x13,0xd0,0xf1,0x1d,0x8c,
     0x38,0x7b,0x2e,0xae,0xb4,0x30,0x2a,0xee,0xb0,0x0d,0x29,0x16,0x12,0xbb,0x0c,0x00] = some true := by
  rw [Hash.edLib_eq_eval]
  decide +kernel

/-- RFC 8032 §7.1 TEST 2 signature against a different message (0x73 instead of 0x72): rejected
(Go `ed25519.Verify` = false, checked with the repository package). -/
theorem ed25519_rfc8032_test2_verify_wrong_message :
    verify edLib
    [0x3d,0x40,0x17,0xc3,0xe8,0x43,0x89,0x5a,0x92,0xb7,0x0a,0xa7,0x4d,0x1b,0x7e,0xbc,
     0x9c,0x98,0x2c,0xcf,0x2e,0xc4,0x96,0x8c,0xc0,0xcd,0x55,0xf1,0x2a,0xf4,0x66,0x0c]
    [0x73]
    [0x92,0xa0,0x09,0xa9,0xf0,0xd4,0xca,0xb8,0x72,0x0e,0x82,0x0b,0x5f,0x64,0x25,0x40,
     0xa2,0xb2,0x7b,0x54,0x16,0x50,0x3f,0x8f,0xb3,0x76,0x22,0x23,0xeb,0xdb,0x69,0xda,
     0x08,0x5a,0xc1,0xe4,0x3e,0x15,0x99,0x6e,0x45,0x8f,0x36,0x13,0xd0,0xf1,0x1d,0x8c,
     0x38,0x7b,0x2e,0xae,0xb4,0x30,0x2a,0xee,0xb0,0x0d,0x29,0x16,0x12,0xbb,0x0c,0x00] = some false := by
  rw [Hash.edLib_eq_eval]
  decide +kernel

/-! ### ECVRF-EDWARDS25519-SHA512-TAI, RFC 9381 Appendix B.3, Example 16 (SK = 9d61b1…, alpha = "") -/

/-- Example 16: `Prove(SK, alpha).Bytes()` = pi_string. -/
theorem ecvrf_rfc9381_ex16_prove :
    (Vrf.prove edLib
    [0x9d,0x61,0xb1,0x9d,0xef,0xfd,0x5a,0x60,0xba,0x84,0x4a,0xf4,0x92,0xec,0x2c,0xc4,
     0x44,0x49,0xc5,0x69,0x7b,0x32,0x69,0x19,0x70,0x3b,0xac,0x03,0x1c,0xae,0x7f,0x60,
     0xd7,0x5a,0x98,0x01,0x82,0xb1,0x0a,0xb7,0xd5,0x4b,0xfe,0xd3,0xc9,0x64,0x07,0x3a,
     0x0e,0xe1,0x72,0xf3,0xda,0xa6,0x23,0x25,0xaf,0x02,0x1a,0x68,0xf7,0x07,0x51,0x1a]
    []).map (Vrf.Proof.bytes edLib) =
    some [0x86,0x57,0x10,0x66,0x90,0xb5,0x52,0x62,0x45,0xa9,0x2b,0x00,0x3b,0xb0,0x79,0xcc,
          0xd1,0xa9,0x21,0x30,0x47,0x76,0x71,0xf6,0xfc,0x01,0xad,0x16,0xf2,0x6f,0x72,0x3f,
          0x26,0xf8,0xa5,0x7c,0xca,0xed,0x74,0xee,0x1b,0x19,0x0b,0xed,0x1f,0x47,0x9d,0x97,
          0x27,0xd2,0xd0,0xf9,0xb0,0x05,0xa6,0xe4,0x56,0xa3,0x5d,0x4f,0xb0,0xda,0xab,0x12,
          0x68,0xa1,0xb0,0xdb,0x10,0x83,0x6d,0x98,0x26,0xa5,0x28,0xca,0x76,0x56,0x78,0x05] := by
  rw [Hash.edLib_eq_eval]
  decide +kernel

/-- Example 16: `Prove(SK, alpha).Hash()` = beta_string. -/
theorem ecvrf_rfc9381_ex16_prove_hash :
    (Vrf.prove edLib
    [0x9d,0x61,0xb1,0x9d,0xef,0xfd,0x5a,0x60,0xba,0x84,0x4a,0xf4,0x92,0xec,0x2c,0xc4,
     0x44,0x49,0xc5,0x69,0x7b,0x32,0x69,0x19,0x70,0x3b,0xac,0x03,0x1c,0xae,0x7f,0x60,
     0xd7,0x5a,0x98,0x01,0x82,0xb1,0x0a,0xb7,0xd5,0x4b,0xfe,0xd3,0xc9,0x64,0x07,0x3a,
     0x0e,0xe1,0x72,0xf3,0xda,0xa6,0x23,0x25,0xaf,0x02,0x1a,0x68,0xf7,0x07,0x51,0x1a]
    []).map (Vrf.Proof.hash edLib) =
    some [0x90,0xcf,0x1d,0xf3,0xb7,0x03,0xcc,0xe5,0x9e,0x2a,0x35,0xb9,0x25,0xd4,0x11,0x16,
          0x40,0x68,0x26,0x9d,0x7b,0x2d,0x29,0xf3,0x30,0x1c,0x03,0xdd,0x75,0x78,0x76,0xff,
          0x66,0xb7,0x1d,0xda,0x49,0xd2,0xde,0x59,0xd0,0x34,0x50,0x45,0x1a,0xf0,0x26,0x79,
          0x8e,0x8f,0x81,0xcd,0x2e,0x33,0x3d,0xe5,0xcd,0xf4,0xf3,0xe1,0x40,0xfd,0xd8,0xae] := by
  rw [Hash.edLib_eq_eval]
  decide +kernel

/-- Example 16: `ProofToHash(pi_string)` = beta_string. -/
theorem ecvrf_rfc9381_ex16_proofToHash :
    Vrf.proofToHash edLib
    [0x86,0x57,0x10,0x66,0x90,0xb5,0x52,0x62,0x45,0xa9,0x2b,0x00,0x3b,0xb0,0x79,0xcc,
     0xd1,0xa9,0x21,0x30,0x47,0x76,0x71,0xf6,0xfc,0x01,0xad,0x16,0xf2,0x6f,0x72,0x3f,
     0x26,0xf8,0xa5,0x7c,0xca,0xed,0x74,0xee,0x1b,0x19,0x0b,0xed,0x1f,0x47,0x9d,0x97,
     0x27,0xd2,0xd0,0xf9,0xb0,0x05,0xa6,0xe4,0x56,0xa3,0x5d,0x4f,0xb0,0xda,0xab,0x12,
     0x68,0xa1,0xb0,0xdb,0x10,0x83,0x6d,0x98,0x26,0xa5,0x28,0xca,0x76,0x56,0x78,0x05] =
    some [0x90,0xcf,0x1d,0xf3,0xb7,0x03,0xcc,0xe5,0x9e,0x2a,0x35,0xb9,0x25,0xd4,0x11,0x16,
          0x40,0x68,0x26,0x9d,0x7b,0x2d,0x29,0xf3,0x30,0x1c,0x03,0xdd,0x75,0x78,0x76,0xff,
          0x66,0xb7,0x1d,0xda,0x49,0xd2,0xde,0x59,0xd0,0x34,0x50,0x45,0x1a,0xf0,0x26,0x79,
          0x8e,0x8f,0x81,0xcd,0x2e,0x33,0x3d,0xe5,0xcd,0xf4,0xf3,0xe1,0x40,0xfd,0xd8,0xae] := by
  rw [Hash.edLib_eq_eval]
  decide +kernel

/-- Example 16: `Verify(PK, alpha, pi_string)` = (true, beta_string). -/
theorem ecvrf_rfc9381_ex16_verify :
    Vrf.verify edLib
    [0xd7,0x5a,0x98,0x01,0x82,0xb1,0x0a,0xb7,0xd5,0x4b,0xfe,0xd3,0xc9,0x64,0x07,0x3a,
     0x0e,0xe1,0x72,0xf3,0xda,0xa6,0x23,0x25,0xaf,0x02,0x1a,0x68,0xf7,0x07,0x51,0x1a]
    []
    [0x86,0x57,0x10,0x66,0x90,0xb5,0x52,0x62,0x45,0xa9,0x2b,0x00,0x3b,0xb0,0x79,0xcc,
     0xd1,0xa9,0x21,0x30,0x47,0x76,0x71,0xf6,0xfc,0x01,0xad,0x16,0xf2,0x6f,0x72,0x3f,
     0x26,0xf8,0xa5,0x7c,0xca,0xed,0x74,0xee,0x1b,0x19,0x0b,0xed,0x1f,0x47,0x9d,0x97,
     0x27,0xd2,0xd0,0xf9,0xb0,0x05,0xa6,0xe4,0x56,0xa3,0x5d,0x4f,0xb0,0xda,0xab,0x12,
     0x68,0xa1,0xb0,0xdb,0x10,0x83,0x6d,0x98,0x26,0xa5,0x28,0xca,0x76,0x56,0x78,0x05] =
    some (true,
     [0x90,0xcf,0x1d,0xf3,0xb7,0x03,0xcc,0xe5,0x9e,0x2a,0x35,0xb9,0x25,0xd4,0x11,0x16,
      0x40,0x68,0x26,0x9d,0x7b,0x2d,0x29,0xf3,0x30,0x1c,0x03,0xdd,0x75,0x78,0x76,0xff,
      0x66,0xb7,0x1d,0xda,0x49,0xd2,0xde,0x59,0xd0,0x34,0x50,0x45,0x1a,0xf0,0x26,0x79,
      0x8e,0x8f,0x81,0xcd,0x2e,0x33,0x3d,0xe5,0xcd,0xf4,0xf3,0xe1,0x40,0xfd,0xd8,0xae]) := by
  rw [Hash.edLib_eq_eval]
  decide +kernel

end Iota.Proofs.Vectors
