/-
Known-answer tests for HMAC-SHA512 and PBKDF2-HMAC-SHA512, proved by kernel evaluation of SHA-512 in the
form `sha512Eval` (Proofs/Hash/Sha512.lean), which is equal to the oracle on every input.
tools/vectors/govec/main.go reproduces the expected values with Go (crypto/hmac + crypto/sha512,
golang.org/x/crypto/pbkdf2 v0.2.0).

The full BIP-39 seed derivation (2048 iterations = 8192 SHA-512 compressions in this oracle, which
does not cache the padded-key blocks) is out of reach of kernel evaluation: one HMAC costs ≈ 2 s, so
2048 iterations would take more than an hour.  The PBKDF2 vectors below use 1 and 2 iterations instead
(same password and salt as the first vector of /repo/pkg/bip39/testdata/TestBIP39.json for the 1-iteration one).
Core Lean only.
-/
import Iota.Proofs.Hash.Sha512

namespace Iota.Proofs.Vectors
open Iota

/-! ### HMAC-SHA512 (RFC 4231) -/

/-- RFC 4231 test case 1: key = 20 × 0x0b, data = "Hi There"; = Go crypto/hmac. -/
theorem hmacSha512_rfc4231_tc1 :
    Hash.hmacSha512 [0x0b,0x0b,0x0b,0x0b,0x0b,0x0b,0x0b,0x0b,0x0b,0x0b,0x0b,0x0b,0x0b,0x0b,0x0b,0x0b,0x0b,0x0b,0x0b,0x0b] [0x48,0x69,0x20,0x54,0x68,0x65,0x72,0x65] =
    [0x87,0xaa,0x7c,0xde,0xa5,0xef,0x61,0x9d,0x4f,0xf0,0xb4,0x24,0x1a,0x1d,0x6c,0xb0,
     0x23,0x79,0xf4,0xe2,0xce,0x4e,0xc2,0x78,0x7a,0xd0,0xb3,0x05,0x45,0xe1,0x7c,0xde,
     0xda,0xa8,0x33,0xb7,0xd6,0xb8,0xa7,0x02,0x03,0x8b,0x27,0x4e,0xae,0xa3,0xf4,0xe4,
     0xbe,0x9d,0x91,0x4e,0xeb,0x61,0xf1,0x70,0x2e,0x69,0x6c,0x20,0x3a,0x12,0x68,0x54] := by
  rw [Hash.hmacSha512_eq_eval]
  decide +kernel

/-- RFC 4231 test case 2: key = "Jefe", data = "what do ya want for nothing?"; = Go crypto/hmac. -/
theorem hmacSha512_rfc4231_tc2 :
    Hash.hmacSha512 [0x4a,0x65,0x66,0x65]
    [0x77,0x68,0x61,0x74,0x20,0x64,0x6f,0x20,0x79,0x61,0x20,0x77,0x61,0x6e,0x74,0x20,
     0x66,0x6f,0x72,0x20,0x6e,0x6f,0x74,0x68,0x69,0x6e,0x67,0x3f] =
    [0x16,0x4b,0x7a,0x7b,0xfc,0xf8,0x19,0xe2,0xe3,0x95,0xfb,0xe7,0x3b,0x56,0xe0,0xa3,
     0x87,0xbd,0x64,0x22,0x2e,0x83,0x1f,0xd6,0x10,0x27,0x0c,0xd7,0xea,0x25,0x05,0x54,
     0x97,0x58,0xbf,0x75,0xc0,0x5a,0x99,0x4a,0x6d,0x03,0x4f,0x65,0xf8,0xf0,0xe6,0xfd,
     0xca,0xea,0xb1,0xa3,0x4d,0x4a,0x6b,0x4b,0x63,0x6e,0x07,0x0a,0x38,0xbc,0xe7,0x37] := by
  rw [Hash.hmacSha512_eq_eval]
  decide +kernel

/-- RFC 4231 test case 6: key = 131 × 0xaa (longer than the 128-byte block, so it is hashed first),
data = "Test Using Larger Than Block-Size Key - Hash Key First"; = Go crypto/hmac. -/
theorem hmacSha512_rfc4231_tc6 :
    Hash.hmacSha512 (List.replicate 131 0xaa)
    [0x54,0x65,0x73,0x74,0x20,0x55,0x73,0x69,0x6e,0x67,0x20,0x4c,0x61,0x72,0x67,0x65,
     0x72,0x20,0x54,0x68,0x61,0x6e,0x20,0x42,0x6c,0x6f,0x63,0x6b,0x2d,0x53,0x69,0x7a,
     0x65,0x20,0x4b,0x65,0x79,0x20,0x2d,0x20,0x48,0x61,0x73,0x68,0x20,0x4b,0x65,0x79,
     0x20,0x46,0x69,0x72,0x73,0x74] =
    [0x80,0xb2,0x42,0x63,0xc7,0xc1,0xa3,0xeb,0xb7,0x14,0x93,0xc1,0xdd,0x7b,0xe8,0xb4,
     0x9b,0x46,0xd1,0xf4,0x1b,0x4a,0xee,0xc1,0x12,0x1b,0x01,0x37,0x83,0xf8,0xf3,0x52,
     0x6b,0x56,0xd0,0x37,0xe0,0x5f,0x25,0x98,0xbd,0x0f,0xd2,0x21,0x5d,0x6a,0x1e,0x52,
     0x95,0xe6,0x4f,0x73,0xf6,0x3f,0x0a,0xec,0x8b,0x91,0x5a,0x98,0x5d,0x78,0x65,0x98] := by
  rw [Hash.hmacSha512_eq_eval]
  decide +kernel

/-! ### PBKDF2-HMAC-SHA512 (shrunk: 1 and 2 iterations instead of 2048) -/

/-- PBKDF2-HMAC-SHA512("password", "salt", c = 2, dkLen = 64): the widely published RFC 6070-style vector
(e1d9c16a…); = Go x/crypto `pbkdf2.Key(…, 2, 64, sha512.New)`.  Exercises the iteration loop and the XOR accumulation. -/
theorem pbkdf2Sha512_password_salt_2 :
    Hash.pbkdf2Sha512 [0x70,0x61,0x73,0x73,0x77,0x6f,0x72,0x64] [0x73,0x61,0x6c,0x74] 2 64 =
    [0xe1,0xd9,0xc1,0x6a,0xa6,0x81,0x70,0x8a,0x45,0xf5,0xc7,0xc4,0xe2,0x15,0xce,0xb6,
     0x6e,0x01,0x1a,0x2e,0x9f,0x00,0x40,0x71,0x3f,0x18,0xae,0xfd,0xb8,0x66,0xd5,0x3c,
     0xf7,0x6c,0xab,0x28,0x68,0xa3,0x9b,0x9f,0x78,0x40,0xed,0xce,0x4f,0xef,0x5a,0x82,
     0xbe,0x67,0x33,0x5c,0x77,0xa6,0x06,0x8e,0x04,0x11,0x27,0x54,0xf2,0x7c,0xcf,0x4e] := by
  unfold Hash.pbkdf2Sha512
  rw [Hash.hmacSha512_eq_eval]
  decide +kernel

/-- Password and salt of the first vector of /repo/pkg/bip39/testdata/TestBIP39.json
(mnemonic "abandon … about", salt "mnemonic" ++ "TREZOR") but with ONE iteration instead of 2048;
expected value from Go x/crypto `pbkdf2.Key(…, 1, 64, sha512.New)`. -/
theorem pbkdf2Sha512_bip39_1iter :
    Hash.pbkdf2Sha512
    [0x61,0x62,0x61,0x6e,0x64,0x6f,0x6e,0x20,0x61,0x62,0x61,0x6e,0x64,0x6f,0x6e,0x20,
     0x61,0x62,0x61,0x6e,0x64,0x6f,0x6e,0x20,0x61,0x62,0x61,0x6e,0x64,0x6f,0x6e,0x20,
     0x61,0x62,0x61,0x6e,0x64,0x6f,0x6e,0x20,0x61,0x62,0x61,0x6e,0x64,0x6f,0x6e,0x20,
     0x61,0x62,0x61,0x6e,0x64,0x6f,0x6e,0x20,0x61,0x62,0x61,0x6e,0x64,0x6f,0x6e,0x20,
     0x61,0x62,0x61,0x6e,0x64,0x6f,0x6e,0x20,0x61,0x62,0x61,0x6e,0x64,0x6f,0x6e,0x20,
     0x61,0x62,0x61,0x6e,0x64,0x6f,0x6e,0x20,0x61,0x62,0x6f,0x75,0x74]
    [0x6d,0x6e,0x65,0x6d,0x6f,0x6e,0x69,0x63,0x54,0x52,0x45,0x5a,0x4f,0x52] 1 64 =
    [0x93,0xb9,0x7b,0xc5,0x35,0x4e,0xc7,0x01,0xea,0xe5,0x42,0xa7,0x73,0xd5,0xde,0x60,
     0x66,0x05,0x89,0xbf,0x0d,0x9a,0x17,0x10,0x61,0x23,0x05,0x90,0xac,0xbc,0x17,0x54,
     0x00,0x4a,0x1c,0xd2,0x31,0x29,0x9f,0x2e,0x3a,0x44,0xec,0x43,0x47,0x2c,0x2b,0x27,
     0x6a,0xe9,0x86,0x8c,0xaa,0xcb,0xc0,0x2b,0xcf,0xb6,0x62,0xfb,0x3a,0x6f,0x9a,0x46] := by
  unfold Hash.pbkdf2Sha512
  rw [Hash.hmacSha512_eq_eval]
  decide +kernel

end Iota.Proofs.Vectors
