/-
C14, b1t6: per-byte and per-group facts checked by finite enumeration (256 bytes, 729 trit groups, 27² tryte
pairs), lifted to strings: `decode_encode`, `decodeTrytes_encode`, and the converses `decode_ok_imp`, `decodeTrytes_ok_iff`.
-/
import Iota.Model.B1T6
import Iota.Spec.Ternary

namespace Iota.Proofs
open Iota.B1T6 Iota.Spec

/-- lift a check over `n < 256` to all bytes. -/
theorem forall_byte {P : UInt8 → Prop} (h : ∀ n, n < 256 → P (UInt8.ofNat n)) (b : UInt8) : P b := by
  have := h b.toNat b.toNat_lt
  simpa using this

namespace B1T6

def trit3 : Fin 3 → Int
  | 0 => -1 | 1 => 0 | 2 => 1

theorem validTrit_cases {t : Int} (h : ValidTrit t) : ∃ i : Fin 3, t = trit3 i := by
  rcases h with h | h | h
  · exact ⟨0, h⟩
  · exact ⟨1, h⟩
  · exact ⟨2, h⟩

def allGroups : List (List Int) :=
  let d : List Int := [-1, 0, 1]
  d.flatMap fun a => d.flatMap fun b => d.flatMap fun c =>
  d.flatMap fun e => d.flatMap fun f => d.map fun g => [a,b,c,e,f,g]

/-! ### per-byte facts (finite: 256 cases) -/

/-- The `match` makes the kernel evaluate the code word once. -/
def byteCheck (b : UInt8) : Bool :=
  match encodeByte b, encodeByteTrytes b with
  | [t0,t1,t2,t3,t4,t5], [c1, c2] =>
    decide ((∀ t ∈ [t0,t1,t2,t3,t4,t5], ValidTrit t) ∧ balValue [t0,t1,t2,t3,t4,t5] = int8OfByte b ∧
      decodeGroup (tritsToTryteValue t0 t1 t2) (tritsToTryteValue t3 t4 t5) = some b ∧
      tritsToTrytes [t0,t1,t2,t3,t4,t5] = [c1, c2] ∧
      isTryteChar c1 = true ∧ isTryteChar c2 = true ∧ decodeGroup (tryteValue c1) (tryteValue c2) = some b)
  | _, _ => false

theorem byte_facts (b : UInt8) : ∃ t0 t1 t2 t3 t4 t5 c1 c2,
    encodeByte b = [t0,t1,t2,t3,t4,t5] ∧ encodeByteTrytes b = [c1, c2] ∧
    ValidTrits [t0,t1,t2,t3,t4,t5] ∧ balValue [t0,t1,t2,t3,t4,t5] = int8OfByte b ∧
    decodeGroup (tritsToTryteValue t0 t1 t2) (tritsToTryteValue t3 t4 t5) = some b ∧
    tritsToTrytes [t0,t1,t2,t3,t4,t5] = [c1, c2] ∧
    isTryteChar c1 = true ∧ isTryteChar c2 = true ∧ decodeGroup (tryteValue c1) (tryteValue c2) = some b := by
  have h : byteCheck b = true := forall_byte (P := fun b => byteCheck b = true) (by decide +kernel) b
  unfold byteCheck at h
  split at h
  · rename_i he he'
    have := of_decide_eq_true h
    exact ⟨_, _, _, _, _, _, _, _, he, he', this⟩
  · cases h

theorem encodeByteTrytes_shape (b : UInt8) : ∃ c1 c2,
    encodeByteTrytes b = [c1, c2] ∧ isTryteChar c1 = true ∧ isTryteChar c2 = true ∧
    decodeGroup (tryteValue c1) (tryteValue c2) = some b := by
  obtain ⟨_, _, _, _, _, _, c1, c2, _, he, _, _, _, _, h1, h2, hd⟩ := byte_facts b
  exact ⟨c1, c2, he, h1, h2, hd⟩

theorem encodeByte_spec (b : UInt8) :
    (encodeByte b).length = 6 ∧ ValidTrits (encodeByte b) ∧
    balValue (encodeByte b) = int8OfByte b := by
  obtain ⟨_, _, _, _, _, _, _, _, he, _, hv, hb, _⟩ := byte_facts b
  rw [he]; exact ⟨rfl, hv, hb⟩

/-! ### per-group facts (finite: 729 and 27² cases) -/

theorem group_facts : ∀ i0 i1 i2 i3 i4 i5 : Fin 3,
    ∀ b ∈ decodeGroup (tritsToTryteValue (trit3 i0) (trit3 i1) (trit3 i2))
      (tritsToTryteValue (trit3 i3) (trit3 i4) (trit3 i5)),
    encodeByte b = [trit3 i0, trit3 i1, trit3 i2, trit3 i3, trit3 i4, trit3 i5] := by
  decide +kernel

theorem group_sound {t0 t1 t2 t3 t4 t5 : Int} (hv : ValidTrits [t0,t1,t2,t3,t4,t5]) {b : UInt8}
    (h : decodeGroup (tritsToTryteValue t0 t1 t2) (tritsToTryteValue t3 t4 t5) = some b) :
    encodeByte b = [t0,t1,t2,t3,t4,t5] := by
  obtain ⟨i0, rfl⟩ := validTrit_cases (hv t0 (by simp))
  obtain ⟨i1, rfl⟩ := validTrit_cases (hv t1 (by simp))
  obtain ⟨i2, rfl⟩ := validTrit_cases (hv t2 (by simp))
  obtain ⟨i3, rfl⟩ := validTrit_cases (hv t3 (by simp))
  obtain ⟨i4, rfl⟩ := validTrit_cases (hv t4 (by simp))
  obtain ⟨i5, rfl⟩ := validTrit_cases (hv t5 (by simp))
  exact group_facts i0 i1 i2 i3 i4 i5 b h

def tryteChars : List UInt8 := [57,65,66,67,68,69,70,71,72,73,74,75,76,77,78,79,80,81,82,83,84,85,86,87,88,89,90]

theorem tryteGroup_facts : ∀ c1 ∈ tryteChars, ∀ c2 ∈ tryteChars,
    ∀ b ∈ decodeGroup (tryteValue c1) (tryteValue c2), encodeByteTrytes b = [c1, c2] := by
  decide +kernel

theorem isTryteChar_mem {c : UInt8} (h : isTryteChar c = true) : c ∈ tryteChars := by
  revert h
  exact forall_byte (P := fun c => isTryteChar c = true → c ∈ tryteChars) (by decide +kernel) c

theorem tryteGroup_sound {c1 c2 : UInt8} (h1 : isTryteChar c1 = true) (h2 : isTryteChar c2 = true)
    {b : UInt8} (h : decodeGroup (tryteValue c1) (tryteValue c2) = some b) :
    encodeByteTrytes b = [c1, c2] :=
  tryteGroup_facts c1 (isTryteChar_mem h1) c2 (isTryteChar_mem h2) b h

/-! ### lifting to strings -/

theorem encode_cons (b : UInt8) (bs : List UInt8) : encode (b :: bs) = encodeByte b ++ encode bs := by
  simp [encode]

theorem encodeToTrytes_cons (b : UInt8) (bs : List UInt8) :
    encodeToTrytes (b :: bs) = encodeByteTrytes b ++ encodeToTrytes bs := by
  simp [encodeToTrytes]

theorem encode_length (bs : List UInt8) : (encode bs).length = 6 * bs.length := by
  induction bs with
  | nil => rfl
  | cons b bs ih =>
    rw [encode_cons, List.length_append, ih, (encodeByte_spec b).1, List.length_cons]; omega

theorem encode_valid (bs : List UInt8) : ValidTrits (encode bs) := by
  induction bs with
  | nil => intro t ht; simp [encode] at ht
  | cons b bs ih =>
    rw [encode_cons]
    intro t ht
    rcases List.mem_append.mp ht with h | h
    · exact (encodeByte_spec b).2.1 t h
    · exact ih t h

theorem decode_encodeByte_append (b : UInt8) (rest : List Int) :
    decode (encodeByte b ++ rest) = (b :: (decode rest).1, (decode rest).2) := by
  obtain ⟨_, _, _, _, _, _, _, _, he, _, _, _, hd, _⟩ := byte_facts b
  rw [he]
  simp only [List.cons_append, List.nil_append, decode, hd]

theorem decode_encode_append (bs : List UInt8) (rest : List Int) :
    decode (encode bs ++ rest) = (bs ++ (decode rest).1, (decode rest).2) := by
  induction bs with
  | nil => simp [encode]
  | cons b bs ih =>
    rw [encode_cons, List.append_assoc, decode_encodeByte_append, ih]
    simp

theorem decode_encode (bs : List UInt8) : decode (encode bs) = (bs, none) := by
  have := decode_encode_append bs []
  simpa [decode] using this

theorem decodeTrytesAux_cons2 (c1 c2 : UInt8) (rest : List UInt8) :
    decodeTrytesAux (c1 :: c2 :: rest) =
      match decodeGroup (tryteValue c1) (tryteValue c2) with
      | none => ([], some .invalidTrits)
      | some b => (b :: (decodeTrytesAux rest).1, (decodeTrytesAux rest).2) := by
  cases hd : decodeGroup (tryteValue c1) (tryteValue c2) <;>
    simp [decodeTrytesAux, decodeValues, hd]

theorem decodeTrytesAux_nil : decodeTrytesAux [] = ([], none) := by
  simp [decodeTrytesAux, decodeValues]

theorem decodeTrytesAux_one (c : UInt8) : decodeTrytesAux [c] = ([], some .invalidLength) := by
  simp [decodeTrytesAux, decodeValues]

theorem decodeTrytesAux_encode_append (bs : List UInt8) (rest : List UInt8) :
    decodeTrytesAux (encodeToTrytes bs ++ rest) =
      (bs ++ (decodeTrytesAux rest).1, (decodeTrytesAux rest).2) := by
  induction bs with
  | nil => simp [encodeToTrytes]
  | cons b bs ih =>
    obtain ⟨c1, c2, he, _, _, hd⟩ := encodeByteTrytes_shape b
    rw [encodeToTrytes_cons, he]
    simp only [List.cons_append, List.nil_append, decodeTrytesAux_cons2, hd, ih]

theorem decodeTrytes_encode (bs : List UInt8) : decodeTrytes (encodeToTrytes bs) = .ok bs := by
  have := decodeTrytesAux_encode_append bs []
  simp only [List.append_nil, decodeTrytesAux_nil] at this
  simp [decodeTrytes, this]

theorem decode_ok_imp (ts : List Int) : ValidTrits ts → ∀ bs, decode ts = (bs, none) → ts = encode bs := by
  fun_induction decode ts with
  | case1 t0 t1 t2 t3 t4 t5 rest hd =>
    intro _ bs h; simp at h
  | case2 t0 t1 t2 t3 t4 t5 rest b hd r ih =>
    intro hv bs h
    simp only [Prod.mk.injEq] at h
    have hv6 : ValidTrits [t0,t1,t2,t3,t4,t5] := fun t ht => hv t (List.mem_append_left rest ht)
    have hvr : ValidTrits rest := fun t ht => hv t (List.mem_append_right [t0,t1,t2,t3,t4,t5] ht)
    have hg := group_sound hv6 hd
    have hr := ih hvr r.1 (Prod.ext rfl h.2)
    rw [← h.1, encode_cons, hg, ← hr]
    rfl
  | case3 =>
    intro _ bs h
    simp only [Prod.mk.injEq] at h
    rw [← h.1]; simp [encode]
  | case4 ts h1 h2 =>
    intro _ bs h; simp at h

theorem decodeTrytesAux_ok_imp : ∀ (cs : List UInt8), (∀ c ∈ cs, isTryteChar c = true) →
    ∀ bs, decodeTrytesAux cs = (bs, none) → cs = encodeToTrytes bs
  | [], _, bs, h => by
    rw [decodeTrytesAux_nil] at h
    simp only [Prod.mk.injEq] at h
    rw [← h.1]; simp [encodeToTrytes]
  | [c], _, _, h => by rw [decodeTrytesAux_one] at h; simp at h
  | c1 :: c2 :: rest, hv, bs, h => by
    rw [decodeTrytesAux_cons2] at h
    split at h
    · simp at h
    · rename_i b hd
      simp only [Prod.mk.injEq] at h
      have hg := tryteGroup_sound (hv c1 (by simp)) (hv c2 (by simp)) hd
      have hr := decodeTrytesAux_ok_imp rest (fun c hc => hv c (by simp [hc])) (decodeTrytesAux rest).1
        (Prod.ext rfl h.2)
      rw [← h.1, encodeToTrytes_cons, hg, ← hr]
      rfl

theorem decodeTrytes_ok_iff (cs : List UInt8) (hv : ∀ c ∈ cs, isTryteChar c = true)
    (bs : List UInt8) : decodeTrytes cs = .ok bs ↔ cs = encodeToTrytes bs := by
  constructor
  · intro h
    unfold decodeTrytes at h
    split at h
    · rename_i bs' he
      have : bs' = bs := by simpa using h
      subst this
      exact decodeTrytesAux_ok_imp cs hv _ he
    · simp at h
  · intro h; rw [h]; exact decodeTrytes_encode bs

end B1T6
end Iota.Proofs
