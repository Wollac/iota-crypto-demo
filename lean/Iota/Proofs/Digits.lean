/- Positional numerals: `n` digits of `x` in base `b`, most significant first. -/
namespace Iota.Proofs.Digits

def digs (b : Nat) : Nat → Nat → List Nat
  | 0, _ => []
  | n + 1, x => digs b n (x / b) ++ [x % b]

def undigs (b : Nat) (ds : List Nat) : Nat := ds.foldl (fun acc d => acc * b + d) 0

theorem digs_length (b n x : Nat) : (digs b n x).length = n := by
  induction n generalizing x with
  | zero => rfl
  | succ n ih => simp [digs, ih]

theorem digs_lt (b : Nat) (hb : 0 < b) (n x : Nat) : ∀ d ∈ digs b n x, d < b := by
  induction n generalizing x with
  | zero => intro d hd; simp [digs] at hd
  | succ n ih =>
    intro d hd
    simp only [digs, List.mem_append, List.mem_singleton] at hd
    rcases hd with hd | rfl
    · exact ih _ d hd
    · exact Nat.mod_lt _ hb

/-- a positional numeral in base `b` whose digits are read through `f`: what is already accumulated
is shifted past the digits that follow. -/
theorem foldl_pos {α : Type} (b : Nat) (f : α → Nat) (acc : Nat) (l : List α) :
    l.foldl (fun a x => a * b + f x) acc = acc * b ^ l.length + l.foldl (fun a x => a * b + f x) 0 := by
  induction l generalizing acc with
  | nil => simp
  | cons d ds ih =>
    simp only [List.foldl_cons, List.length_cons]
    rw [ih, ih (0 * b + f d), Nat.pow_succ]
    simp only [Nat.zero_mul, Nat.zero_add, Nat.add_mul, Nat.mul_assoc, Nat.mul_comm b]
    omega

theorem foldl_pos_append {α : Type} (b : Nat) (f : α → Nat) (xs ys : List α) :
    (xs ++ ys).foldl (fun a x => a * b + f x) 0 =
      xs.foldl (fun a x => a * b + f x) 0 * b ^ ys.length + ys.foldl (fun a x => a * b + f x) 0 := by
  rw [List.foldl_append, foldl_pos]

theorem foldl_pos_lt {α : Type} (b : Nat) (f : α → Nat) (l : List α) (h : ∀ x ∈ l, f x < b) :
    l.foldl (fun a x => a * b + f x) 0 < b ^ l.length := by
  induction l with
  | nil => simp
  | cons d ds ih =>
    have hd := h d (by simp)
    have := ih (fun x hx => h x (by simp [hx]))
    rw [List.foldl_cons, foldl_pos, List.length_cons, Nat.pow_succ, Nat.zero_mul, Nat.zero_add]
    calc f d * b ^ ds.length + _ < (f d + 1) * b ^ ds.length := by rw [Nat.add_mul]; omega
      _ ≤ b ^ ds.length * b := by rw [Nat.mul_comm]; exact Nat.mul_le_mul_left _ hd

theorem undigs_snoc (b : Nat) (xs : List Nat) (d : Nat) : undigs b (xs ++ [d]) = undigs b xs * b + d := by
  simp [undigs]

theorem undigs_digs (b n x : Nat) (hb : 0 < b) (hx : x < b ^ n) : undigs b (digs b n x) = x := by
  induction n generalizing x with
  | zero => simp at hx; subst hx; rfl
  | succ n ih =>
    simp only [digs]
    rw [undigs_snoc, ih (x / b)]
    · have := Nat.div_add_mod x b
      rw [Nat.mul_comm] at this; exact this
    · rw [Nat.pow_succ] at hx
      exact Nat.div_lt_of_lt_mul (by rw [Nat.mul_comm]; exact hx)

theorem undigs_lt (b : Nat) (ds : List Nat) (h : ∀ d ∈ ds, d < b) : undigs b ds < b ^ ds.length :=
  foldl_pos_lt b id ds h

theorem revInd {α : Type} {motive : List α → Prop} (l : List α) (nil : motive [])
    (snoc : ∀ l a, motive l → motive (l ++ [a])) : motive l := by
  have : ∀ r : List α, motive r.reverse := by
    intro r
    induction r with
    | nil => exact nil
    | cons a r ih => rw [List.reverse_cons]; exact snoc _ _ ih
  have h := this l.reverse
  rwa [List.reverse_reverse] at h

theorem digs_undigs_snoc (b n : Nat) (hb : 0 < b) (xs : List Nat) (d : Nat) (hd : d < b) :
    digs b (n + 1) (undigs b (xs ++ [d])) = digs b n (undigs b xs) ++ [d] := by
  simp only [digs]
  rw [undigs_snoc]
  have h1 : (undigs b xs * b + d) / b = undigs b xs := by
    rw [Nat.mul_comm, Nat.mul_add_div hb, Nat.div_eq_of_lt hd]; simp
  have h2 : (undigs b xs * b + d) % b = d := by
    rw [Nat.mul_comm, Nat.mul_add_mod, Nat.mod_eq_of_lt hd]
  rw [h1, h2]

theorem digs_undigs (b : Nat) (hb : 0 < b) (ds : List Nat) (h : ∀ d ∈ ds, d < b) :
    digs b ds.length (undigs b ds) = ds := by
  induction ds using revInd with
  | nil => rfl
  | snoc xs d ih =>
    have hd := h d (by simp)
    have : (xs ++ [d]).length = xs.length + 1 := by simp
    rw [this, digs_undigs_snoc b _ hb xs d hd, ih (fun x hx => h x (by simp [hx]))]

/-- two digit strings of the same length with the same value are equal. -/
theorem undigs_inj (b : Nat) (hb : 0 < b) (xs ys : List Nat) (hl : xs.length = ys.length)
    (hx : ∀ d ∈ xs, d < b) (hy : ∀ d ∈ ys, d < b) (h : undigs b xs = undigs b ys) : xs = ys := by
  rw [← digs_undigs b hb xs hx, ← digs_undigs b hb ys hy, hl, h]

/-- the same for a numeral whose digits are read through an injective `f`. -/
theorem foldl_pos_inj {α : Type} (b : Nat) (hb : 0 < b) (f : α → Nat) (hf : ∀ x y, f x = f y → x = y)
    (xs ys : List α) (hl : xs.length = ys.length) (hx : ∀ x ∈ xs, f x < b) (hy : ∀ y ∈ ys, f y < b)
    (h : xs.foldl (fun a x => a * b + f x) 0 = ys.foldl (fun a x => a * b + f x) 0) : xs = ys := by
  have hm : ∀ l : List α, (∀ x ∈ l, f x < b) → ∀ d ∈ l.map f, d < b := by
    intro l hl d hd
    obtain ⟨x, hx, rfl⟩ := List.mem_map.mp hd
    exact hl x hx
  apply (List.map_inj_right hf).mp
  apply undigs_inj b hb _ _ (by rw [List.length_map, List.length_map, hl]) (hm xs hx) (hm ys hy)
  unfold undigs
  rw [List.foldl_map, List.foldl_map]
  exact h

end Iota.Proofs.Digits
