/-
`strings.Fields` on byte strings (`Iota.Mnemonic.fields`): tokenisation, canonical form, and the
parse ∘ print ∘ parse = parse law for mnemonics.  Core Lean only.
-/
import Iota.Model.Mnemonic

namespace Iota.Proofs.Fields
open Iota.Mnemonic Iota.Bip39

/-! ### Statement vocabulary -/

/-- the next byte (if any) is not a UTF-8 continuation byte -/
def Tail (t : Bytes) : Prop := ∀ c, t.head? = some c → ¬ (0x80 ≤ c.toNat ∧ c.toNat ≤ 0xBF)

/-- no white-space encoding starts anywhere inside `w`, whatever admissible bytes follow it -/
def SpaceFree (w : Bytes) : Prop := ∀ i, i < w.length → ∀ t, Tail t → spaceLen (w.drop i ++ t) = 0

/-- a non-empty concatenation of white-space encodings -/
inductive SpaceRun : Bytes → Prop
  | one (s : Bytes) : 0 < spaceLen s → s.length = spaceLen s → SpaceRun s
  | cons (s r : Bytes) : 0 < spaceLen s → s.length = spaceLen s → SpaceRun r → SpaceRun (s ++ r)

/-! ### The white-space encodings -/

/-- UTF-8 continuation byte -/
def Cont (c : UInt8) : Prop := 0x80 ≤ c.toNat ∧ c.toNat ≤ 0xBF

theorem tail_cons {a : UInt8} {t : Bytes} : Tail (a :: t) ↔ ¬ Cont a := by
  simp only [Tail, List.head?_cons, Option.some.injEq, forall_eq', Cont]

/-- the exact UTF-8 encodings of the `unicode.IsSpace` code points -/
inductive Enc : Bytes → Prop
  | ascii (a : UInt8) : (a = 0x09 ∨ a = 0x0A ∨ a = 0x0B ∨ a = 0x0C ∨ a = 0x0D ∨ a = 0x20) → Enc [a]
  | c2 (b : UInt8) : (b = 0x85 ∨ b = 0xA0) → Enc [0xC2, b]
  | e1 : Enc [0xE1, 0x9A, 0x80]
  | e2a (c : UInt8) :
      ((0x80 ≤ c.toNat ∧ c.toNat ≤ 0x8A) ∨ c = 0xA8 ∨ c = 0xA9 ∨ c = 0xAF) → Enc [0xE2, 0x80, c]
  | e2b : Enc [0xE2, 0x81, 0x9F]
  | e3 : Enc [0xE3, 0x80, 0x80]

theorem enc_of_spaceLen (s : Bytes) (n : Nat) (hn : spaceLen s = n) (h : 0 < n) :
    ∃ p rest, s = p ++ rest ∧ Enc p ∧ p.length = n := by
  unfold spaceLen at hn
  split at hn
  case h_10 c tl =>
    split at hn
    · next hc => exact ⟨[0xE2, 0x80, c], tl, rfl, .e2a c hc, hn⟩
    · omega
  case h_13 => omega
  all_goals
    rename_i tl
    subst hn
    first
    | exact ⟨[_], tl, rfl, .ascii _ (by simp), rfl⟩
    | exact ⟨[_, _], tl, rfl, .c2 _ (by simp), rfl⟩
    | exact ⟨_, tl, rfl, .e1, rfl⟩
    | exact ⟨_, tl, rfl, .e2b, rfl⟩
    | exact ⟨_, tl, rfl, .e3, rfl⟩

theorem spaceLen_enc {p : Bytes} (hp : Enc p) (rest : Bytes) : spaceLen (p ++ rest) = p.length := by
  cases hp with
  | ascii a h => rcases h with rfl | rfl | rfl | rfl | rfl | rfl <;> rfl
  | c2 b h => rcases h with rfl | rfl <;> rfl
  | e1 => rfl
  | e2a c h => simp [spaceLen, h]
  | e2b => rfl
  | e3 => rfl

/-- an encoding is a non-continuation byte followed by continuation bytes only -/
theorem enc_shape {p : Bytes} (hp : Enc p) : ∃ a q, p = a :: q ∧ ¬ Cont a ∧ ∀ c ∈ q, Cont c := by
  cases hp with
  | ascii a h =>
    refine ⟨a, [], rfl, ?_, by simp⟩
    rcases h with rfl | rfl | rfl | rfl | rfl | rfl <;> simp [Cont]
  | c2 b h =>
    refine ⟨_, _, rfl, by simp [Cont], ?_⟩
    rcases h with rfl | rfl <;> simp [Cont]
  | e1 => exact ⟨_, _, rfl, by simp [Cont], by simp [Cont]⟩
  | e2a c h =>
    refine ⟨_, _, rfl, by simp [Cont], ?_⟩
    intro x hx
    simp only [List.mem_cons, List.not_mem_nil, or_false] at hx
    rcases hx with rfl | rfl
    · simp [Cont]
    · rcases h with h | rfl | rfl | rfl
      · exact ⟨h.1, by have := h.2; omega⟩
      all_goals simp [Cont]
  | e2b => exact ⟨_, _, rfl, by simp [Cont], by simp [Cont]⟩
  | e3 => exact ⟨_, _, rfl, by simp [Cont], by simp [Cont]⟩

theorem spaceLen_le_length (s : Bytes) : spaceLen s ≤ s.length := by
  by_cases h : 0 < spaceLen s
  · obtain ⟨p, rest, rfl, _, hl⟩ := enc_of_spaceLen s _ rfl h
    rw [← hl]; simp
  · omega

/-- once an encoding is recognised, later bytes are irrelevant -/
theorem spaceLen_append_of_pos {s : Bytes} (h : 0 < spaceLen s) (t : Bytes) :
    spaceLen (s ++ t) = spaceLen s := by
  obtain ⟨p, rest, rfl, hp, hl⟩ := enc_of_spaceLen s _ rfl h
  rw [List.append_assoc, spaceLen_enc hp, hl]

theorem tail_of_spaceLen_pos {s : Bytes} (h : 0 < spaceLen s) : Tail s := by
  obtain ⟨p, rest, rfl, hp, _⟩ := enc_of_spaceLen s _ rfl h
  obtain ⟨a, q, rfl, ha, _⟩ := enc_shape hp
  exact tail_cons.2 ha

theorem tail_nil : Tail [] := by intro c hc; simp at hc

theorem tail_space (t : Bytes) : Tail (0x20 :: t) := tail_cons.2 (by simp [Cont])

/-- bytes after a non-empty `u` that do not start with a continuation byte cannot complete a pattern -/
theorem spaceLen_append_tail {u t : Bytes} (hu : u ≠ []) (ht : Tail t) :
    spaceLen (u ++ t) = spaceLen u := by
  by_cases h : 0 < spaceLen u
  · exact spaceLen_append_of_pos h t
  · have h0 : spaceLen u = 0 := by omega
    rw [h0]
    by_cases h' : 0 < spaceLen (u ++ t)
    · exfalso
      obtain ⟨p, rest, heq, hp, _⟩ := enc_of_spaceLen (u ++ t) _ rfl h'
      obtain ⟨a, q, rfl, _, hq⟩ := enc_shape hp
      -- `u` does not begin with the encoding, since `spaceLen u = 0`
      have hup : ∀ c', u ≠ a :: q ++ c' := fun c' huc => by
        have := spaceLen_enc hp c'
        rw [← huc, h0] at this
        simp at this
      rcases List.append_eq_append_iff.mp heq with ⟨a', hpa, hta⟩ | ⟨c', huc, _⟩
      · -- the encoding ends inside `t`, at a continuation byte unless `u` is all of it
        cases a' with
        | nil => exact hup [] (by rw [hpa, List.append_nil, List.append_nil])
        | cons x a' =>
          cases u with
          | nil => exact hu rfl
          | cons y u =>
            simp only [List.cons_append, List.cons.injEq] at hpa
            exact tail_cons.1 (hta ▸ ht) (hq x (by rw [hpa.2]; simp))
      · exact hup c' huc
    · omega

/-! ### Tokens -/

/-- `none` = one white-space code point, `some c` = an ordinary byte -/
def tokens : Bytes → List (Option UInt8)
  | [] => []
  | c :: cs =>
    if spaceLen (c :: cs) = 0 then some c :: tokens cs
    else none :: tokens ((c :: cs).drop (spaceLen (c :: cs)))
termination_by s => s.length
decreasing_by
  · simp
  · simp only [List.length_drop, List.length_cons]; omega

theorem tokens_nil : tokens [] = [] := by rw [tokens]

theorem tokens_cons_zero {c : UInt8} {cs : Bytes} (h : spaceLen (c :: cs) = 0) :
    tokens (c :: cs) = some c :: tokens cs := by
  rw [tokens, if_pos h]

theorem tokens_cons_pos {c : UInt8} {cs : Bytes} (h : spaceLen (c :: cs) ≠ 0) :
    tokens (c :: cs) = none :: tokens ((c :: cs).drop (spaceLen (c :: cs))) := by
  rw [tokens, if_neg h]

/-- split a token list at `none`, dropping empty groups; `cur` is the group being collected (reversed) -/
def groupsAux : List (Option UInt8) → Bytes → List Bytes
  | [], cur => if cur.isEmpty then [] else [cur.reverse]
  | some c :: ts, cur => groupsAux ts (c :: cur)
  | none :: ts, cur => if cur.isEmpty then groupsAux ts [] else cur.reverse :: groupsAux ts []

theorem fieldsAux_eq : ∀ (fuel : Nat) (s cur : Bytes), s.length ≤ fuel →
    fieldsAux fuel s cur = groupsAux (tokens s) cur
  | 0, [], cur, _ | _ + 1, [], cur, _ => by rw [fieldsAux, tokens_nil, groupsAux]
  | 0, _ :: _, _, h => absurd h (by simp)
  | fuel + 1, c :: cs, cur, h => by
    simp only [fieldsAux]
    by_cases hn : spaceLen (c :: cs) = 0
    · rw [if_pos hn, tokens_cons_zero hn, groupsAux]
      exact fieldsAux_eq fuel _ _ (by simpa using h)
    · rw [if_neg hn, tokens_cons_pos hn, groupsAux]
      rw [fieldsAux_eq fuel _ [] (by simp only [List.length_drop]; simp only [List.length_cons] at h ⊢; omega)]

theorem fields_eq (s : Bytes) : fields s = groupsAux (tokens s) [] :=
  fieldsAux_eq _ _ _ (by omega)

/-! ### Group lemmas -/

theorem groupsAux_map_some (w : Bytes) (ts : List (Option UInt8)) (cur : Bytes) :
    groupsAux (w.map some ++ ts) cur = groupsAux ts (w.reverse ++ cur) := by
  induction w generalizing cur with
  | nil => simp
  | cons c w ih => simp [groupsAux, ih]

theorem groupsAux_append_none (x y : List (Option UInt8)) (cur : Bytes) :
    groupsAux (x ++ none :: y) cur = groupsAux x cur ++ groupsAux y [] := by
  induction x generalizing cur with
  | nil => cases cur <;> simp [groupsAux]
  | cons a x ih =>
    cases a with
    | some c => simp [groupsAux, ih]
    | none => cases cur <;> simp [groupsAux, ih]

theorem groupsAux_replicate_none (k : Nat) (y : List (Option UInt8)) :
    groupsAux (List.replicate k none ++ y) [] = groupsAux y [] := by
  induction k with
  | zero => simp
  | succ k ih => simp [List.replicate_succ, groupsAux, ih]

theorem groupsAux_word {w : Bytes} (hw : w ≠ []) : groupsAux (w.map some) [] = [w] := by
  have := groupsAux_map_some w [] []
  simp only [List.append_nil] at this
  rw [this, groupsAux]
  simp [hw]

/-! ### Token lemmas -/

theorem tokens_append {a t : Bytes} (ht : Tail t) : tokens (a ++ t) = tokens a ++ tokens t := by
  have hsl : ∀ c cs, spaceLen (c :: (cs ++ t)) = spaceLen (c :: cs) := fun c cs =>
    spaceLen_append_tail (u := c :: cs) (List.cons_ne_nil c cs) ht
  fun_induction tokens a with
  | case1 => rfl
  | case2 c cs hn ih =>
    rw [List.cons_append, tokens_cons_zero ((hsl c cs).trans hn), ih]
    rfl
  | case3 c cs hn ih =>
    rw [List.cons_append, tokens_cons_pos (hsl c cs ▸ hn), hsl, ← List.cons_append,
      List.drop_append_of_le_length (spaceLen_le_length _), ih]
    rfl

theorem spaceFree_tail {c : UInt8} {w : Bytes} (h : SpaceFree (c :: w)) : SpaceFree w := by
  intro i hi t ht
  have := h (i + 1) (by simpa using hi) t ht
  simpa using this

theorem tokens_spaceFree {w : Bytes} (h : SpaceFree w) : tokens w = w.map some := by
  induction w with
  | nil => simp [tokens_nil]
  | cons c w ih =>
    have h0 : spaceLen (c :: w) = 0 := by
      have := h 0 (by simp) [] tail_nil
      simpa using this
    rw [tokens_cons_zero h0, ih (spaceFree_tail h)]
    rfl

/-- a single encoding is one separator token -/
theorem tokens_enc_append {s : Bytes} (hpos : 0 < spaceLen s) (hlen : s.length = spaceLen s)
    (t : Bytes) : tokens (s ++ t) = none :: tokens t := by
  cases s with
  | nil => exact absurd hpos (Nat.lt_irrefl 0)
  | cons c cs =>
    have hsl := spaceLen_append_of_pos hpos t
    have hn' : spaceLen (c :: (cs ++ t)) ≠ 0 := by
      rw [← List.cons_append, hsl]; omega
    rw [List.cons_append, tokens_cons_pos hn', ← List.cons_append, hsl, ← hlen]
    simp

/-- a run starts with an encoding -/
theorem spaceRun_pos {r : Bytes} (hr : SpaceRun r) : 0 < spaceLen r := by
  cases hr with
  | one s hpos _ => exact hpos
  | cons s r hpos _ _ => rw [spaceLen_append_of_pos hpos]; exact hpos

theorem tokens_spaceRun {r : Bytes} (hr : SpaceRun r) :
    ∃ k, ∀ t, tokens (r ++ t) = List.replicate (k + 1) none ++ tokens t := by
  induction hr with
  | one s hpos hlen => exact ⟨0, fun t => by simp [tokens_enc_append hpos hlen]⟩
  | cons s r hpos hlen _ ih =>
    obtain ⟨k, hk⟩ := ih
    refine ⟨k + 1, fun t => ?_⟩
    rw [List.append_assoc, tokens_enc_append hpos hlen, hk, List.replicate_succ (n := k + 1)]
    rfl

/-- the fields of `a ++ r ++ b` for a white-space run `r` are those of `a` followed by those of `b` -/
theorem fields_append_run (a b r : Bytes) (hr : SpaceRun r) :
    fields (a ++ r ++ b) = fields a ++ fields b := by
  obtain ⟨k, hk⟩ := tokens_spaceRun hr
  have hpos : 0 < spaceLen (r ++ b) := by rw [spaceLen_append_of_pos (spaceRun_pos hr)]; exact spaceRun_pos hr
  rw [fields_eq, fields_eq, fields_eq, List.append_assoc, tokens_append (tail_of_spaceLen_pos hpos), hk,
    List.replicate_succ, List.cons_append, groupsAux_append_none, groupsAux_replicate_none]

theorem tokens_space (t : Bytes) : tokens (0x20 :: t) = none :: tokens t :=
  tokens_enc_append (s := [0x20]) (by decide) (by decide) t

theorem fields_join (ws : List Bytes) (h : ∀ w ∈ ws, w ≠ [] ∧ SpaceFree w) :
    fields (join ws) = ws := by
  match ws, h with
  | [], _ => simp [join, fields_eq, tokens_nil, groupsAux]
  | [w], h =>
    have hw := h w (by simp)
    rw [join, fields_eq, tokens_spaceFree hw.2, groupsAux_word hw.1]
  | w :: w' :: ws, h =>
    have hw := h w (by simp)
    have ih := fields_join (w' :: ws) (fun x hx => h x (by simp [hx]))
    rw [fields_eq] at ih
    have hj : join (w :: w' :: ws) = w ++ 0x20 :: join (w' :: ws) := rfl
    rw [hj, fields_eq, tokens_append (tail_space _), tokens_spaceFree hw.2, tokens_space,
      groupsAux_append_none, groupsAux_word hw.1, ih]
    rfl

/-- the word collected so far is closed where the input ends or an encoding starts -/
theorem groupsAux_nil_spaceFree {s cur : Bytes} (hs : Tail s)
    (inv : ∀ i, i < cur.length → spaceLen (cur.reverse.drop i ++ s) = 0) :
    ∀ w ∈ groupsAux [] cur, w ≠ [] ∧ SpaceFree w := by
  intro w hw
  rw [groupsAux] at hw
  cases cur with
  | nil => simp at hw
  | cons c cur =>
    simp only [List.isEmpty_cons, Bool.false_eq_true, if_false, List.mem_singleton] at hw
    subst hw
    refine ⟨by simp, fun i hi t ht => ?_⟩
    have hne : (c :: cur).reverse.drop i ≠ [] := by
      rw [Ne, List.drop_eq_nil_iff]; omega
    rw [spaceLen_append_tail hne ht, ← spaceLen_append_tail hne hs]
    exact inv i (by simpa using hi)

/-- invariant for `fields_spaceFree`: no encoding starts inside the word collected so far -/
theorem groupsAux_spaceFree (s cur : Bytes)
    (inv : ∀ i, i < cur.length → spaceLen (cur.reverse.drop i ++ s) = 0) :
    ∀ w ∈ groupsAux (tokens s) cur, w ≠ [] ∧ SpaceFree w := by
  fun_induction tokens s generalizing cur with
  | case1 => exact groupsAux_nil_spaceFree tail_nil inv
  | case2 c cs hn ih =>
    rw [groupsAux]
    refine ih (c :: cur) fun i hi => ?_
    simp only [List.length_cons] at hi
    by_cases hic : i < cur.length
    · have := inv i hic
      rw [List.reverse_cons, List.drop_append_of_le_length (by simp; omega), List.append_assoc]
      exact this
    · have hie : i = cur.length := by omega
      subst hie
      rw [List.reverse_cons, List.drop_append_of_le_length (by simp),
        List.drop_eq_nil_of_le (by simp)]
      simpa using hn
  | case3 c cs hn ih =>
    intro w hw
    rw [← List.nil_append (none :: _), groupsAux_append_none, List.mem_append] at hw
    exact hw.elim (groupsAux_nil_spaceFree (tail_of_spaceLen_pos (by omega)) inv w)
      (ih [] (fun i hi => absurd hi (Nat.not_lt_zero i)) w)

theorem fields_spaceFree (s : Bytes) : ∀ w ∈ fields s, w ≠ [] ∧ SpaceFree w := by
  rw [fields_eq]
  exact groupsAux_spaceFree s [] (fun i hi => absurd hi (Nat.not_lt_zero i))

theorem fields_idempotent (s : Bytes) : fields (join (fields s)) = fields s :=
  fields_join _ (fields_spaceFree s)

theorem fields_nil : fields [] = [] := by simp [fields_eq, tokens_nil, groupsAux]

end Iota.Proofs.Fields
