/-
model = spec for SLIP-0010: the loops of `Iota.Model.Slip10` (pkg/slip10/slip10.go) and the keys of
pkg/slip10/elliptic and pkg/slip10/eddsa compute what `Iota.Spec.Slip10` prescribes.
-/
import Iota.Model.Slip10
import Iota.Spec.Slip10
import Iota.Proofs.Slip10
import Iota.Proofs.Slip10Shift

namespace Iota.Proofs.Slip10Spec
open Iota.Slip10
open Iota.Spec.Slip10 (parse256 serBE ser256 IL IR IsFirst masterI childI EC validMaster validPrivChild
  validPubChild dataPriv dataPub MasterAt CKDprivAt CKDpubAt XPriv fingerprintOf DerivesWithin PathKeyWithin
  edMaster edCKDpriv edSerP edCurveKey edFingerprintOf edDerive edPathKey)

/-! ### the serialisation functions of the spec are the model's -/

theorem foldl_eq_parse256 (b : Bytes) (acc : Nat) :
    b.foldl (fun acc x => acc * 256 + x.toNat) acc = acc * 256 ^ b.length + parse256 b := by
  induction b generalizing acc with
  | nil => simp [parse256]
  | cons x xs ih =>
    simp only [List.foldl_cons, ih, parse256, List.length_cons, Nat.pow_succ]
    rw [Nat.add_mul, Nat.mul_assoc, Nat.add_assoc, Nat.mul_comm 256]

/-- `parse256` is `new(big.Int).SetBytes`. -/
theorem parse256_eq_beNat (b : Bytes) : parse256 b = beNat b := by
  simp [beNat, foldl_eq_parse256]

/-- `ser32` is `uint32Bytes`. -/
theorem ser32_eq (i : Nat) : Spec.Slip10.ser32 i = ser32 i := by
  simp only [Spec.Slip10.ser32, serBE, ser32, List.nil_append, List.cons_append, Nat.div_div_eq_div_mul]

theorem serBE_eq_map (len p : Nat) :
    serBE len p = (List.range len).map fun i => UInt8.ofNat (p / 256 ^ (len - 1 - i) % 256) := by
  induction len generalizing p with
  | zero => rfl
  | succ len ih =>
    rw [serBE, ih, List.range_succ, List.map_append]
    congr 1
    · apply List.map_congr_left
      intro i hi
      have hi : i < len := List.mem_range.1 hi
      rw [Nat.div_div_eq_div_mul, ← Nat.pow_succ']
      have : (len - 1 - i).succ = len + 1 - 1 - i := by omega
      rw [this]
    · simp only [List.map_cons, List.map_nil, Nat.add_sub_cancel, Nat.sub_self, Nat.pow_zero, Nat.div_one]

/-- `ser256` is `FillBytes` into 32 bytes. -/
theorem ser256_eq (p : Nat) : ser256 p = fill32 p := by
  rw [ser256, serBE_eq_map]; rfl

/-- `parse256 ∘ serBE len` is reduction mod `256^len`: `ser256` loses nothing below 2²⁵⁶, `ser32` nothing below 2³². -/
theorem parse256_serBE (len p : Nat) : parse256 (serBE len p) = p % 256 ^ len := by
  induction len generalizing p with
  | zero => simp [serBE, parse256, Nat.mod_one]
  | succ len ih =>
    rw [serBE, parse256_eq_beNat, Iota.Proofs.Slip10Shift.beNat_snoc, ← parse256_eq_beNat, ih,
      Nat.pow_succ', Nat.mod_mul, Iota.Proofs.Slip10Shift.toNat_ofNat_mod]
    omega

theorem parse256_ser256 (p : Nat) (h : p < 2 ^ 256) : parse256 (ser256 p) = p := by
  rw [ser256, parse256_serBE]
  exact Nat.mod_eq_of_lt h

theorem hardened_eq : Spec.Slip10.hardened = hardened := rfl

theorem length_serBE (len p : Nat) : (serBE len p).length = len := by
  induction len generalizing p with
  | zero => rfl
  | succ len ih => simp [serBE, ih]

/-! ### the two `goto` loops are one retry scheme -/

section retry
variable {β : Type} (next : Bytes → Bytes) (attempt : Bytes → Except KeyErr β)

/-- try the candidate; on ErrInvalidKey move to the next candidate; any other error is final. -/
def retry : Nat → Bytes → Except Err β
  | 0, _ => .error .outOfFuel
  | fuel + 1, I =>
    match attempt I with
    | .ok b => .ok b
    | .error .invalidKey => retry fuel (next I)
    | .error (.other x) => .error (.curve x)

/-- what `retry` returns, the `j`-th candidate being `next^[j] I0`: the verdict on the first candidate `j < fuel`
that is not rejected with ErrInvalidKey, accepted or a permanent error; `outOfFuel` when all `fuel` candidates are
rejected. -/
theorem retry_eq_iff (fuel : Nat) (I0 : Bytes) (r : Except Err β) :
    retry next attempt fuel I0 = r ↔
      (∃ j, j < fuel ∧ (∀ m, m < j → attempt (next^[m] I0) = .error .invalidKey) ∧
        ((∃ b, attempt (next^[j] I0) = .ok b ∧ r = .ok b) ∨
         (∃ x, attempt (next^[j] I0) = .error (.other x) ∧ r = .error (.curve x)))) ∨
      ((∀ j, j < fuel → attempt (next^[j] I0) = .error .invalidKey) ∧ r = .error .outOfFuel) := by
  induction fuel generalizing I0 with
  | zero =>
    simp only [retry, eq_comm, not_lt_zero, false_and, exists_const, IsEmpty.forall_iff, implies_true, true_and,
      false_or]
  | succ fuel ih =>
    -- candidate 0 is `I0`; candidate `j + 1` is candidate `j` of the loop started again at `next I0`
    simp only [Nat.exists_lt_succ_left, Nat.forall_lt_succ_left, Function.iterate_succ_apply, retry,
      Function.iterate_zero_apply]
    rcases attempt I0 with (_ | x) | b
    · simp only [ih, not_lt_zero, IsEmpty.forall_iff, implies_true, reduceCtorEq, false_and, exists_false,
        Except.error.injEq, or_self, and_false, true_and, false_or]
    · simp only [eq_comm, not_lt_zero, IsEmpty.forall_iff, implies_true, reduceCtorEq, false_and, exists_false,
        Except.error.injEq, KeyErr.other.injEq, exists_eq_left', false_or, true_and, and_false, or_false]
    · simp only [eq_comm, not_lt_zero, IsEmpty.forall_iff, implies_true, Except.ok.injEq, exists_eq_left',
        reduceCtorEq, false_and, exists_const, or_false, true_and, and_false]

theorem retry_ok_iff (fuel : Nat) (I0 : Bytes) (b : β) :
    retry next attempt fuel I0 = .ok b ↔
      ∃ j, j < fuel ∧ (∀ m, m < j → attempt (next^[m] I0) = .error .invalidKey) ∧
        attempt (next^[j] I0) = .ok b := by
  simp only [retry_eq_iff, Except.ok.injEq, exists_eq_right', reduceCtorEq, and_false, exists_const, or_false]

theorem retry_curve_iff (fuel : Nat) (I0 : Bytes) (x : Nat) :
    retry next attempt fuel I0 = .error (.curve x) ↔
      ∃ j, j < fuel ∧ (∀ m, m < j → attempt (next^[m] I0) = .error .invalidKey) ∧
        attempt (next^[j] I0) = .error (.other x) := by
  simp only [retry_eq_iff, reduceCtorEq, and_false, exists_false, Except.error.injEq, Err.curve.injEq,
    exists_eq_right', false_or, or_false]

theorem retry_outOfFuel_iff (fuel : Nat) (I0 : Bytes) :
    retry next attempt fuel I0 = .error .outOfFuel ↔
      ∀ j, j < fuel → attempt (next^[j] I0) = .error .invalidKey := by
  simp only [retry_eq_iff, reduceCtorEq, and_false, exists_false, Except.error.injEq, or_self, and_true, false_or]

/-- the loops produce no other error. -/
theorem retry_error (fuel : Nat) (I0 : Bytes) (x : Err) (h : retry next attempt fuel I0 = .error x) :
    x = .outOfFuel ∨ ∃ n, x = .curve n := by
  rcases (retry_eq_iff next attempt fuel I0 _).1 h with ⟨_, _, _, ⟨_, _, h⟩ | ⟨n, _, h⟩⟩ | ⟨_, h⟩
  · cases h
  · exact Or.inr ⟨n, Except.error.inj h⟩
  · exact Or.inl (Except.error.inj h)

end retry

theorem isFirst_unique (valid : Bytes → Prop) (seq : Nat → Bytes) (j j' : Nat)
    (h : IsFirst valid seq j) (h' : IsFirst valid seq j') : j = j' := by
  rcases Nat.lt_trichotomy j j' with hlt | heq | hgt
  · exact absurd h.1 (h'.2 j hlt)
  · exact heq
  · exact absurd h'.1 (h.2 j' hgt)

/-- the keys SLIP-0010 produces are below the order of the curve. -/
theorem _root_.Iota.Spec.Slip10.MasterAt.lt {Pt : Type} {hmac : Bytes → Bytes → Bytes} {E : EC Pt} {S : Bytes}
    {j k : Nat} {c : Bytes} (h : MasterAt hmac E S j k c) : k < E.n :=
  h.2.1 ▸ h.1.1.2

theorem _root_.Iota.Spec.Slip10.CKDprivAt.lt {Pt : Type} {hmac : Bytes → Bytes → Bytes} {E : EC Pt} {kpar : Nat}
    {cpar : Bytes} {i j k : Nat} {c : Bytes} (h : CKDprivAt hmac E kpar cpar i j k c) (hn : 0 < E.n) : k < E.n :=
  h.2.1 ▸ Nat.mod_lt _ hn

/-! ### (1) both loops return the first valid candidate of the SLIP-0010 sequence, for every `Curve` -/

section loops
variable {κ : Type} (hmac : Bytes → Bytes → Bytes) (c : Curve κ)

/-- one attempt of either loop: `f` on `I_L`; an accepted key goes with the chain code `I_R` and the parent `par`. -/
def attemptWith (f : Bytes → Except KeyErr κ) (par : Option κ) (I : Bytes) : Except KeyErr (ExtKey κ) :=
  match f (I.take 32) with
  | .ok k => .ok { chainCode := I.drop 32, key := k, parent := par }
  | .error x => .error x

omit hmac c in
theorem attemptWith_error (f : Bytes → Except KeyErr κ) (par : Option κ) (I : Bytes) (x : KeyErr) :
    attemptWith f par I = .error x ↔ f (IL I) = .error x := by
  unfold attemptWith IL
  cases f (List.take 32 I) <;> simp

omit hmac c in
theorem attemptWith_ok (f : Bytes → Except KeyErr κ) (par : Option κ) (I : Bytes) (e : ExtKey κ) :
    attemptWith f par I = .ok e ↔ f (IL I) = .ok e.key ∧ e.chainCode = IR I ∧ e.parent = par := by
  unfold attemptWith IL IR
  cases f (List.take 32 I) with
  | error x => simp
  | ok k =>
    cases e
    simp only [Except.ok.injEq, ExtKey.mk.injEq]
    exact ⟨fun ⟨h1, h2, h3⟩ => ⟨h2, h1.symm, h3.symm⟩, fun ⟨h1, h2, h3⟩ => ⟨h2.symm, h1, h3.symm⟩⟩

theorem masterLoop_eq_retry (fuel : Nat) (S : Bytes) :
    masterLoop hmac c fuel S =
      retry (hmac c.hmacKey) (attemptWith c.newPrivateKey none) fuel (hmac c.hmacKey S) := by
  induction fuel generalizing S with
  | zero => rfl
  | succ fuel ih =>
    simp only [masterLoop, retry, attemptWith]
    cases c.newPrivateKey ((hmac c.hmacKey S).take 32) with
    | ok k => rfl
    | error x => cases x with
      | invalidKey => exact ih _
      | other x => rfl

theorem iter_master (S : Bytes) (j : Nat) :
    (hmac c.hmacKey)^[j] (hmac c.hmacKey S) = masterI hmac c.hmacKey S j := by
  induction j with
  | zero => rfl
  | succ j ih => rw [Function.iterate_succ_apply', ih, masterI]

/-- the model's candidate sequence is the specification's. -/
theorem masterSeq_eq (S : Bytes) (j : Nat) :
    Iota.Proofs.Slip10.masterSeq hmac c S j = masterI hmac c.hmacKey S j := by
  induction j with
  | zero => rfl
  | succ j ih => simp only [Iota.Proofs.Slip10.masterSeq, masterI, ih]

/-- **master key, success**: `NewMasterKey` returns `e` iff some candidate `I_j`, `j < fuel`, of the SLIP-0010
sequence is accepted with key `e.key`, `e.chainCode = I_R(I_j)`, and all earlier candidates were rejected
with ErrInvalidKey. -/
theorem masterLoop_ok_iff (fuel : Nat) (S : Bytes) (e : ExtKey κ) :
    masterLoop hmac c fuel S = .ok e ↔
      ∃ j, j < fuel ∧
        (∀ m, m < j → c.newPrivateKey (IL (masterI hmac c.hmacKey S m)) = .error .invalidKey) ∧
        c.newPrivateKey (IL (masterI hmac c.hmacKey S j)) = .ok e.key ∧
        e.chainCode = IR (masterI hmac c.hmacKey S j) ∧ e.parent = none := by
  rw [masterLoop_eq_retry, retry_ok_iff]
  simp only [iter_master, attemptWith_error, attemptWith_ok]

/-- **master key, permanent error**: a curve error `x` is returned iff it is the verdict on some candidate
`I_j`, `j < fuel`, all of whose predecessors were rejected with ErrInvalidKey. -/
theorem masterLoop_curve_iff (fuel : Nat) (S : Bytes) (x : Nat) :
    masterLoop hmac c fuel S = .error (.curve x) ↔
      ∃ j, j < fuel ∧
        (∀ m, m < j → c.newPrivateKey (IL (masterI hmac c.hmacKey S m)) = .error .invalidKey) ∧
        c.newPrivateKey (IL (masterI hmac c.hmacKey S j)) = .error (.other x) := by
  rw [masterLoop_eq_retry, retry_curve_iff]
  simp only [iter_master, attemptWith_error]

/-- **master key, no result within `fuel` candidates** iff all of them are rejected with ErrInvalidKey
(the Go loop then keeps going). -/
theorem masterLoop_outOfFuel_iff (fuel : Nat) (S : Bytes) :
    masterLoop hmac c fuel S = .error .outOfFuel ↔
      ∀ j, j < fuel → c.newPrivateKey (IL (masterI hmac c.hmacKey S j)) = .error .invalidKey := by
  rw [masterLoop_eq_retry, retry_outOfFuel_iff]
  simp only [iter_master, attemptWith_error]

theorem masterLoop_error (fuel : Nat) (S : Bytes) (x : Err) (h : masterLoop hmac c fuel S = .error x) :
    x = .outOfFuel ∨ ∃ n, x = .curve n := by
  rw [masterLoop_eq_retry] at h; exact retry_error _ _ _ _ _ h

def childNext (cpar : Bytes) (i : Nat) (I : Bytes) : Bytes := hmac cpar (0x01 :: (I.drop 32 ++ ser32 i))

theorem childLoop_eq_retry (e : ExtKey κ) (i fuel : Nat) (I0 : Bytes) :
    childLoop hmac c e i fuel I0 =
      retry (childNext hmac e.chainCode i) (attemptWith (c.shift e.key) (some e.key)) fuel I0 := by
  induction fuel generalizing I0 with
  | zero => rfl
  | succ fuel ih =>
    simp only [childLoop, retry, attemptWith]
    cases c.shift e.key (I0.take 32) with
    | ok k => rfl
    | error x => cases x with
      | invalidKey => exact ih _
      | other x => rfl

theorem iter_child (cpar data : Bytes) (i j : Nat) :
    (childNext hmac cpar i)^[j] (hmac cpar data) = childI hmac cpar data i j := by
  induction j with
  | zero => rfl
  | succ j ih => rw [Function.iterate_succ_apply', ih, childI, childNext, IR, ser32_eq]

/-- **child key, success**: started on `I₀ = HMAC(c_par, data)`, the `step2` loop of `DeriveChild` returns `e'`
iff some candidate `I_j`, `j < fuel`, of the SLIP-0010 child sequence is accepted by `Shift` with key `e'.key`,
`e'.chainCode = I_R(I_j)`, the parent is remembered, and all earlier candidates were rejected with
ErrInvalidKey. -/
theorem childLoop_ok_iff (e : ExtKey κ) (i fuel : Nat) (data : Bytes) (e' : ExtKey κ) :
    childLoop hmac c e i fuel (hmac e.chainCode data) = .ok e' ↔
      ∃ j, j < fuel ∧
        (∀ m, m < j → c.shift e.key (IL (childI hmac e.chainCode data i m)) = .error .invalidKey) ∧
        c.shift e.key (IL (childI hmac e.chainCode data i j)) = .ok e'.key ∧
        e'.chainCode = IR (childI hmac e.chainCode data i j) ∧ e'.parent = some e.key := by
  rw [childLoop_eq_retry, retry_ok_iff]
  simp only [iter_child, attemptWith_error, attemptWith_ok]

/-- **child key, permanent error**: a curve error `x` is returned iff it is `Shift`'s verdict on some candidate
`I_j`, `j < fuel`, all of whose predecessors were rejected with ErrInvalidKey. -/
theorem childLoop_curve_iff (e : ExtKey κ) (i fuel : Nat) (data : Bytes) (x : Nat) :
    childLoop hmac c e i fuel (hmac e.chainCode data) = .error (.curve x) ↔
      ∃ j, j < fuel ∧
        (∀ m, m < j → c.shift e.key (IL (childI hmac e.chainCode data i m)) = .error .invalidKey) ∧
        c.shift e.key (IL (childI hmac e.chainCode data i j)) = .error (.other x) := by
  rw [childLoop_eq_retry, retry_curve_iff]
  simp only [iter_child, attemptWith_error]

/-- **child key, no result within `fuel` candidates** iff all of them are rejected with ErrInvalidKey. -/
theorem childLoop_outOfFuel_iff (e : ExtKey κ) (i fuel : Nat) (data : Bytes) :
    childLoop hmac c e i fuel (hmac e.chainCode data) = .error .outOfFuel ↔
      ∀ j, j < fuel → c.shift e.key (IL (childI hmac e.chainCode data i j)) = .error .invalidKey := by
  rw [childLoop_eq_retry, retry_outOfFuel_iff]
  simp only [iter_child, attemptWith_error]

theorem childLoop_error (e : ExtKey κ) (i fuel : Nat) (I0 : Bytes) (x : Err)
    (h : childLoop hmac c e i fuel I0 = .error x) : x = .outOfFuel ∨ ∃ n, x = .curve n := by
  rw [childLoop_eq_retry] at h; exact retry_error _ _ _ _ _ h

theorem deriveFrom_cons_ok_iff (fuel : Nat) (e : ExtKey κ) (i : Nat) (is : List Nat) (e' : ExtKey κ) :
    deriveFrom hmac c fuel e (i :: is) = .ok e' ↔
      ∃ e1, deriveChild hmac c fuel e i = .ok e1 ∧ deriveFrom hmac c fuel e1 is = .ok e' := by
  rw [deriveFrom]
  cases deriveChild hmac c fuel e i with
  | ok e1 => simp only [Except.ok.injEq, exists_eq_left']
  | error x => simp only [reduceCtorEq, false_and, exists_false]

theorem deriveKeyFromPath_ok_iff (fuel : Nat) (S : Bytes) (path : List Nat) (e : ExtKey κ) :
    deriveKeyFromPath hmac c fuel S path = .ok e ↔
      ∃ m, newMasterKey hmac c fuel S = .ok m ∧ deriveFrom hmac c fuel m path = .ok e := by
  rw [deriveKeyFromPath]
  cases newMasterKey hmac c fuel S with
  | ok m => simp only [Except.ok.injEq, exists_eq_left']
  | error x => simp only [reduceCtorEq, false_and, exists_false]

end loops

/-- the two rules of `DerivesWithin`, read backwards. -/
theorem derivesWithin_nil_iff {Pt : Type} (hmac : Bytes → Bytes → Bytes) (E : EC Pt) (hash160 : Bytes → Bytes)
    (bound : Nat) (x z : XPriv) : DerivesWithin hmac E hash160 bound x [] z ↔ z = x :=
  ⟨fun h => by cases h; rfl, fun h => h ▸ .nil z⟩

theorem derivesWithin_cons_iff {Pt : Type} (hmac : Bytes → Bytes → Bytes) (E : EC Pt) (hash160 : Bytes → Bytes)
    (bound : Nat) (x z : XPriv) (i : Nat) (is : List Nat) :
    DerivesWithin hmac E hash160 bound x (i :: is) z ↔
      ∃ j k c, j < bound ∧ CKDprivAt hmac E x.k x.c i j k c ∧
        DerivesWithin hmac E hash160 bound ⟨k, c, fingerprintOf E hash160 (E.point x.k)⟩ is z := by
  constructor
  · rintro (_ | ⟨_, _, j, k, c, _, _, hj, hckd, hrest⟩); exact ⟨j, k, c, hj, hckd, hrest⟩
  · rintro ⟨j, k, c, hj, hckd, hrest⟩; exact .cons x i j k c is z hj hckd hrest

/-! ### (2) the keys of pkg/slip10/elliptic: validity and serialisation are SLIP-0010's -/

/-- from "valid and accepted with `a`, or invalid and rejected with ErrInvalidKey": the three verdicts. -/
theorem verdict_iffs {α : Type} {P : Prop} {r : Except KeyErr α} {a : α}
    (h : (P ∧ r = .ok a) ∨ (¬ P ∧ r = .error .invalidKey)) :
    (r = .error .invalidKey ↔ ¬ P) ∧ (∀ b, r = .ok b ↔ P ∧ b = a) ∧ (∀ x, r ≠ .error (.other x)) := by
  rcases h with ⟨hp, rfl⟩ | ⟨hp, rfl⟩
  · refine ⟨⟨nofun, fun h => absurd hp h⟩, fun b => ⟨fun h => ?_, fun h => by rw [h.2]⟩, fun x => nofun⟩
    cases h
    exact ⟨hp, rfl⟩
  · exact ⟨⟨fun _ => hp, fun _ => rfl⟩, fun b => ⟨nofun, fun h => absurd h.1 hp⟩, fun x => nofun⟩

/-- a key function that rejects with ErrInvalidKey exactly when `bad`, where the standard's validity is `¬ bad`. -/
theorem verdict_of_ite {α : Type} {P bad : Prop} [Decidable bad] {r : Except KeyErr α} {a : α}
    (hr : r = if bad then .error .invalidKey else .ok a) (hP : P ↔ ¬ bad) :
    (P ∧ r = .ok a) ∨ (¬ P ∧ r = .error .invalidKey) := by
  by_cases h : bad
  · exact Or.inr ⟨fun hp => hP.1 hp h, hr.trans (if_pos h)⟩
  · exact Or.inl ⟨hP.2 h, hr.trans (if_neg h)⟩

/-- from the verdicts on single candidates to "the first valid candidate": the step from the loop theorems to
`MasterAt`, `CKDprivAt`, `CKDpubAt`, whose bodies are the right-hand side (`wrap` is `WKey.priv` or `WKey.pub`). -/
theorem first_ok_iff {κ α : Type} {valid : Bytes → Prop} {f : Bytes → Except KeyErr κ} {val : Bytes → α}
    (wrap : α → κ)
    (hv : ∀ I, (valid I ∧ f (IL I) = .ok (wrap (val I))) ∨ (¬ valid I ∧ f (IL I) = .error .invalidKey))
    (seq : Nat → Bytes) (fuel : Nat) (par : Option κ) (e : ExtKey κ) :
    (∃ j, j < fuel ∧ (∀ m, m < j → f (IL (seq m)) = .error .invalidKey) ∧ f (IL (seq j)) = .ok e.key ∧
        e.chainCode = IR (seq j) ∧ e.parent = par) ↔
      ∃ j k c, j < fuel ∧ (IsFirst valid seq j ∧ k = val (seq j) ∧ c = IR (seq j)) ∧
        e = { chainCode := c, key := wrap k, parent := par } := by
  have h := fun I => verdict_iffs (hv I)
  simp only [(h _).1, (h _).2.1, IsFirst]
  constructor
  · rintro ⟨j, hj, hp, ⟨hval, hkey⟩, hcc, hpar⟩
    refine ⟨j, _, _, hj, ⟨⟨hval, hp⟩, rfl, rfl⟩, ?_⟩
    cases e; simp only at hkey hcc hpar; subst hkey hcc hpar; rfl
  · rintro ⟨j, k, c, hj, ⟨⟨hval, hp⟩, rfl, rfl⟩, rfl⟩
    exact ⟨j, hj, hp, ⟨hval, rfl⟩, rfl, rfl⟩

section weier
open Iota.Proofs.Slip10Shift
variable {Pt : Type} [AddCommGroup Pt] (hmac : Bytes → Bytes → Bytes)

/-- the SLIP-0010 curve data of a `WCurve`: order `w.n`, `point(p) = p • g`, the group addition, `serP = w.compress`. -/
def ecOf (w : WCurve Pt) (g : Pt) (hk : Bytes) : EC Pt where
  curveKey := hk
  n := w.n
  point := fun p => p • g
  add := fun a b => a + b
  inf := 0
  serP := w.compress

variable (w : WCurve Pt) (g : Pt) (hk : Bytes)

/-- `Curve.NewPrivateKey` accepts exactly `parse256(I_L) ∈ [1, n-1]`, with that number as key. -/
theorem w_newPrivateKey (I : Bytes) :
    (validMaster (ecOf w g hk) I ∧
        (wCurve w hk).newPrivateKey (IL I) = .ok (.priv (parse256 (IL I)))) ∨
    (¬ validMaster (ecOf w g hk) I ∧ (wCurve w hk).newPrivateKey (IL I) = .error .invalidKey) := by
  simp only [validMaster, ecOf, parse256_eq_beNat]
  exact verdict_of_ite (bad := beNat (IL I) = 0 ∨ beNat (IL I) ≥ w.n) rfl (by omega)

/-- `PrivateKey.Shift` accepts exactly `parse256(I_L) < n` with `parse256(I_L) + k_par ≢ 0 (mod n)`, and the
new key is that sum mod `n`. -/
theorem w_shift_priv (kpar : Nat) (I : Bytes) :
    (validPrivChild (ecOf w g hk) kpar I ∧
        (wCurve w hk).shift (.priv kpar) (IL I) = .ok (.priv ((parse256 (IL I) + kpar) % w.n))) ∨
    (¬ validPrivChild (ecOf w g hk) kpar I ∧
        (wCurve w hk).shift (.priv kpar) (IL I) = .error .invalidKey) := by
  simp only [validPrivChild, ecOf, parse256_eq_beNat]
  exact verdict_of_ite (shift_priv_eq w hk kpar (IL I)) (by rw [not_or, Nat.not_le])

/-- `PublicKey.Shift` accepts exactly `parse256(I_L) < n` with `point(parse256(I_L)) + K_par ≠ ∞`, and the new
key is that point. -/
theorem w_shift_pub (hw : LawfulW w g) (Kpar : Pt) (I : Bytes) :
    (validPubChild (ecOf w g hk) Kpar I ∧
        (wCurve w hk).shift (.pub Kpar) (IL I) = .ok (.pub (parse256 (IL I) • g + Kpar))) ∨
    (¬ validPubChild (ecOf w g hk) Kpar I ∧
        (wCurve w hk).shift (.pub Kpar) (IL I) = .error .invalidKey) := by
  simp only [validPubChild, ecOf, parse256_eq_beNat]
  exact verdict_of_ite (shift_pub_eq w g hw hk Kpar (IL I)) (by rw [not_or, Nat.not_le, hw.inf_iff])

omit [AddCommGroup Pt] in
/-- private key bytes are `ser256(k)`. -/
theorem w_bytes_priv (k : Nat) : (wCurve w hk).bytes (.priv k) = ser256 k := (ser256_eq k).symm

/-- public key bytes are `serP(K)` = `elliptic.MarshalCompressed`. -/
theorem w_bytes_pub (K : Pt) : (wCurve w hk).bytes (.pub K) = (ecOf w g hk).serP K := rfl

/-- `PrivateKey.Public` is `point(k)`. -/
theorem w_pub_priv (hw : LawfulW w g) (k : Nat) (hkb : k < 256 ^ 40) :
    (wCurve w hk).pub (.priv k) = .pub ((ecOf w g hk).point k) := pub_priv w g hw hk k hkb

/-! #### `NewMasterKey` on secp256k1 / P-256 is SLIP-0010's master key generation -/

/-- `NewMasterKey` returns `e` iff `e` is the SLIP-0010 master key `(k, c)` of `S`, found at a candidate `j < fuel`. -/
theorem newMasterKey_w_ok_iff (fuel : Nat) (S : Bytes) (e : ExtKey (WKey Pt)) :
    newMasterKey hmac (wCurve w hk) fuel S = .ok e ↔
      ∃ j k c, j < fuel ∧ MasterAt hmac (ecOf w g hk) S j k c ∧
        e = { chainCode := c, key := .priv k, parent := none } := by
  unfold newMasterKey
  rw [masterLoop_ok_iff]
  exact first_ok_iff .priv (w_newPrivateKey w g hk) (masterI hmac hk S) fuel none e

/-- … and reports no result within `fuel` candidates iff none of them is valid; there is no other outcome. -/
theorem newMasterKey_w_outOfFuel_iff (fuel : Nat) (S : Bytes) :
    newMasterKey hmac (wCurve w hk) fuel S = .error .outOfFuel ↔
      ∀ j, j < fuel → ¬ validMaster (ecOf w g hk) (masterI hmac hk S j) := by
  unfold newMasterKey
  rw [masterLoop_outOfFuel_iff]
  exact forall₂_congr fun j _ => (verdict_iffs (w_newPrivateKey w g hk _)).1

theorem newMasterKey_w_error (fuel : Nat) (S : Bytes) (x : Err)
    (h : newMasterKey hmac (wCurve w hk) fuel S = .error x) : x = .outOfFuel := by
  rcases masterLoop_error hmac (wCurve w hk) fuel S x h with rfl | ⟨n, rfl⟩
  · rfl
  · obtain ⟨j, _, _, hj⟩ := (masterLoop_curve_iff hmac (wCurve w hk) fuel S n).1 h
    exact absurd hj ((verdict_iffs (w_newPrivateKey w (0 : Pt) hk _)).2.2 n)

/-! #### `DeriveChild` on secp256k1 / P-256 is CKDpriv on private and CKDpub on public parents -/

/-- the first candidate of a private parent: HMAC over `0x00 ‖ ser256(k_par) ‖ ser32(i)` (hardened) or
`serP(point(k_par)) ‖ ser32(i)`. -/
theorem deriveChild_priv_start (hw : LawfulW w g) (fuel : Nat) (e : ExtKey (WKey Pt)) (kpar : Nat)
    (he : e.key = .priv kpar) (i : Nat) (hkb : kpar < 256 ^ 40) :
    deriveChild hmac (wCurve w hk) fuel e i =
      childLoop hmac (wCurve w hk) e i fuel (hmac e.chainCode (dataPriv (ecOf w g hk) kpar i)) := by
  unfold dataPriv
  rw [hardened_eq]
  by_cases hi : hardened ≤ i
  · rw [if_pos hi, Iota.Proofs.Slip10.deriveChild_hardened hmac _ fuel e i hi (by rw [he]; rfl), he, ser256_eq,
      ser32_eq]
    rfl
  · rw [if_neg hi, Iota.Proofs.Slip10.deriveChild_normal hmac _ fuel e i (Nat.not_le.1 hi) rfl, he, ser32_eq,
      w_pub_priv w g hk hw kpar hkb]
    rfl

/-- **CKDpriv**: `DeriveChild` on an extended private key returns `e'` iff `e'` is SLIP-0010's
`CKDpriv((k_par, c_par), i) = (k, c)`, found at a candidate `j < fuel`, with the parent remembered. -/
theorem deriveChild_priv_ok_iff (hw : LawfulW w g) (fuel : Nat) (e : ExtKey (WKey Pt)) (kpar : Nat)
    (he : e.key = .priv kpar) (i : Nat) (hkb : kpar < 256 ^ 40) (e' : ExtKey (WKey Pt)) :
    deriveChild hmac (wCurve w hk) fuel e i = .ok e' ↔
      ∃ j k c, j < fuel ∧ CKDprivAt hmac (ecOf w g hk) kpar e.chainCode i j k c ∧
        e' = { chainCode := c, key := .priv k, parent := some (.priv kpar) } := by
  rw [deriveChild_priv_start hmac w g hk hw fuel e kpar he i hkb, childLoop_ok_iff, he]
  exact first_ok_iff .priv (w_shift_priv w g hk kpar) _ fuel _ e'

theorem deriveChild_priv_outOfFuel_iff (hw : LawfulW w g) (fuel : Nat) (cpar : Bytes) (kpar : Nat)
    (par : Option (WKey Pt)) (i : Nat) (hkb : kpar < 256 ^ 40) :
    deriveChild hmac (wCurve w hk) fuel { chainCode := cpar, key := .priv kpar, parent := par } i =
        .error .outOfFuel ↔
      ∀ j, j < fuel → ¬ validPrivChild (ecOf w g hk) kpar
        (childI hmac cpar (dataPriv (ecOf w g hk) kpar i) i j) := by
  rw [deriveChild_priv_start hmac w g hk hw fuel _ kpar rfl i hkb, childLoop_outOfFuel_iff]
  exact forall₂_congr fun j _ => (verdict_iffs (w_shift_priv w g hk kpar _)).1

/-- … and there is no other outcome. -/
theorem deriveChild_priv_error (hw : LawfulW w g) (fuel : Nat) (cpar : Bytes) (kpar : Nat)
    (par : Option (WKey Pt)) (i : Nat) (hkb : kpar < 256 ^ 40) (x : Err)
    (h : deriveChild hmac (wCurve w hk) fuel { chainCode := cpar, key := .priv kpar, parent := par } i =
      .error x) : x = .outOfFuel := by
  rw [deriveChild_priv_start hmac w g hk hw fuel _ kpar rfl i hkb] at h
  rcases childLoop_error hmac (wCurve w hk) _ i fuel _ x h with rfl | ⟨n, rfl⟩
  · rfl
  · obtain ⟨j, _, _, hj⟩ := (childLoop_curve_iff hmac (wCurve w hk) _ i fuel _ n).1 h
    exact absurd hj ((verdict_iffs (w_shift_priv w g hk kpar _)).2.2 n)

/-- the first candidate of a public parent, `i < 2³¹`: HMAC over `serP(K_par) ‖ ser32(i)`. -/
theorem deriveChild_pub_start (fuel : Nat) (cpar : Bytes) (Kpar : Pt)
    (par : Option (WKey Pt)) (i : Nat) (hi : i < hardened) :
    deriveChild hmac (wCurve w hk) fuel { chainCode := cpar, key := .pub Kpar, parent := par } i =
      childLoop hmac (wCurve w hk) { chainCode := cpar, key := .pub Kpar, parent := par } i fuel
        (hmac cpar (dataPub (ecOf w g hk) Kpar i)) := by
  rw [Iota.Proofs.Slip10.deriveChild_normal hmac _ fuel _ i hi rfl, dataPub, ser32_eq]
  rfl

/-- **CKDpub**: `DeriveChild` on an extended public key and `i < 2³¹` returns `e'` iff `e'` is SLIP-0010's
`CKDpub((K_par, c_par), i) = (K, c)`, found at a candidate `j < fuel`, with the parent remembered. -/
theorem deriveChild_pub_ok_iff (hw : LawfulW w g) (fuel : Nat) (cpar : Bytes) (Kpar : Pt)
    (par : Option (WKey Pt)) (i : Nat) (hi : i < hardened) (e' : ExtKey (WKey Pt)) :
    deriveChild hmac (wCurve w hk) fuel { chainCode := cpar, key := .pub Kpar, parent := par } i = .ok e' ↔
      ∃ j K c, j < fuel ∧ CKDpubAt hmac (ecOf w g hk) Kpar cpar i j K c ∧
        e' = { chainCode := c, key := .pub K, parent := some (.pub Kpar) } := by
  rw [deriveChild_pub_start hmac w g hk fuel cpar Kpar par i hi, childLoop_ok_iff]
  simp only [CKDpubAt, hardened_eq, hi, true_and]
  exact first_ok_iff .pub (w_shift_pub w g hk hw Kpar) _ fuel _ e'

theorem deriveChild_pub_outOfFuel_iff (hw : LawfulW w g) (fuel : Nat) (cpar : Bytes) (Kpar : Pt)
    (par : Option (WKey Pt)) (i : Nat) (hi : i < hardened) :
    deriveChild hmac (wCurve w hk) fuel { chainCode := cpar, key := .pub Kpar, parent := par } i =
        .error .outOfFuel ↔
      ∀ j, j < fuel → ¬ validPubChild (ecOf w g hk) Kpar
        (childI hmac cpar (dataPub (ecOf w g hk) Kpar i) i j) := by
  rw [deriveChild_pub_start hmac w g hk fuel cpar Kpar par i hi, childLoop_outOfFuel_iff]
  exact forall₂_congr fun j _ => (verdict_iffs (w_shift_pub w g hk hw Kpar _)).1

omit [AddCommGroup Pt] in
/-- CKDpub is not defined for hardened indices: `DeriveChild` fails. -/
theorem deriveChild_pub_hardened (fuel : Nat) (cpar : Bytes) (Kpar : Pt)
    (par : Option (WKey Pt)) (i : Nat) (hi : hardened ≤ i) :
    deriveChild hmac (wCurve w hk) fuel { chainCode := cpar, key := .pub Kpar, parent := par } i =
      .error .hardenedChildPublicKey :=
  Iota.Proofs.Slip10.hardened_child_of_public hmac _ fuel _ i hi rfl

/-! ### (3) below the master key, `DeriveKeyFromPath` on secp256k1 / P-256 is CKDpriv along the path
(`Props.C02.derive_matches_spec_weierstrass` puts the master key in front) -/

/-- the model's extended key `e` shows SLIP-0010's extended private key `x`: private key, chain code, fingerprint. -/
def Repr (hash160 : Bytes → Bytes) (e : ExtKey (WKey Pt)) (x : XPriv) : Prop :=
  e.key = .priv x.k ∧ e.chainCode = x.c ∧ fingerprint (wCurve w hk) hash160 e = x.fingerprint

omit [AddCommGroup Pt] in
theorem Repr.unique {hash160 : Bytes → Bytes} {e : ExtKey (WKey Pt)} {x y : XPriv}
    (hx : Repr w hk hash160 e x) (hy : Repr w hk hash160 e y) : x = y := by
  obtain ⟨h1, h2, h3⟩ := hx
  obtain ⟨h1', h2', h3'⟩ := hy
  cases x; cases y
  simp only at h1 h2 h3 h1' h2' h3'
  rw [h1] at h1'; cases h1'
  subst h2 h3 h2' h3'; rfl

/-- what `Bytes()` and `Public().Bytes()` of a represented key are: `ser256(k)` and `serP(point(k))`. -/
theorem Repr.bytes (hw : LawfulW w g) {hash160 : Bytes → Bytes} {e : ExtKey (WKey Pt)} {x : XPriv}
    (hx : Repr w hk hash160 e x) (hkb : x.k < 256 ^ 40) :
    (wCurve w hk).bytes e.key = ser256 x.k ∧
      (wCurve w hk).bytes ((wCurve w hk).pub e.key) = (ecOf w g hk).serP ((ecOf w g hk).point x.k) := by
  rw [hx.1, w_pub_priv w g hk hw x.k hkb]
  exact ⟨w_bytes_priv w hk x.k, rfl⟩

theorem deriveFrom_w_iff (hw : LawfulW w g) (hn : w.n < 256 ^ 40) (hash160 : Bytes → Bytes) (fuel : Nat)
    (path : List Nat) : ∀ (e : ExtKey (WKey Pt)) (x : XPriv), Repr w hk hash160 e x → x.k < w.n → ∀ z,
      (∃ e', deriveFrom hmac (wCurve w hk) fuel e path = .ok e' ∧ Repr w hk hash160 e' z) ↔
        DerivesWithin hmac (ecOf w g hk) hash160 fuel x path z := by
  induction path with
  | nil =>
    intro e x hx _ z
    simp only [deriveFrom, derivesWithin_nil_iff, Except.ok.injEq, exists_eq_left']
    exact ⟨fun hz => Repr.unique w hk hz hx, fun h => h ▸ hx⟩
  | cons i is ih =>
    intro e x hx hxn z
    have hkb : x.k < 256 ^ 40 := Nat.lt_trans hxn hn
    have hstep := deriveChild_priv_ok_iff hmac w g hk hw fuel e x.k hx.1 i hkb
    rw [hx.2.1] at hstep
    -- the child of `e` at `(k, c)` is represented by `(k, c, fingerprint of point(x.k))`
    have hrepr : ∀ k c, Repr w hk hash160
        { chainCode := c, key := .priv k, parent := some (.priv x.k) }
        ⟨k, c, fingerprintOf (ecOf w g hk) hash160 ((ecOf w g hk).point x.k)⟩ := by
      intro k c
      refine ⟨rfl, rfl, ?_⟩
      rw [Iota.Proofs.Slip10.fingerprint_child _ hash160 _ _ rfl, w_pub_priv w g hk hw x.k hkb]
      rfl
    simp only [deriveFrom_cons_ok_iff, derivesWithin_cons_iff, hstep]
    constructor
    · rintro ⟨e', ⟨_, ⟨j, k, c, hj, hckd, rfl⟩, he'⟩, hz⟩
      exact ⟨j, k, c, hj, hckd, (ih _ _ (hrepr k c) (hckd.lt hw.n_pos) z).1 ⟨e', he', hz⟩⟩
    · rintro ⟨j, k, c, hj, hckd, hrest⟩
      obtain ⟨e', he', hz⟩ := (ih _ _ (hrepr k c) (hckd.lt hw.n_pos) z).2 hrest
      exact ⟨e', ⟨_, ⟨j, k, c, hj, hckd, rfl⟩, he'⟩, hz⟩

end weier

/-- path concatenation, over the spec: `x →(p ++ q) z` iff `x →p y →q z` for some `y`. -/
theorem derivesWithin_append {Pt : Type} (hmac : Bytes → Bytes → Bytes) (E : EC Pt) (hash160 : Bytes → Bytes)
    (bound : Nat) (p q : List Nat) (x z : XPriv) :
    DerivesWithin hmac E hash160 bound x (p ++ q) z ↔
      ∃ y, DerivesWithin hmac E hash160 bound x p y ∧ DerivesWithin hmac E hash160 bound y q z := by
  induction p generalizing x with
  | nil => simp only [List.nil_append, derivesWithin_nil_iff, exists_eq_left]
  | cons i p ih =>
    simp only [List.cons_append, derivesWithin_cons_iff, ih]
    constructor
    · rintro ⟨j, k, c, hj, hckd, y, h1, h2⟩; exact ⟨y, ⟨j, k, c, hj, hckd, h1⟩, h2⟩
    · rintro ⟨y, ⟨j, k, c, hj, hckd, h1⟩, h2⟩; exact ⟨j, k, c, hj, hckd, y, h1, h2⟩

/-! ### ed25519 -/

section ed
variable (hmac : Bytes → Bytes → Bytes) (edPublic : Bytes → Bytes)

theorem ed_hmacKey : (edCurve edPublic).hmacKey = edCurveKey := rfl

/-- every candidate is a key: no retry, no error. -/
theorem ed_newPrivateKey (buf : Bytes) : (edCurve edPublic).newPrivateKey buf = .ok (.seed buf) := rfl
theorem ed_shift_seed (s buf : Bytes) : (edCurve edPublic).shift (.seed s) buf = .ok (.seed buf) := rfl

/-- private key bytes are the 32-byte seed; public key bytes are `0x00 ‖ A`. -/
theorem ed_bytes_seed (s : Bytes) : (edCurve edPublic).bytes (.seed s) = s := rfl
theorem ed_bytes_pub (a : Bytes) (h : a.length = 32) : (edCurve edPublic).bytes (.pub a) = edSerP a := by
  show List.replicate (33 - a.length) 0 ++ a = 0 :: a
  rw [h]; rfl

/-- master key: `k = I_L`, `c = I_R` of `I = HMAC("ed25519 seed", S)`, at the first attempt. -/
theorem ed_newMasterKey (fuel : Nat) (S : Bytes) :
    newMasterKey hmac (edCurve edPublic) (fuel + 1) S =
      .ok { chainCode := (edMaster hmac S).2, key := .seed (edMaster hmac S).1, parent := none } := rfl

/-- hardened CKDpriv: `k = I_L`, `c = I_R` of `I = HMAC(c_par, 0x00 ‖ k_par ‖ ser32(i))`, at the first attempt. -/
theorem ed_deriveChild_hardened (fuel : Nat) (e : ExtKey EdKey) (kpar : Bytes) (hs : e.key = .seed kpar) (i : Nat)
    (hi : hardened ≤ i) :
    deriveChild hmac (edCurve edPublic) (fuel + 1) e i =
      .ok { chainCode := (edCKDpriv hmac kpar e.chainCode i).2, key := .seed (edCKDpriv hmac kpar e.chainCode i).1,
            parent := some (.seed kpar) } := by
  rw [Iota.Proofs.Slip10.deriveChild_hardened hmac _ (fuel + 1) e i hi (by rw [hs]; rfl)]
  simp only [childLoop, hs, edCKDpriv, IL, IR, ← ser32_eq]
  rfl

/-- non-hardened derivation is rejected on private and public ed25519 keys; hardened on public keys too. -/
theorem ed_deriveChild_not_hardened (fuel : Nat) (e : ExtKey EdKey) (i : Nat) (hi : i < hardened) :
    deriveChild hmac (edCurve edPublic) fuel e i = .error .notHardened :=
  Iota.Proofs.Slip10.non_hardened_on_hardened_only hmac _ fuel e i hi rfl

theorem ed_deriveChild_pub_hardened (fuel : Nat) (cpar a : Bytes) (par : Option EdKey) (i : Nat)
    (hi : hardened ≤ i) :
    deriveChild hmac (edCurve edPublic) fuel { chainCode := cpar, key := .pub a, parent := par } i =
      .error .hardenedChildPublicKey :=
  Iota.Proofs.Slip10.hardened_child_of_public hmac _ fuel _ i hi rfl

theorem ed_deriveFrom (hpub : ∀ s, (edPublic s).length = 32) (hash160 : Bytes → Bytes) (fuel : Nat)
    (path : List Nat) : ∀ (e : ExtKey EdKey) (s : Bytes), e.key = .seed s →
    match edDerive hmac edPublic hash160 (s, e.chainCode, fingerprint (edCurve edPublic) hash160 e) path with
    | some (k, c, fp) => ∃ e', deriveFrom hmac (edCurve edPublic) (fuel + 1) e path = .ok e' ∧
        e'.key = .seed k ∧ e'.chainCode = c ∧ fingerprint (edCurve edPublic) hash160 e' = fp
    | none => deriveFrom hmac (edCurve edPublic) (fuel + 1) e path = .error .notHardened := by
  induction path with
  | nil => intro e s hs; exact ⟨e, rfl, hs, rfl, rfl⟩
  | cons i is ih =>
    intro e s hs
    simp only [edDerive, deriveFrom, hardened_eq]
    by_cases hi : hardened ≤ i
    · simp only [hi, if_true]
      rw [ed_deriveChild_hardened hmac edPublic fuel e s hs i hi]
      have hfp : fingerprint (edCurve edPublic) hash160
          { chainCode := (edCKDpriv hmac s e.chainCode i).2, key := EdKey.seed (edCKDpriv hmac s e.chainCode i).1,
            parent := some (EdKey.seed s) } = edFingerprintOf edPublic hash160 s := by
        rw [Iota.Proofs.Slip10.fingerprint_child _ hash160 _ _ rfl, edFingerprintOf,
          ← ed_bytes_pub edPublic _ (hpub s)]
        rfl
      rw [← hfp]
      exact ih ⟨(edCKDpriv hmac s e.chainCode i).2, .seed (edCKDpriv hmac s e.chainCode i).1, some (.seed s)⟩ _ rfl
    · simp only [hi, if_false]
      rw [ed_deriveChild_not_hardened hmac edPublic (fuel + 1) e i (by omega)]

/-- `edPathKey` is defined exactly on all-hardened paths. -/
theorem edDerive_isSome_iff (hash160 : Bytes → Bytes) (path : List Nat) (x : Bytes × Bytes × Bytes) :
    (edDerive hmac edPublic hash160 x path).isSome ↔ ∀ i, i ∈ path → Spec.Slip10.hardened ≤ i := by
  induction path generalizing x with
  | nil => simp [edDerive]
  | cons i is ih =>
    simp only [edDerive]
    by_cases hi : Spec.Slip10.hardened ≤ i
    · simp only [hi, if_true, ih, List.mem_cons, forall_eq_or_imp, true_and]
    · simp only [hi, if_false, List.mem_cons, forall_eq_or_imp, false_and, Option.isSome_none, Bool.false_eq_true]

end ed

end Iota.Proofs.Slip10Spec
