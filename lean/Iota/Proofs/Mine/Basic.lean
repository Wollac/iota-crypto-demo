/-
Mine (C13): auxiliary definitions and list lemmas for the proofs about `Iota.Model.Mine`.
Classifiers of program counters, counting over the worker list under `List.set`, `step` read
backwards (which step led to a given successor: the one case analysis every later proof about steps
starts from), and basic facts about `run` / `Reachable`.  Core Lean only.
-/
import Iota.Model.Mine

namespace Iota.Proofs.Mine
open Iota.Mine

/-! ### classifiers -/

/-- spawned and its deferred `wg.Done()` has not run yet -/
def isActive : WPc → Bool
  | .loop | .batch | .found _ | .send _ | .exiting _ => true
  | _ => false

/-- the worker's send on `results` has completed -/
def isSent : WPc → Bool
  | .exiting true | .exited true => true
  | _ => false

/-- the worker has stored the flag itself (`send`) or is past its send -/
def isSendOrSent : WPc → Bool
  | .send _ | .exiting true | .exited true => true
  | _ => false

/-- the worker left its loop because it read `done = 1` -/
def isExitF : WPc → Bool
  | .exiting false | .exited false => true
  | _ => false

/-- number of workers main has spawned -/
def nspawned (W : Nat) : MPc → Nat
  | .start => 0
  | .spawn k => k
  | _ => W

/-- main is past `wg.Wait()` -/
def pastWait : MPc → Bool
  | .closeResults | .closeClosing | .recv | .returned _ => true
  | _ => false

/-- `close(results)` has been executed -/
def rClosedAt : MPc → Bool
  | .closeClosing | .recv | .returned _ => true
  | _ => false

/-- `close(closing)` has been executed -/
def cClosedAt : MPc → Bool
  | .recv | .returned _ => true
  | _ => false

/-- number of values main has taken out of `results` -/
def recvd : MPc → Nat
  | .returned (some _) => 1
  | _ => 0

/-! ### list lemmas -/

theorem getD_set (ws : List WPc) (i j : Nat) (b d : WPc) :
    (ws.set i b).getD j d = if i = j ∧ i < ws.length then b else ws.getD j d := by
  simp only [List.getD_eq_getElem?_getD, List.getElem?_set]
  by_cases h : i = j
  · subst h
    by_cases h2 : i < ws.length
    · simp [h2]
    · simp [h2]
  · simp [h]

theorem getD_set_self (ws : List WPc) (i : Nat) (b d : WPc) (h : i < ws.length) :
    (ws.set i b).getD i d = b := by
  rw [getD_set]; simp [h]

theorem getD_set_ne (ws : List WPc) (i j : Nat) (b d : WPc) (h : i ≠ j) :
    (ws.set i b).getD j d = ws.getD j d := by
  rw [getD_set]; simp [h]

theorem getD_mem (ws : List WPc) (i : Nat) (d : WPc) (h : i < ws.length) : ws.getD i d ∈ ws := by
  rw [List.getD_eq_getElem?_getD, List.getElem?_eq_getElem h]
  exact List.getElem_mem h

/-- setting position `i` from pc `a` to pc `b` changes a weighted sum by `f b - f a`. -/
theorem sum_map_set (f : WPc → Nat) (ws : List WPc) (i : Nat) (a b : WPc)
    (h : i < ws.length) (ha : ws.getD i .idle = a) :
    ((ws.set i b).map f).sum + f a = (ws.map f).sum + f b := by
  induction ws generalizing i with
  | nil => simp at h
  | cons w ws ih =>
    cases i with
    | zero =>
      simp at ha
      subst ha
      simp only [List.set_cons_zero, List.map_cons, List.sum_cons]
      omega
    | succ i =>
      simp at ha h
      have := ih i h ha
      simp only [List.set_cons_succ, List.map_cons, List.sum_cons]
      omega

theorem countP_eq_sum (p : WPc → Bool) (ws : List WPc) :
    ws.countP p = (ws.map fun w => (p w).toNat).sum := by
  induction ws with
  | nil => rfl
  | cons w ws ih =>
    rw [List.countP_cons, ih, List.map_cons, List.sum_cons]
    cases p w <;> simp <;> omega

/-- the same for a count. -/
theorem countP_set' (p : WPc → Bool) (ws : List WPc) (i : Nat) (a b : WPc)
    (h : i < ws.length) (ha : ws.getD i .idle = a) :
    (ws.set i b).countP p + (p a).toNat = ws.countP p + (p b).toNat := by
  rw [countP_eq_sum, countP_eq_sum]
  exact sum_map_set _ ws i a b h ha

/-- `countP_set'` for the four counts the invariant uses. -/
theorem counts_set (ws : List WPc) (i : Nat) (a b : WPc) (h : i < ws.length)
    (ha : ws.getD i .idle = a) :
    ((ws.set i b).countP isActive + (isActive a).toNat = ws.countP isActive + (isActive b).toNat) ∧
    ((ws.set i b).countP isSent + (isSent a).toNat = ws.countP isSent + (isSent b).toNat) ∧
    ((ws.set i b).countP isSendOrSent + (isSendOrSent a).toNat
      = ws.countP isSendOrSent + (isSendOrSent b).toNat) ∧
    ((ws.set i b).countP isExitF + (isExitF a).toNat = ws.countP isExitF + (isExitF b).toNat) :=
  ⟨countP_set' _ ws i a b h ha, countP_set' _ ws i a b h ha, countP_set' _ ws i a b h ha,
    countP_set' _ ws i a b h ha⟩

theorem getD_default (ws : List WPc) (i : Nat) (d d' : WPc) (h : i < ws.length) :
    ws.getD i d = ws.getD i d' := by
  simp [List.getD_eq_getElem?_getD, List.getElem?_eq_getElem h]

theorem sum_map_le (f : WPc → Nat) (c : Nat) (hf : ∀ w, f w ≤ c) (ws : List WPc) :
    (ws.map f).sum ≤ c * ws.length := by
  induction ws with
  | nil => simp
  | cons w ws ih =>
    have := hf w
    simp only [List.map_cons, List.sum_cons, List.length_cons, Nat.mul_succ]
    omega

/-- a positive count has a witness position. -/
theorem exists_of_countP_pos (p : WPc → Bool) (ws : List WPc) (h : 0 < ws.countP p) :
    ∃ i, i < ws.length ∧ p (ws.getD i .idle) = true := by
  obtain ⟨w, hw, hp⟩ := List.countP_pos_iff.mp h
  obtain ⟨i, hi, rfl⟩ := List.mem_iff_getElem.mp hw
  exact ⟨i, hi, by rw [List.getD_eq_getElem?_getD, List.getElem?_eq_getElem hi]; exact hp⟩

theorem countP_pos_of_getD (p : WPc → Bool) (ws : List WPc) (i : Nat) (h : i < ws.length)
    (hp : p (ws.getD i .idle) = true) : 0 < ws.countP p :=
  List.countP_pos_iff.mpr ⟨_, getD_mem ws i .idle h, hp⟩

/-- a position not satisfying `p` keeps the count below the length. -/
theorem countP_lt_length (p : WPc → Bool) (ws : List WPc) (i : Nat) (h : i < ws.length)
    (hp : p (ws.getD i .idle) = false) : ws.countP p < ws.length :=
  Nat.lt_of_le_of_ne List.countP_le_length fun e => by
    have := List.countP_eq_length.mp e _ (getD_mem ws i .idle h)
    rw [hp] at this; cases this

/-! ### `step` read backwards, thread by thread -/

theorem step_main_cases {W : Nat} {s s' : State} (h : step W s .main = some s') :
    (s.main = .start ∧ s.watcher = .idle ∧ s' = { s with main := .spawn 0, watcher := .select }) ∨
    (∃ k, s.main = .spawn k ∧ k < W ∧ s.workers.getD k (.exited false) = .idle ∧
      s' = { s with workers := s.workers.set k .loop, main := .spawn (k + 1), wg := s.wg + 1 }) ∨
    (∃ k, s.main = .spawn k ∧ ¬ k < W ∧ s' = { s with main := .wait }) ∨
    (s.main = .wait ∧ s.wg = 0 ∧ s' = { s with main := .closeResults }) ∨
    (s.main = .closeResults ∧ s' = { s with main := .closeClosing, resultsClosed := true }) ∨
    (s.main = .closeClosing ∧ s' = { s with main := .recv, closingClosed := true }) ∨
    (∃ n rest, s.main = .recv ∧ s.results = n :: rest ∧
      s' = { s with main := .returned (some n), results := rest }) ∨
    (s.main = .recv ∧ s.results = [] ∧ s.resultsClosed = true ∧ s' = { s with main := .returned none }) := by
  simp only [step] at h
  split at h
  · rename_i hm
    split at h
    · rename_i hw; cases h; exact .inl ⟨hm, hw, rfl⟩
    · cases h
  · rename_i k hm
    split at h
    · rename_i hk
      split at h
      · rename_i hw; cases h; exact .inr (.inl ⟨k, hm, hk, hw, rfl⟩)
      · cases h
    · rename_i hk; cases h; exact .inr (.inr (.inl ⟨k, hm, hk, rfl⟩))
  · rename_i hm
    split at h
    · rename_i hwg; cases h; exact .inr (.inr (.inr (.inl ⟨hm, hwg, rfl⟩)))
    · cases h
  · rename_i hm; cases h; exact .inr (.inr (.inr (.inr (.inl ⟨hm, rfl⟩))))
  · rename_i hm; cases h; exact .inr (.inr (.inr (.inr (.inr (.inl ⟨hm, rfl⟩)))))
  · rename_i hm
    split at h
    · rename_i n rest hr; cases h
      exact .inr (.inr (.inr (.inr (.inr (.inr (.inl ⟨n, rest, hm, hr, rfl⟩))))))
    · rename_i hr
      split at h
      · rename_i hc; cases h
        exact .inr (.inr (.inr (.inr (.inr (.inr (.inr ⟨hm, hr, hc, rfl⟩))))))
      · cases h
  · cases h

theorem step_worker_cases {W : Nat} {s s' : State} {i : Nat} {o : Option Nat}
    (h : step W s (.worker i o) = some s') : i < W ∧
    ((s.workers.getD i .idle = .loop ∧
        s' = setWorker s i (if s.done then .exiting false else .batch)) ∨
     (s.workers.getD i .idle = .batch ∧ o = none ∧ s' = setWorker s i .loop) ∨
     (∃ n, s.workers.getD i .idle = .batch ∧ o = some n ∧
        s' = { (setWorker s i (.found n)) with founds := n :: s.founds }) ∨
     (∃ n, s.workers.getD i .idle = .found n ∧ s' = { (setWorker s i (.send n)) with done := true }) ∨
     (∃ n, s.workers.getD i .idle = .send n ∧ s.results.length < W ∧ ¬ s.resultsClosed = true ∧
        s' = { (setWorker s i (.exiting true)) with results := s.results ++ [n] }) ∨
     (∃ b, s.workers.getD i .idle = .exiting b ∧ 0 < s.wg ∧
        s' = { (setWorker s i (.exited b)) with wg := s.wg - 1 })) := by
  simp only [step] at h
  split at h
  · rename_i hi
    refine ⟨hi, ?_⟩
    split at h
    · cases h
    · rename_i hw; cases h; exact .inl ⟨hw, rfl⟩
    · rename_i hw
      split at h
      · cases h; exact .inr (.inl ⟨hw, rfl, rfl⟩)
      · rename_i n; cases h; exact .inr (.inr (.inl ⟨n, hw, rfl, rfl⟩))
    · rename_i n hw; cases h; exact .inr (.inr (.inr (.inl ⟨n, hw, rfl⟩)))
    · rename_i n hw
      split at h
      · rename_i hc; cases h; exact .inr (.inr (.inr (.inr (.inl ⟨n, hw, hc.1, hc.2, rfl⟩))))
      · cases h
    · rename_i b hw
      split at h
      · rename_i hwg; cases h; exact .inr (.inr (.inr (.inr (.inr ⟨b, hw, hwg, rfl⟩))))
      · cases h
    · cases h
  · cases h

/-- the watcher and the environment touch only `ctx`, `watcher` and `done`. -/
theorem step_env_cases {W : Nat} {s s' : State} {l : Label} (h : step W s l = some s')
    (hm : l ≠ .main) (hw : ∀ i o, l ≠ .worker i o) :
    (l = .cancel ∧ s.ctx = false ∧ s' = { s with ctx := true }) ∨
    (l = .watcherCtx ∧ s.watcher = .select ∧ s.ctx = true ∧ s' = { s with watcher := .store }) ∨
    (l = .watcherClosing ∧ s.watcher = .select ∧ s.closingClosed = true ∧
      s' = { s with watcher := .exited }) ∨
    (l = .watcherStore ∧ s.watcher = .store ∧ s' = { s with watcher := .exited, done := true }) := by
  cases l with
  | main => exact absurd rfl hm
  | worker i o => exact absurd rfl (hw i o)
  | cancel =>
    simp only [step] at h
    split at h
    · cases h
    · rename_i hc; cases h; exact .inl ⟨rfl, by simpa using hc, rfl⟩
  | watcherCtx =>
    simp only [step] at h
    split at h
    · rename_i hc; cases h; exact .inr (.inl ⟨rfl, hc.1, hc.2, rfl⟩)
    · cases h
  | watcherClosing =>
    simp only [step] at h
    split at h
    · rename_i hc; cases h; exact .inr (.inr (.inl ⟨rfl, hc.1, hc.2, rfl⟩))
    · cases h
  | watcherStore =>
    simp only [step] at h
    split at h
    · rename_i hc; cases h; exact .inr (.inr (.inr ⟨rfl, hc, rfl⟩))
    · cases h

/-! ### runs -/

theorem run_append (W : Nat) (s : State) (l1 l2 : List Label) :
    run W s (l1 ++ l2) = (run W s l1).bind (fun s' => run W s' l2) := by
  induction l1 generalizing s with
  | nil => simp [run]
  | cons l ls ih =>
    simp only [List.cons_append, run]
    cases step W s l with
    | none => simp
    | some s' => simpa using ih s'

theorem reachable_init (W : Nat) : Reachable W (init W) := ⟨[], rfl⟩

theorem reachable_step {W : Nat} {s s' : State} {l : Label} (h : Reachable W s)
    (hs : step W s l = some s') : Reachable W s' := by
  obtain ⟨ls, hls⟩ := h
  refine ⟨ls ++ [l], ?_⟩
  rw [run_append, hls]
  simp [run, hs]

theorem reachable_induction {W : Nat} {P : State → Prop} (h0 : P (Iota.Mine.init W))
    (hstep : ∀ s l s', Reachable W s → P s → step W s l = some s' → P s')
    {s : State} (h : Reachable W s) : P s := by
  obtain ⟨ls, hls⟩ := h
  suffices H : ∀ (ls : List Label) (s0 : State), Reachable W s0 → P s0 → ∀ s, run W s0 ls = some s → P s from
    H ls _ (reachable_init W) h0 s hls
  intro ls
  induction ls with
  | nil => intro s0 _ p0 s h; simp [run] at h; subst h; exact p0
  | cons l ls ih =>
    intro s0 r0 p0 s h
    simp only [run] at h
    cases hs : step W s0 l with
    | none => simp [hs] at h
    | some s1 =>
      simp only [hs] at h
      exact ih s1 (reachable_step r0 hs) (hstep s0 l s1 r0 p0 hs) s h

end Iota.Proofs.Mine
