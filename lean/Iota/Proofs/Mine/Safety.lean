/-
Mine (C13) M1, M4, M5: consequences of the invariant for every reachable state of every `W ≥ 1`
(M2 and M3 are the fields `ret_none`, `ret_founds` of `Inv`).
-/
import Iota.Proofs.Mine.Inv

namespace Iota.Proofs.Mine
open Iota.Mine

/-- **M1** a finder never blocks: when a worker is about to send, `results` has a free slot and is
not closed. -/
theorem Inv.send_free {W : Nat} {s : State} (hI : Inv W s) {i n : Nat} (hi : i < W)
    (hw : s.workers.getD i .idle = .send n) : s.results.length < W ∧ s.resultsClosed = false := by
  have hi' : i < s.workers.length := by rw [hI.len]; exact hi
  constructor
  · have h1 := countP_lt_length isSent s.workers i hi' (by rw [hw]; rfl)
    have h2 := hI.res_len
    rw [hI.len] at h1
    omega
  · cases hc : s.resultsClosed with
    | false => rfl
    | true =>
      have h1 := hI.rclosed
      rw [hc] at h1
      have hp : pastWait s.main = true := by
        cases hm : s.main <;> simp [hm, rClosedAt, pastWait] at h1 ⊢
      obtain ⟨b, hb⟩ := hI.all_exited hp i hi
      rw [hw] at hb
      cases hb

/-- **M1** in terms of `step`: the send step is enabled. -/
theorem Inv.send_enabled {W : Nat} {s : State} (hI : Inv W s) {i n : Nat} (hi : i < W)
    (hw : s.workers.getD i .idle = .send n) (o : Option Nat) :
    ∃ s', step W s (.worker i o) = some s' := by
  obtain ⟨h1, h2⟩ := hI.send_free hi hw
  simp only [step, hi, if_true, hw]
  simp [h1, h2]

/-- `founds` grows only by batch outcomes. -/
theorem founds_step {W : Nat} {s s' : State} {l : Label} (h : step W s l = some s') :
    s'.founds = s.founds ∨
      ∃ i n, l = .worker i (some n) ∧ i < W ∧ s.workers.getD i .idle = .batch ∧
        s'.founds = n :: s.founds := by
  cases l with
  | worker i o =>
    obtain ⟨hi, hc⟩ := step_worker_cases h
    rcases hc with ⟨-, rfl⟩ | ⟨-, -, rfl⟩ | ⟨n, hw, rfl, rfl⟩ | ⟨n, -, rfl⟩ | ⟨n, -, -, -, rfl⟩ |
      ⟨b, -, -, rfl⟩
    · exact Or.inl rfl
    · exact Or.inl rfl
    · exact Or.inr ⟨i, n, rfl, hi, hw, rfl⟩
    · exact Or.inl rfl
    · exact Or.inl rfl
    · exact Or.inl rfl
  | main =>
    rcases step_main_cases h with ⟨-, -, rfl⟩ | ⟨k, -, -, -, rfl⟩ | ⟨k, -, -, rfl⟩ | ⟨-, -, rfl⟩ |
      ⟨-, rfl⟩ | ⟨-, rfl⟩ | ⟨n, rest, -, -, rfl⟩ | ⟨-, -, -, rfl⟩ <;> exact Or.inl rfl
  | _ =>
    rcases step_env_cases h nofun nofun with ⟨-, -, rfl⟩ | ⟨-, -, -, rfl⟩ | ⟨-, -, -, rfl⟩ |
      ⟨-, -, rfl⟩ <;> exact Or.inl rfl

theorem progress_of_isSome {W : Nat} {s : State} (l : Label) (hl : l ≠ .cancel)
    (h : (step W s l).isSome = true) : ∃ l s', l ≠ .cancel ∧ step W s l = some s' := by
  cases hs : step W s l with
  | none => rw [hs] at h; cases h
  | some s' => exact ⟨l, s', hl, hs⟩

/-- **M4** no deadlock: until main has returned, some thread (not merely the environment's `cancel`)
can take a step. -/
theorem Inv.progress {W : Nat} {s : State} (hI : Inv W s) (hr : ∀ r, s.main ≠ .returned r) :
    ∃ l s', l ≠ .cancel ∧ step W s l = some s' := by
  by_cases hblk : s.main = .wait ∧ s.wg ≠ 0
  · -- main is blocked in `wg.Wait()`: some worker is active, and an active worker can step
    have hpos : 0 < s.workers.countP isActive := by rw [← hI.wg_eq]; omega
    obtain ⟨i, hi, hp⟩ := exists_of_countP_pos _ _ hpos
    rw [hI.len] at hi
    refine progress_of_isSome (.worker i none) (by simp) ?_
    cases hw : s.workers.getD i .idle with
    | idle => rw [hw] at hp; cases hp
    | exited b => rw [hw] at hp; cases hp
    | loop => simp only [step, if_pos hi, hw]; rfl
    | batch => simp only [step, if_pos hi, hw]; rfl
    | found n => simp only [step, if_pos hi, hw]; rfl
    | send n =>
      obtain ⟨s', hs⟩ := hI.send_enabled hi hw none
      rw [hs]; rfl
    | exiting b =>
      simp only [step, if_pos hi, hw]
      rw [if_pos (by omega)]; rfl
  · refine progress_of_isSome .main (by simp) ?_
    cases hm : s.main with
    | start =>
      simp only [step, hm]
      rw [if_pos (hI.watcher_idle.mpr hm)]; rfl
    | spawn k =>
      simp only [step, hm]
      by_cases hk : k < W
      · have h1 := (hI.idle_iff k hk).mpr (by rw [hm]; exact Nat.le_refl _)
        rw [getD_default _ _ _ (.exited false) (by rw [hI.len]; exact hk)] at h1
        rw [if_pos hk, if_pos h1]; rfl
      · rw [if_neg hk]; rfl
    | wait =>
      simp only [step, hm]
      rw [if_pos (Decidable.not_not.mp fun h => hblk ⟨hm, h⟩)]; rfl
    | closeResults => simp only [step, hm]; rfl
    | closeClosing => simp only [step, hm]; rfl
    | recv =>
      have hc : s.resultsClosed = true := by rw [hI.rclosed, hm]; rfl
      cases hres : s.results with
      | nil =>
        simp only [step, hm, hres]
        rw [if_pos hc]; rfl
      | cons n rest =>
        simp only [step, hm, hres]; rfl
    | returned r => exact absurd hm (hr r)

/-- **M5** nothing is left behind at return: all workers have exited, the WaitGroup is at zero,
`closing` is closed, and the watcher has exited or is one enabled step from exiting. -/
theorem Inv.nothing_left_behind {W : Nat} {s : State} (hI : Inv W s) {r : Option Nat}
    (hm : s.main = .returned r) :
    (∀ i, i < W → ∃ b, s.workers.getD i .idle = .exited b) ∧ s.wg = 0 ∧ s.closingClosed = true ∧
    (s.watcher = .exited ∨
      (s.watcher = .select ∧ ∃ s', step W s .watcherClosing = some s' ∧ s'.watcher = .exited) ∨
      (s.watcher = .store ∧ ∃ s', step W s .watcherStore = some s' ∧ s'.watcher = .exited)) := by
  have hp : pastWait s.main = true := by rw [hm]; rfl
  have hc : s.closingClosed = true := by rw [hI.cclosed, hm]; rfl
  refine ⟨hI.all_exited hp, hI.past_wg hp, hc, ?_⟩
  cases ht : s.watcher with
  | idle => rw [hI.watcher_idle.mp ht] at hm; cases hm
  | exited => exact Or.inl rfl
  | select =>
    refine Or.inr (Or.inl ⟨rfl, { s with watcher := .exited }, ?_, rfl⟩)
    simp only [step]
    rw [if_pos ⟨ht, hc⟩]
  | store =>
    refine Or.inr (Or.inr ⟨rfl, { s with watcher := .exited, done := true }, ?_, rfl⟩)
    simp only [step]
    rw [if_pos ht]

/-- **M5** for reachable states; of the watcher it keeps only where it stands (`exited`, `select` or `store`). -/
theorem M5_nothing_left_behind' {W : Nat} (hW : 1 ≤ W) {s : State} (h : Reachable W s)
    {r : Option Nat} (hm : s.main = .returned r) :
    (∀ i, i < W → ∃ b, s.workers.getD i .idle = .exited b) ∧ s.wg = 0 ∧ s.closingClosed = true ∧
    (s.watcher = .exited ∨ s.watcher = .select ∨ s.watcher = .store) := by
  obtain ⟨h1, h2, h3, h4⟩ := (Inv_of_reachable hW h).nothing_left_behind hm
  exact ⟨h1, h2, h3, h4.imp id (Or.imp And.left And.left)⟩

end Iota.Proofs.Mine
