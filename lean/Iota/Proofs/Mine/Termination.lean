/-
Mine (C13) M6: bounded termination once the flag is set, and cancellation is honoured.
-/
import Iota.Proofs.Mine.Safety

namespace Iota.Proofs.Mine
open Iota.Mine

/-- remaining steps of a worker once the flag is set (`batch`: finish the batch, possibly find, store,
send, `wg.Done()`). -/
def wrank : WPc → Nat
  | .idle => 2
  | .loop => 2
  | .batch => 4
  | .found _ => 3
  | .send _ => 2
  | .exiting _ => 1
  | .exited _ => 0

/-- remaining steps of main. -/
def mrank (W : Nat) : MPc → Nat
  | .start => W + 6
  | .spawn k => (W - k) + 5
  | .wait => 4
  | .closeResults => 3
  | .closeClosing => 2
  | .recv => 1
  | .returned _ => 0

/-- remaining steps of the watcher. -/
def trank : TPc → Nat
  | .idle => 3
  | .select => 2
  | .store => 1
  | .exited => 0

/-- **M6** the termination measure: an upper bound on the number of thread steps still possible
once the flag is set. -/
def measure (W : Nat) (s : State) : Nat :=
  mrank W s.main + trank s.watcher + (s.workers.map wrank).sum

/-- the flag is set, or main is already past `wg.Wait()`. -/
def Draining (s : State) : Prop := s.done = true ∨ pastWait s.main = true

/-- every step of main or of the watcher decreases the measure, in every state. -/
theorem measure_step_main {W : Nat} {s s' : State} (h : step W s .main = some s') :
    measure W s' < measure W s := by
  rcases step_main_cases h with ⟨hm, hw, rfl⟩ | ⟨k, hm, hk, hw, rfl⟩ | ⟨k, hm, hk, rfl⟩ |
    ⟨hm, -, rfl⟩ | ⟨hm, rfl⟩ | ⟨hm, rfl⟩ | ⟨n, rest, hm, -, rfl⟩ | ⟨hm, -, -, rfl⟩
  · simp [measure, hm, hw, mrank, trank]
  · by_cases hk' : k < s.workers.length
    · rw [getD_default _ _ _ .idle hk'] at hw
      have := sum_map_set wrank s.workers k _ .loop hk' hw
      simp only [wrank] at this
      simp only [measure, hm, mrank]
      omega
    · have e : s.workers.set k .loop = s.workers := List.set_eq_of_length_le (by omega)
      simp only [measure, hm, mrank, e]
      omega
  · simp only [measure, hm, mrank]; omega
  · simp [measure, hm, mrank]
  · simp [measure, hm, mrank]
  · simp [measure, hm, mrank]
  · simp [measure, hm, mrank]
  · simp [measure, hm, mrank]

theorem measure_step_watcher {W : Nat} {s s' : State} {l : Label} (h : step W s l = some s')
    (hc : l ≠ .cancel) (hm : l ≠ .main) (hw : ∀ i o, l ≠ .worker i o) :
    measure W s' < measure W s := by
  rcases step_env_cases h hm hw with ⟨rfl, -⟩ | ⟨-, ht, -, rfl⟩ | ⟨-, ht, -, rfl⟩ | ⟨-, ht, rfl⟩
  · exact absurd rfl hc
  · simp [measure, ht, trank]
  · simp [measure, ht, trank]
  · simp [measure, ht, trank]

/-- moving worker `i` to a pc of lower rank decreases the measure, whatever happens to the shared
variables. -/
theorem measure_setWorker {W : Nat} {s : State} {i : Nat} (hi : i < s.workers.length) {b : WPc}
    (hb : wrank b < wrank (s.workers.getD i .idle)) (d : Bool) (rs : List Nat) (g : Nat) (fs : List Nat) :
    measure W { s with workers := s.workers.set i b, done := d, results := rs, wg := g, founds := fs }
      < measure W s := by
  have := sum_map_set wrank s.workers i _ b hi rfl
  simp only [measure]
  omega

theorem measure_step_worker {W : Nat} {s s' : State} {i : Nat} {o : Option Nat}
    (hlen : s.workers.length = W) (hd : s.done = true) (h : step W s (.worker i o) = some s') :
    measure W s' < measure W s := by
  obtain ⟨hi, hc⟩ := step_worker_cases h
  rw [← hlen] at hi
  rcases hc with ⟨hw, rfl⟩ | ⟨hw, -, rfl⟩ | ⟨n, hw, -, rfl⟩ | ⟨n, hw, rfl⟩ | ⟨n, hw, -, -, rfl⟩ |
    ⟨b, hw, -, rfl⟩
  · rw [hd, if_pos rfl]
    exact measure_setWorker hi (by rw [hw]; simp [wrank]) _ _ _ _
  · exact measure_setWorker hi (by rw [hw]; simp [wrank]) _ _ _ _
  · exact measure_setWorker hi (by rw [hw]; simp [wrank]) _ _ _ _
  · exact measure_setWorker hi (by rw [hw]; simp [wrank]) _ _ _ _
  · exact measure_setWorker hi (by rw [hw]; simp [wrank]) _ _ _ _
  · exact measure_setWorker hi (by rw [hw]; simp [wrank]) _ _ _ _

/-- once every worker has exited no worker step is enabled. -/
theorem no_worker_step_of_exited {W : Nat} {s : State} {i : Nat} {o : Option Nat}
    (h : ∀ i, i < W → ∃ b, s.workers.getD i .idle = .exited b) : step W s (.worker i o) = none := by
  simp only [step]
  split
  · rename_i hi
    obtain ⟨b, hb⟩ := h i hi
    rw [hb]
  · rfl

/-- the measure decreases at every thread step of a draining state. -/
theorem Inv.measure_decreases {W : Nat} {s s' : State} {l : Label} (hI : Inv W s) (hd : Draining s)
    (hl : l ≠ .cancel) (h : step W s l = some s') : measure W s' < measure W s := by
  cases l with
  | main => exact measure_step_main h
  | worker i o =>
    rcases hd with hd | hp
    · exact measure_step_worker hI.len hd h
    · rw [no_worker_step_of_exited (hI.all_exited hp)] at h; cases h
  | _ => exact measure_step_watcher h hl nofun nofun

/-- **M6c** the measure is linear in `W`. -/
theorem Inv.measure_le {W : Nat} {s : State} (hI : Inv W s) : measure W s ≤ 5 * W + 9 := by
  have h1 := sum_map_le wrank 4 (by intro w; cases w <;> simp [wrank]) s.workers
  rw [hI.len] at h1
  have h2 : mrank W s.main ≤ W + 6 := by
    cases hm : s.main <;> simp only [mrank] <;> omega
  have h3 : trank s.watcher ≤ 3 := by
    cases s.watcher <;> simp [trank]
  simp only [measure]
  omega

/-- **M6c** for reachable states, with the weaker constant `8·W + 16`. -/
theorem M6c_measure_bound' {W : Nat} (hW : 1 ≤ W) {s : State} (h : Reachable W s) :
    measure W s ≤ 8 * W + 16 := by
  have := (Inv_of_reachable hW h).measure_le
  omega

/-- the flag is never reset, and main never goes back before `wg.Wait()`. -/
theorem step_mono {W : Nat} {s s' : State} {l : Label} (h : step W s l = some s') :
    (s.done = true → s'.done = true) ∧ (pastWait s.main = true → pastWait s'.main = true) := by
  cases l with
  | worker i o =>
    rcases (step_worker_cases h).2 with ⟨-, rfl⟩ | ⟨-, -, rfl⟩ | ⟨n, -, -, rfl⟩ | ⟨n, -, rfl⟩ |
      ⟨n, -, -, -, rfl⟩ | ⟨b, -, -, rfl⟩
    · exact ⟨id, id⟩
    · exact ⟨id, id⟩
    · exact ⟨id, id⟩
    · exact ⟨fun _ => rfl, id⟩
    · exact ⟨id, id⟩
    · exact ⟨id, id⟩
  | main =>
    rcases step_main_cases h with ⟨hm, -, rfl⟩ | ⟨k, hm, -, -, rfl⟩ | ⟨k, hm, -, rfl⟩ | ⟨-, -, rfl⟩ |
      ⟨-, rfl⟩ | ⟨-, rfl⟩ | ⟨n, rest, -, -, rfl⟩ | ⟨-, -, -, rfl⟩
    · exact ⟨id, fun hp => by rw [hm] at hp; cases hp⟩
    · exact ⟨id, fun hp => by rw [hm] at hp; cases hp⟩
    · exact ⟨id, fun hp => by rw [hm] at hp; cases hp⟩
    · exact ⟨id, fun _ => rfl⟩
    · exact ⟨id, fun _ => rfl⟩
    · exact ⟨id, fun _ => rfl⟩
    · exact ⟨id, fun _ => rfl⟩
    · exact ⟨id, fun _ => rfl⟩
  | _ =>
    rcases step_env_cases h nofun nofun with ⟨-, -, rfl⟩ | ⟨-, -, -, rfl⟩ | ⟨-, -, -, rfl⟩ |
      ⟨-, -, rfl⟩
    · exact ⟨id, id⟩
    · exact ⟨id, id⟩
    · exact ⟨id, id⟩
    · exact ⟨fun _ => rfl, id⟩

theorem Draining.step {W : Nat} {s s' : State} {l : Label} (hd : Draining s)
    (h : Iota.Mine.step W s l = some s') : Draining s' :=
  hd.imp (step_mono h).1 (step_mono h).2

theorem measure_cancel {W : Nat} {s s' : State} (h : step W s .cancel = some s') :
    measure W s' = measure W s := by
  simp only [step] at h
  split at h
  · cases h
  · cases h; rfl

/-- **M6e** a run that starts in a reachable draining state (flag set, or main past `wg.Wait()`)
contains at most `measure W s ≤ 5 * W + 9` thread steps. -/
theorem M6e_run_bound {W : Nat} (hW : 1 ≤ W) {s s' : State} (ls : List Label) (h : Reachable W s)
    (hd : Draining s) (hr : run W s ls = some s') :
    (ls.filter (fun l => l ≠ .cancel)).length + measure W s' ≤ measure W s := by
  induction ls generalizing s with
  | nil => simp [run] at hr; subst hr; simp
  | cons l ls ih =>
    simp only [run] at hr
    cases hs : step W s l with
    | none => simp [hs] at hr
    | some s1 =>
      simp only [hs] at hr
      have ih' := ih (reachable_step h hs) (hd.step hs) hr
      by_cases hl : l = .cancel
      · subst hl
        have := measure_cancel hs
        rw [List.filter_cons, if_neg (by simp)]
        omega
      · have := (Inv_of_reachable hW h).measure_decreases hd hl hs
        rw [List.filter_cons, if_pos (decide_eq_true hl), List.length_cons]
        omega

/-- **M6d** cancellation is honoured: in every state of the invariant in which the context is cancelled,
the flag is not yet set and main has not returned, the watcher's next step towards storing the
flag is enabled (and stays enabled, this holding in every such state, until it is taken), or main
has not started the watcher yet and its step that does so is enabled, or main is already at its
final receive with the watcher gone via `<-closing`. -/
theorem Inv.cancel_honoured {W : Nat} {s : State} (hI : Inv W s)
    (hc : s.ctx = true) (hd : s.done = false) (hr : ∀ r, s.main ≠ .returned r) :
    (s.watcher = .select ∧ ∃ s', step W s .watcherCtx = some s' ∧ s'.watcher = .store) ∨
    (s.watcher = .store ∧ ∃ s', step W s .watcherStore = some s' ∧ s'.done = true) ∨
    (s.main = .start ∧ ∃ s', step W s .main = some s' ∧ s'.watcher = .select) ∨
    (s.main = .recv ∧ s.watcher = .exited ∧ s.closingClosed = true) := by
  cases ht : s.watcher with
  | idle =>
    refine Or.inr (Or.inr (Or.inl ⟨hI.watcher_idle.mp ht, { s with main := .spawn 0, watcher := .select }, ?_, rfl⟩))
    simp only [step, hI.watcher_idle.mp ht]
    rw [if_pos ht]
  | select =>
    refine Or.inl ⟨rfl, { s with watcher := .store }, ?_, rfl⟩
    simp only [step]
    rw [if_pos ⟨ht, hc⟩]
  | store =>
    refine Or.inr (Or.inl ⟨rfl, { s with watcher := .exited, done := true }, ?_, rfl⟩)
    simp only [step]
    rw [if_pos ht]
  | exited =>
    refine Or.inr (Or.inr (Or.inr ?_))
    rcases hI.watcher_exited ht with h1 | h1
    · rw [hd] at h1; cases h1
    · have h2 := hI.cclosed
      rw [h1] at h2
      cases hm : s.main with
      | recv => exact ⟨rfl, rfl, h1⟩
      | returned r => exact absurd hm (hr r)
      | _ => rw [hm] at h2; cases h2

/-- **M6d** for reachable states, keeping only which watcher step is enabled or where main stands. -/
theorem M6d_cancel_honoured' {W : Nat} (hW : 1 ≤ W) {s : State} (h : Reachable W s)
    (hc : s.ctx = true) (hd : s.done = false) (hr : ∀ r, s.main ≠ .returned r) :
    (∃ s', step W s .watcherCtx = some s') ∨ (∃ s', step W s .watcherStore = some s') ∨
    s.main = .start ∨ (s.main = .recv ∧ s.watcher = .exited) := by
  rcases (Inv_of_reachable hW h).cancel_honoured hc hd hr with h1 | h1 | h1 | h1
  · obtain ⟨_, s', h2, _⟩ := h1; exact Or.inl ⟨s', h2⟩
  · obtain ⟨_, s', h2, _⟩ := h1; exact Or.inr (Or.inl ⟨s', h2⟩)
  · exact Or.inr (Or.inr (Or.inl h1.1))
  · exact Or.inr (Or.inr (Or.inr ⟨h1.1, h1.2.1⟩))

end Iota.Proofs.Mine
