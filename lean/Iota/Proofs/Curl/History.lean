/-
T3, histories: any sequence of `Absorb` / `Squeeze` / `Reset` calls on the batched sponge that
respects the documented preconditions produces, lane by lane, exactly the outputs of the
single-lane specification sponge run on that lane's inputs alone.
-/
import Iota.Proofs.Curl.Sponge

namespace Iota.Proofs.Curl
open Iota.Curl Iota.Spec.CurlP Iota.Spec.CurlW

/-- an API call. -/
inductive Op
  | absorb (src : List (List Int)) (n : Nat)
  | squeeze (lanes n : Nat)
  | reset

/-- what the caller observes from one call. -/
inductive Ev
  | out (o : List (List Int))   -- successful `Squeeze`: the trits written to `dst`
  | err (e : Err)               -- a returned error (state untouched)
  | panic                       -- a run-time panic; nothing after it is observed
deriving DecidableEq

/-- run a history on the batched implementation model.  Successful `Absorb`/`Reset` are silent;
returned errors leave the state untouched; a panic ends the run. -/
def run : Curl → List Op → List Ev
  | _, [] => []
  | _, .reset :: ops => run Curl.init ops
  | c, .absorb src n :: ops =>
    match c.absorb src n with
    | .ok c' _ => run c' ops
    | .err e => .err e :: run c ops
    | .panic => [.panic]
  | c, .squeeze lanes n :: ops =>
    match c.squeeze lanes n with
    | .ok c' o => .out o :: run c' ops
    | .err e => .err e :: run c ops
    | .panic => [.panic]

/-- the same history on 64 independent specification sponges (`sp j` is lane `j`). -/
def specRun : (Nat → Spec.CurlP.Sponge) → List Op → List Ev
  | _, [] => []
  | _, .reset :: ops => specRun (fun _ => Spec.CurlP.Sponge.init) ops
  | sp, .absorb src n :: ops =>
    if src.length < 1 ∨ src.length > 64 then .err .invalidBatchSize :: specRun sp ops
    else if n % 243 ≠ 0 then .err .invalidTritsLength :: specRun sp ops
    else specRun (fun j => (sp j).absorb (src.getD j []) (n / 243)) ops
  | sp, .squeeze lanes n :: ops =>
    if lanes < 1 ∨ lanes > 64 then .err .invalidBatchSize :: specRun sp ops
    else if n % 243 ≠ 0 then .err .invalidSqueezeLength :: specRun sp ops
    else .out ((List.range lanes).map fun j => ((sp j).squeeze (n / 243)).2) ::
      specRun (fun j => ((sp j).squeeze (n / 243)).1) ops

/-- the documented preconditions along a history; `sq` says whether the sponge is squeezing.
A call that returns an error has no precondition.  An accepted `Absorb` needs an absorbing sponge
(no absorb after squeeze without reset) and every lane at least `n` trits long. -/
def WF : Bool → List Op → Prop
  | _, [] => True
  | _, .reset :: ops => WF false ops
  | sq, .absorb src n :: ops =>
    if src.length < 1 ∨ src.length > 64 ∨ n % 243 ≠ 0 then WF sq ops
    else sq = false ∧ (∀ lane ∈ src, n ≤ lane.length) ∧ WF sq ops
  | sq, .squeeze lanes n :: ops =>
    if lanes < 1 ∨ lanes > 64 ∨ n % 243 ≠ 0 then WF sq ops
    else WF (sq || decide (n / 243 ≠ 0)) ops

/-! ### one lane alone -/

/-- what lane `j` sees of a call: its own input (if any), the number of blocks, and whether the
squeeze output of this lane is delivered (`j < len(dst)`).  Calls that return an error are `skip`. -/
inductive LaneOp
  | absorb (input : List Int) (blocks : Nat)
  | squeeze (blocks : Nat) (visible : Bool)
  | reset
  | skip

def proj (j : Nat) : Op → LaneOp
  | .absorb src n =>
    if src.length < 1 ∨ src.length > 64 ∨ n % 243 ≠ 0 then .skip
    else .absorb (src.getD j []) (n / 243)
  | .squeeze lanes n =>
    if lanes < 1 ∨ lanes > 64 ∨ n % 243 ≠ 0 then .skip
    else .squeeze (n / 243) (decide (j < lanes))
  | .reset => .reset

/-- the single-lane specification sponge run on one lane's view of the history. -/
def laneRun : Spec.CurlP.Sponge → List LaneOp → List (List Int)
  | _, [] => []
  | s, .absorb input k :: ops => laneRun (s.absorb input k) ops
  | s, .squeeze k visible :: ops =>
    if visible then (s.squeeze k).2 :: laneRun (s.squeeze k).1 ops else laneRun (s.squeeze k).1 ops
  | _, .reset :: ops => laneRun Spec.CurlP.Sponge.init ops
  | s, .skip :: ops => laneRun s ops

/-- the outputs delivered to lane `j` in a list of observations. -/
def laneOuts (j : Nat) : List Ev → List (List Int)
  | [] => []
  | .out o :: es => if j < o.length then o.getD j [] :: laneOuts j es else laneOuts j es
  | _ :: es => laneOuts j es

/-! ### histories -/

/-- the call returns an error: it changes nothing and has no precondition. -/
def Rejected : Op → Prop
  | .absorb src n => src.length < 1 ∨ src.length > 64 ∨ n % 243 ≠ 0
  | .squeeze lanes n => lanes < 1 ∨ lanes > 64 ∨ n % 243 ≠ 0
  | .reset => False

theorem run_rejected {op : Op} (h : Rejected op) : ∃ e,
    (∀ c ops, run c (op :: ops) = .err e :: run c ops) ∧
    (∀ sp ops, specRun sp (op :: ops) = .err e :: specRun sp ops) ∧
    (∀ sq ops, WF sq (op :: ops) = WF sq ops) ∧ ∀ j, proj j op = .skip := by
  cases op with
  | reset => exact h.elim
  | absorb src n =>
    have h' : src.length < 1 ∨ src.length > 64 ∨ n % 243 ≠ 0 := h
    by_cases hb : src.length < 1 ∨ src.length > 64
    · exact ⟨_, fun c ops => by rw [run, absorb_err_batch c src n hb], fun sp ops => by rw [specRun, if_pos hb],
        fun sq ops => by rw [WF, if_pos h'], fun j => by rw [proj, if_pos h']⟩
    · have hn : n % 243 ≠ 0 := by omega
      exact ⟨_, fun c ops => by rw [run, absorb_err_length c src n (by omega) (by omega) hn],
        fun sp ops => by rw [specRun, if_neg hb, if_pos hn], fun sq ops => by rw [WF, if_pos h'], fun j => by rw [proj, if_pos h']⟩
  | squeeze lanes n =>
    have h' : lanes < 1 ∨ lanes > 64 ∨ n % 243 ≠ 0 := h
    by_cases hb : lanes < 1 ∨ lanes > 64
    · exact ⟨_, fun c ops => by rw [run, squeeze_err_batch c lanes n hb], fun sp ops => by rw [specRun, if_pos hb],
        fun sq ops => by rw [WF, if_pos h'], fun j => by rw [proj, if_pos h']⟩
    · have hn : n % 243 ≠ 0 := by omega
      exact ⟨_, fun c ops => by rw [run, squeeze_err_length c lanes n (by omega) (by omega) hn],
        fun sp ops => by rw [specRun, if_neg hb, if_pos hn], fun sq ops => by rw [WF, if_pos h'], fun j => by rw [proj, if_pos h']⟩

theorem specRun_absorb {src : List (List Int)} {n : Nat} (h : ¬ Rejected (.absorb src n))
    (sp : Nat → Spec.CurlP.Sponge) (ops : List Op) :
    specRun sp (.absorb src n :: ops) = specRun (fun j => (sp j).absorb (src.getD j []) (n / 243)) ops := by
  have h' : ¬ (src.length < 1 ∨ src.length > 64 ∨ n % 243 ≠ 0) := h
  rw [specRun, if_neg (by omega), if_neg (by omega)]

theorem specRun_squeeze {lanes n : Nat} (h : ¬ Rejected (.squeeze lanes n))
    (sp : Nat → Spec.CurlP.Sponge) (ops : List Op) :
    specRun sp (.squeeze lanes n :: ops) =
      .out ((List.range lanes).map fun j => ((sp j).squeeze (n / 243)).2) ::
        specRun (fun j => ((sp j).squeeze (n / 243)).1) ops := by
  have h' : ¬ (lanes < 1 ∨ lanes > 64 ∨ n % 243 ≠ 0) := h
  rw [specRun, if_neg (by omega), if_neg (by omega)]

/-- **T3, histories.** From related states, a well-formed history produces the same observations
on the batched model and on the 64 specification sponges (in particular it never panics). -/
theorem run_eq_specRun (ops : List Op) :
    ∀ (c : Curl) (sp : Nat → Spec.CurlP.Sponge) (sq : Bool), Sim c sp →
      (sq = true ↔ c.direction = .squeezing) → WF sq ops → run c ops = specRun sp ops := by
  induction ops with
  | nil => intro c sp sq _ _ _; rfl
  | cons op ops ih =>
    intro c sp sq hs hsq hwf
    by_cases hr : Rejected op
    · obtain ⟨e, h1, h2, h3, -⟩ := run_rejected hr
      rw [h1, h2, ih c sp sq hs hsq (by rwa [h3] at hwf)]
    cases op with
    | reset => exact ih Curl.init _ false sim_init (by simp [Curl.init]) hwf
    | absorb src n =>
      have hr' : ¬ (src.length < 1 ∨ src.length > 64 ∨ n % 243 ≠ 0) := hr
      rw [WF, if_neg hr'] at hwf
      obtain ⟨hsq0, hlanes, hwf'⟩ := hwf
      have hdir : c.direction = .absorbing := by
        cases hd : c.direction with
        | absorbing => rfl
        | squeezing => rw [hsq.mpr hd] at hsq0; exact absurd hsq0 (by simp)
      obtain ⟨c', hc', hd', hs'⟩ :=
        absorb_sim c sp hs src n hdir (by omega) (by omega) (by omega) hlanes
      rw [specRun_absorb hr, run, hc']
      exact ih c' _ sq hs' (by rw [hsq, hd', hdir]) hwf'
    | squeeze lanes n =>
      have hr' : ¬ (lanes < 1 ∨ lanes > 64 ∨ n % 243 ≠ 0) := hr
      rw [WF, if_neg hr'] at hwf
      obtain ⟨c', out, hc', hout, hd', hs'⟩ :=
        squeeze_sim c sp hs lanes n (by omega) (by omega) (by omega)
      rw [specRun_squeeze hr, run, hc', hout]
      simp only [squeeze_fst_if] at hs'
      refine congrArg _ (ih c' _ _ hs' ?_ hwf)
      rw [hd']
      by_cases hk : n / 243 = 0
      · simp [hk, hsq]
      · simp [hk]

/-- a well-formed history from a fresh sponge: the observations are those of the specification. -/
theorem run_init_eq (ops : List Op) (hwf : WF false ops) :
    run Curl.init ops = specRun (fun _ => Spec.CurlP.Sponge.init) ops :=
  run_eq_specRun ops Curl.init _ false sim_init (by simp [Curl.init]) hwf

theorem specRun_no_panic (ops : List Op) : ∀ sp, Ev.panic ∉ specRun sp ops := by
  induction ops with
  | nil => intro sp; simp [specRun]
  | cons op ops ih =>
    intro sp
    by_cases hr : Rejected op
    · obtain ⟨e, -, h2, -, -⟩ := run_rejected hr
      rw [h2]; simpa using ih sp
    cases op with
    | reset => exact ih _
    | absorb src n => rw [specRun_absorb hr]; exact ih _
    | squeeze lanes n => rw [specRun_squeeze hr]; simpa using ih _

theorem specRun_lane (j : Nat) (ops : List Op) :
    ∀ sp, laneOuts j (specRun sp ops) = laneRun (sp j) (ops.map (proj j)) := by
  induction ops with
  | nil => intro sp; rfl
  | cons op ops ih =>
    intro sp
    rw [List.map_cons]
    by_cases hr : Rejected op
    · obtain ⟨e, -, h2, -, h4⟩ := run_rejected hr
      rw [h2, h4]; exact ih sp
    cases op with
    | reset => exact ih _
    | absorb src n =>
      have hr' : ¬ (src.length < 1 ∨ src.length > 64 ∨ n % 243 ≠ 0) := hr
      rw [specRun_absorb hr, proj, if_neg hr']; exact ih _
    | squeeze lanes n =>
      have hr' : ¬ (lanes < 1 ∨ lanes > 64 ∨ n % 243 ≠ 0) := hr
      rw [specRun_squeeze hr, proj, if_neg hr']
      simp only [laneOuts, laneRun, List.length_map, List.length_range]
      by_cases hj : j < lanes
      · simp only [hj, if_true, decide_true]
        rw [ih]
        congr 1
        simp [List.getD_eq_getElem?_getD, List.getElem?_map, List.getElem?_range hj]
      · simp only [hj, if_false, decide_false, Bool.false_eq_true]
        rw [ih]

/-- changing the *other* lanes' inputs of an `Absorb` (same batch size, same trit count, same lane `j`)
does not change lane `j`'s view. -/
theorem proj_absorb_congr (j : Nat) (src src' : List (List Int)) (n : Nat)
    (hlen : src.length = src'.length) (hj : src.getD j [] = src'.getD j []) :
    proj j (.absorb src n) = proj j (.absorb src' n) := by
  simp only [proj, hlen, hj]

end Iota.Proofs.Curl
