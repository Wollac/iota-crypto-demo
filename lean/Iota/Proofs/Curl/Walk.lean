/-
The index walk of the inner loop of `transformGeneric`: one iteration of `loopBody`, the whole
`innerLoop`, and one round `roundGo` is the word-level closed form `roundW`; no access is out of range.
-/
import Iota.Proofs.CurlSpec

namespace Iota.Proofs.Curl
open Iota.Curl Iota.Spec.CurlP Iota.Spec.CurlW

/-! ### index arithmetic -/

theorem idx_succ (i : Nat) : idx (i + 1) = if idx i < 365 then idx i + 364 else idx i - 365 := by
  unfold idx; split <;> omega

theorem idx_zero : idx 0 = 0 := rfl
theorem idx_one : idx 1 = 364 := rfl

/-- positions alternate between the low half `[0,365)` and the high half `[365,729)`. -/
theorem idx_odd (i : Nat) (h : i % 2 = 1) (hi : i < 729) : idx i = 364 - i / 2 := by
  unfold idx
  rw [show 364 * i = 729 * (i / 2) + (364 - i / 2) by omega, Nat.mul_add_mod]
  exact Nat.mod_eq_of_lt (by omega)

theorem idx_even (i : Nat) (h : i % 2 = 0) (h0 : 0 < i) (hi : i < 729) : idx i = 729 - i / 2 := by
  unfold idx
  rw [show 364 * i = 729 * (i / 2 - 1) + (729 - i / 2) by omega, Nat.mul_add_mod]
  exact Nat.mod_eq_of_lt (by omega)

theorem idx_odd_low (i : Nat) (h : i % 2 = 1) (hi : i < 729) : idx i < 365 := by
  rw [idx_odd i h hi]; omega

theorem idx_even_high (i : Nat) (h : i % 2 = 0) (h0 : 0 < i) (hi : i < 729) : 365 ≤ idx i := by
  rw [idx_even i h h0 hi]; omega

/-! ### reads and writes -/

theorem rd_eq (v : Plane) {i : Nat} (h : i < 729) : rd v i = some (rdW v i) := by
  simp [rd, rdW, h]

theorem wr_eq (v : Plane) {i : Nat} (x : W) (h : i < 729) : wr v i x = some (wrW v i x) := by
  simp [wr, h, set_eq_wrW]

/-! ### the loop invariant -/

/-- state of the inner loop before iteration `k`: `t = 364 - 2k = idx (4k+1)`, `b = from[t]`, and the
first `4k + 1` entries of the to-buffers already hold the closed form. -/
structure Inv (lfrom hfrom : Plane) (k : Nat) (s : LoopSt) : Prop where
  t : s.t + 2 * k = 364
  bL : s.bL = rdW lfrom s.t
  bH : s.bH = rdW hfrom s.t
  lto : ∀ j, j < 4 * k + 1 → rdW s.lto j = rdW (roundW (lfrom, hfrom)).1 j
  hto : ∀ j, j < 4 * k + 1 → rdW s.hto j = rdW (roundW (lfrom, hfrom)).2 j

theorem loopBody_spec (lfrom hfrom : Plane) (k : Nat) (hk : k < 182) (s : LoopSt)
    (inv : Inv lfrom hfrom k s) :
    ∃ s', loopBody lfrom hfrom (4 * k + 1) s = some s' ∧ Inv lfrom hfrom (k + 1) s' := by
  obtain ⟨t, bL, bH, lto, hto⟩ := s
  obtain ⟨ht, hbL, hbH, hl, hh⟩ := inv
  simp only at ht hbL hbH hl hh
  subst hbL hbH
  obtain ⟨t2, t3, t4⟩ : t + 364 - 365 = t - 1 ∧ t - 1 + 364 = t + 363 ∧ t + 363 - 365 = t - 2 := by omega
  have r1 : t + 364 < 729 := by omega
  have r2 : t - 1 < 729 := by omega
  have r3 : t + 363 < 729 := by omega
  have r4 : t - 2 < 729 := by omega
  have n1 : ¬ t + 364 < 365 := by omega
  have n2 : ¬ t + 363 < 365 := by omega
  have w0 : 4 * k + 1 < 729 := by omega
  have w1 : 4 * k + 1 + 1 < 729 := by omega
  have w2 : 4 * k + 1 + 2 < 729 := by omega
  have w3 : 4 * k + 1 + 3 < 729 := by omega
  refine Exists.intro ?w (And.intro ?h1 ?h2)
  case h1 =>
    simp only [loopBody, Nat.add_zero, t2, t3, t4, rd_eq _ r1, rd_eq _ r2, rd_eq _ r3, rd_eq _ r4,
      wr_eq _ _ w0, wr_eq _ _ w1, wr_eq _ _ w2, wr_eq _ _ w3, n1, n2, if_false, Option.bind_eq_bind,
      Option.bind_some, Option.pure_def]
    rfl
  case h2 =>
    exact ⟨by simp only; omega, rfl, rfl,
      walk4 (s := sL lfrom hfrom) (fun _ => rdW_roundW_fst _ _) hk ht hl,
      walk4 (s := sH lfrom hfrom) (fun _ => rdW_roundW_snd _ _) hk ht hh⟩

theorem innerLoop_spec (lfrom hfrom : Plane) (n : Nat) :
    ∀ (k i : Nat) (s : LoopSt), i = 4 * k + 1 → k + n = 182 → Inv lfrom hfrom k s →
      ∃ s', innerLoop lfrom hfrom n i s = some s' ∧ Inv lfrom hfrom 182 s' := by
  induction n with
  | zero =>
    intro k i s hi hk inv
    obtain rfl : k = 182 := by omega
    exact ⟨s, rfl, inv⟩
  | succ n ih =>
    intro k i s hi hk inv
    subst hi
    obtain ⟨s1, h1, inv1⟩ := loopBody_spec lfrom hfrom k (by omega) s inv
    obtain ⟨s2, h2, inv2⟩ := ih (k + 1) (4 * k + 1 + 4) s1 (by omega) (by omega) inv1
    refine ⟨s2, ?_, inv2⟩
    rw [innerLoop, h1]
    simp only [Option.bind_eq_bind, Option.bind_some]
    exact h2

/-- one round of the Go loop is the closed form, whatever the to-buffers held; in particular none of
its reads or writes is out of range. -/
theorem roundGo_eq (lto hto lfrom hfrom : Plane) :
    roundGo lto hto lfrom hfrom = some (roundW (lfrom, hfrom)) := by
  have h0 : (0 : Nat) < 729 := by omega
  have h364 : (364 : Nat) < 729 := by omega
  obtain ⟨s', hs', inv⟩ := innerLoop_spec lfrom hfrom 182 0 1
    { t := 364, bL := rdW lfrom 364, bH := rdW hfrom 364,
      lto := wrW lto 0 (sBox (rdW lfrom 0) (rdW hfrom 0) (rdW lfrom 364) (rdW hfrom 364)).1,
      hto := wrW hto 0 (sBox (rdW lfrom 0) (rdW hfrom 0) (rdW lfrom 364) (rdW hfrom 364)).2 } rfl rfl
    ⟨rfl, rfl, rfl, walk0 (s := sL lfrom hfrom) (fun _ => rdW_roundW_fst _ _) lto,
      walk0 (s := sH lfrom hfrom) (fun _ => rdW_roundW_snd _ _) hto⟩
  rw [roundGo, rd_eq _ h0, rd_eq _ h0, rd_eq _ h364, rd_eq _ h364]
  simp only [Option.bind_eq_bind, Option.bind_some]
  rw [wr_eq _ _ h0, wr_eq _ _ h0]
  simp only [Option.bind_some]
  rw [hs']
  exact congrArg some (Prod.ext (plane_ext fun j hj => inv.lto j (by omega))
    (plane_ext fun j hj => inv.hto j (by omega)))

end Iota.Proofs.Curl
