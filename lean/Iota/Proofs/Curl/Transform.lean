/-
T1: `transformGeneric` (81 rounds of the Go loop with the buffer swap) is the closed form
`roundsW 81`, with round 80 left in the from-buffers; it never panics.
-/
import Iota.Proofs.Curl.Walk

namespace Iota.Proofs.Curl
open Iota.Curl Iota.Spec.CurlP Iota.Spec.CurlW

theorem roundsGo_one (b : Bufs) :
    roundsGo 1 false b = some { b with lto := (roundW (b.lfrom, b.hfrom)).1, hto := (roundW (b.lfrom, b.hfrom)).2 } := by
  simp only [roundsGo, roundGo_eq, Bool.false_eq_true, if_false, Option.bind_eq_bind, Option.bind_some]

/-- two rounds: the first fills the caller's to-buffers, the second the caller's from-buffers. -/
theorem roundsGo_two (n : Nat) (b : Bufs) :
    roundsGo (n + 2) false b = roundsGo n false
      { lto := (roundW (b.lfrom, b.hfrom)).1, hto := (roundW (b.lfrom, b.hfrom)).2,
        lfrom := (roundW (roundW (b.lfrom, b.hfrom))).1, hfrom := (roundW (roundW (b.lfrom, b.hfrom))).2 } := by
  simp only [roundsGo, roundGo_eq, Bool.false_eq_true, if_false, if_true, Option.bind_eq_bind,
    Option.bind_some]

/-- an odd number of rounds ends in the caller's to-buffers. -/
theorem roundsGo_odd (m : Nat) (b : Bufs) :
    roundsGo (2 * m + 1) false b = some
      { lto := (roundsW (2 * m + 1) (b.lfrom, b.hfrom)).1, hto := (roundsW (2 * m + 1) (b.lfrom, b.hfrom)).2,
        lfrom := (roundsW (2 * m) (b.lfrom, b.hfrom)).1, hfrom := (roundsW (2 * m) (b.lfrom, b.hfrom)).2 } := by
  induction m generalizing b with
  | zero => exact roundsGo_one b
  | succ m ih =>
    have e : ∀ n x, roundsW (n + 2) x = roundsW n (roundW (roundW x)) := fun _ _ => rfl
    rw [show 2 * (m + 1) + 1 = (2 * m + 1) + 2 by omega, show 2 * (m + 1) = 2 * m + 2 by omega,
      roundsGo_two, ih, e, e]

/-- **T1.** -/
theorem transformGeneric_eq (b : Bufs) :
    transformGeneric b = some
      { lto := (roundsW 81 (b.lfrom, b.hfrom)).1, hto := (roundsW 81 (b.lfrom, b.hfrom)).2,
        lfrom := (roundsW 80 (b.lfrom, b.hfrom)).1, hfrom := (roundsW 80 (b.lfrom, b.hfrom)).2 } :=
  roundsGo_odd 40 b

/-- `c.transform()` never panics and is 81 closed-form rounds of the state. -/
theorem Curl.transform_eq (c : Curl) :
    c.transform = some { c with l := (roundsW 81 (c.l, c.h)).1, h := (roundsW 81 (c.l, c.h)).2 } := by
  simp only [Curl.transform, transformGeneric_eq, Option.bind_eq_bind, Option.bind_some, Option.pure_def]

end Iota.Proofs.Curl
