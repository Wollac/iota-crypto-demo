/-
T3: the batched sponge (`Absorb`, `Squeeze`, `Reset`) simulates 64 independent single-lane Curl-P
sponges.
-/
import Iota.Proofs.Curl.Lanes

namespace Iota.Proofs.Curl
open Iota.Curl Iota.Spec.CurlP Iota.Spec.CurlW

/-- the batched state `c` represents the 64 sponges `sp 0 … sp 63`. -/
def Sim (c : Curl) (sp : Nat → Spec.CurlP.Sponge) : Prop :=
  ValidEnc c.l c.h ∧
    (∀ j, j < 64 → laneState c.l c.h j = (sp j).state ∧
      ((sp j).squeezing = true ↔ c.direction = .squeezing))

/-! ### helpers on lane states -/

theorem laneState_eq_ofFn (l h : Plane) (j : Nat) (g : Nat → Int)
    (hg : ∀ i, i < 729 → tritOf (lanePair l h j i) = g i) :
    laneState l h j = Array.ofFn (n := 729) fun i => g i.val :=
  congrArg (Array.ofFn (n := 729)) (funext fun i => hg i.val i.isLt)

theorem zeroState_eq : zeroState = Array.ofFn (n := 729) fun _ => (0 : Int) := by
  apply Array.ext
  · simp [zeroState]
  · intro i h1 h2; simp [zeroState]

theorem rdW_onesPlane {i : Nat} (h : i < 729) : rdW onesPlane i = allOnes := by
  rw [rdW_eq _ h]; simp [onesPlane]

theorem allOnes_getLsbD {j : Nat} (hj : j < 64) : allOnes.getLsbD j = true := by
  unfold allOnes; rw [BitVec.getLsbD_allOnes]; simp only [hj, decide_true]

theorem lanePair_ones {j i : Nat} (hj : j < 64) (hi : i < 729) :
    lanePair onesPlane onesPlane j i = (true, true) := by
  simp only [lanePair, rdW_onesPlane hi, allOnes_getLsbD hj]

/-- **T3, init.** -/
theorem sim_init : Sim Curl.init (fun _ => Spec.CurlP.Sponge.init) := by
  refine ⟨?_, ?_⟩
  · rw [validEnc_iff]
    intro i hi j hj
    show validPair (lanePair onesPlane onesPlane j i)
    rw [lanePair_ones hj hi]; exact Or.inl rfl
  · intro j hj
    refine ⟨?_, ?_⟩
    · show laneState onesPlane onesPlane j = zeroState
      rw [zeroState_eq]
      refine laneState_eq_ofFn _ _ _ (fun _ => 0) fun i hi => ?_
      rw [lanePair_ones hj hi]; rfl
    · simp [Spec.CurlP.Sponge.init, Curl.init]

/-! ### one absorbed block -/

theorem bool2int_getLsbD (b : Bool) {j : Nat} (hj : j < 64) : (bool2int b).getLsbD j = b := by
  cases b
  · simp [bool2int]
  · simp only [bool2int, if_true, allOnes_getLsbD hj]

theorem mask_getLsbD (k : Nat) {j : Nat} (hj : j < 64) :
    (~~~((1 : W) <<< k)).getLsbD j = !decide (j = k) := by
  rw [BitVec.getLsbD_not, BitVec.getLsbD_shiftLeft]
  simp only [hj, decide_true, Bool.true_and]
  by_cases h : j = k
  · subst h; simp
  · by_cases h2 : j < k
    · simp [h, h2]
    · have : j - k ≠ 0 := by omega
      simp [h, h2, this]

theorem rdW_ofFn (g : Fin 729 → W) {i : Nat} (h : i < 729) :
    rdW (Vector.ofFn g) i = g ⟨i, h⟩ := by
  rw [rdW_eq _ h]; simp

/-- what `c.in(src, k)` does to the bit pairs of lane `j`. -/
theorem inLane_lanePair (l h : Plane) (src : List Int) (k : Nat) {j i : Nat} (hj : j < 64)
    (hi : i < 729) :
    lanePair (inLane l h src k).1 (inLane l h src k).2 j i =
      if i < 243 ∧ j = k then
        ((lanePair l h j i).1 && decide (src.getD i 0 ≤ 0), (lanePair l h j i).2 && decide (src.getD i 0 ≥ 0))
      else lanePair l h j i := by
  unfold lanePair inLane
  simp only [rdW_ofFn _ hi, rdW_eq _ hi, Fin.getElem_fin]
  by_cases h243 : i < 243
  · simp only [h243, if_true, true_and, BitVec.getLsbD_and, BitVec.getLsbD_or, bool2int_getLsbD _ hj,
      mask_getLsbD k hj]
    by_cases hjk : j = k
    · simp [hjk]
    · simp [hjk]
  · simp only [h243, if_false, false_and]

theorem resetRate_lanePair (l h : Plane) {j i : Nat} (hj : j < 64) (hi : i < 729) :
    lanePair (resetRate l) (resetRate h) j i = if i < 243 then (true, true) else lanePair l h j i := by
  unfold lanePair resetRate
  simp only [rdW_ofFn _ hi, rdW_eq _ hi, Fin.getElem_fin]
  by_cases h243 : i < 243
  · simp only [h243, if_true, allOnes_getLsbD hj]
  · simp only [h243, if_false]

/-- the planes after `in` has been called for lanes `0 … n-1`. -/
def absorbedPlanes (src : List (List Int)) (off : Nat) (n : Nat) (lh : Plane × Plane) : Plane × Plane :=
  (List.range n).foldl
    (fun (acc : Plane × Plane) j => inLane acc.1 acc.2 ((src.getD j []).drop off) j) lh

theorem absorbedPlanes_lanePair (src : List (List Int)) (off : Nat) (n : Nat) (lh : Plane × Plane)
    {j i : Nat} (hj : j < 64) (hi : i < 729) :
    lanePair (absorbedPlanes src off n lh).1 (absorbedPlanes src off n lh).2 j i =
      if i < 243 ∧ j < n then
        ((lanePair lh.1 lh.2 j i).1 && decide (((src.getD j []).drop off).getD i 0 ≤ 0),
         (lanePair lh.1 lh.2 j i).2 && decide (((src.getD j []).drop off).getD i 0 ≥ 0))
      else lanePair lh.1 lh.2 j i := by
  induction n with
  | zero => simp [absorbedPlanes]
  | succ n ih =>
    have step : absorbedPlanes src off (n + 1) lh =
        inLane (absorbedPlanes src off n lh).1 (absorbedPlanes src off n lh).2
          ((src.getD n []).drop off) n := by
      simp only [absorbedPlanes, List.range_succ, List.foldl_append, List.foldl_cons, List.foldl_nil]
    rw [step, inLane_lanePair _ _ _ _ hj hi, ih]
    by_cases hjn : j = n
    · subst hjn; simp
    · have : j < n + 1 ↔ j < n := by omega
      simp [hjn, this]

theorem validPair_sign (x : Int) : validPair (decide (x ≤ 0), decide (x ≥ 0)) := by
  simp only [validPair, decide_eq_true_eq]; omega

/-- the bit pairs of lane `j` after the rate has been reset and all `src.length` lanes written. -/
theorem block_lanePair (src : List (List Int)) (off : Nat) (l h : Plane) {j i : Nat} (hj : j < 64)
    (hi : i < 729) :
    lanePair (absorbedPlanes src off src.length (resetRate l, resetRate h)).1
        (absorbedPlanes src off src.length (resetRate l, resetRate h)).2 j i =
      if i < 243 then
        (decide (((src.getD j []).drop off).getD i 0 ≤ 0), decide (((src.getD j []).drop off).getD i 0 ≥ 0))
      else lanePair l h j i := by
  rw [absorbedPlanes_lanePair _ _ _ _ hj hi, resetRate_lanePair _ _ hj hi]
  by_cases h243 : i < 243
  · by_cases hlt : j < src.length
    · simp [h243, hlt]
    · simp [h243, hlt]
  · simp [h243]

/-! ### absorb -/

theorem absorbBlock_squeezing (s : Spec.CurlP.Sponge) (block : List Int) :
    (s.absorbBlock block).squeezing = s.squeezing := by
  unfold Spec.CurlP.Sponge.absorbBlock; rfl

theorem absorbBlocks_succ (src : List (List Int)) (n off : Nat) (c : Curl) :
    absorbBlocks src (n + 1) off c =
      (Curl.transform { c with
          l := (absorbedPlanes src off src.length (resetRate c.l, resetRate c.h)).1,
          h := (absorbedPlanes src off src.length (resetRate c.l, resetRate c.h)).2 }).bind
        fun c' => absorbBlocks src n (off + 243) c' := rfl

theorem absorbBlocks_sim (src : List (List Int)) (n : Nat) :
    ∀ (off : Nat) (c : Curl) (sp : Nat → Spec.CurlP.Sponge), Sim c sp →
      ∃ c', absorbBlocks src n off c = some c' ∧ c'.direction = c.direction ∧
        Sim c' (fun j => (sp j).absorb ((src.getD j []).drop off) n) := by
  induction n with
  | zero => intro off c sp hs; exact ⟨c, rfl, rfl, hs⟩
  | succ n ih =>
    intro off c sp hs
    obtain ⟨hv, hl⟩ := hs
    -- the state after the block has been written
    have hblock := @block_lanePair src off c.l c.h
    generalize hlh : absorbedPlanes src off src.length (resetRate c.l, resetRate c.h) = lh at hblock
    have hvalid : ValidEnc lh.1 lh.2 := by
      rw [validEnc_iff]
      intro i hi j hj
      rw [hblock hj hi]
      split
      · exact validPair_sign _
      · exact hv i hi j hj
    have hstate : ∀ j, j < 64 → laneState lh.1 lh.2 j =
        Array.ofFn (n := 729) fun i =>
          if i.val < 243 then normTrit (((src.getD j []).drop off).getD i.val 0)
          else (sp j).state.getD i.val 0 := by
      intro j hj
      refine laneState_eq_ofFn lh.1 lh.2 j
        (fun i => if i < 243 then normTrit (((src.getD j []).drop off).getD i 0)
          else (sp j).state.getD i 0) ?_
      intro i hi
      rw [hblock hj hi]
      split
      · exact normTrit_sign _
      · rw [← (hl j hj).1, laneState_getD _ _ _ _ hi]; rfl
    obtain ⟨c1, hc1, hd1, hv1, hl1⟩ :=
      transform_lanes { c with l := lh.1, h := lh.2 } hvalid
    have hs1 : Sim c1 (fun j => (sp j).absorbBlock ((src.getD j []).drop off)) := by
      refine ⟨hv1, fun j hj => ⟨?_, ?_⟩⟩
      · rw [hl1 j hj]
        rw [absorbBlock_state, ← hstate j hj]
      · rw [hd1, absorbBlock_squeezing]; exact (hl j hj).2
    obtain ⟨c2, hc2, hd2, hs2⟩ := ih (off + 243) c1 _ hs1
    refine ⟨c2, ?_, ?_, ?_⟩
    · rw [absorbBlocks_succ, hlh, hc1]; exact hc2
    · rw [hd2, hd1]
    · simp only [absorb_succ, List.drop_drop]
      exact hs2

/-- the permutation never panics, so neither does a run of blocks. -/
theorem absorbBlocks_ne_none (src : List (List Int)) (k : Nat) :
    ∀ off c, absorbBlocks src k off c ≠ none := by
  induction k with
  | zero => intro off c; simp [absorbBlocks]
  | succ k ih => intro off c; rw [absorbBlocks_succ, Curl.transform_eq]; exact ih _ _

/-! ### the outcomes of `Absorb` -/

theorem absorb_err_batch (c : Curl) (src : List (List Int)) (n : Nat)
    (h : src.length < 1 ∨ src.length > 64) : c.absorb src n = .err .invalidBatchSize := by
  simp only [Curl.absorb, h, if_true]

theorem absorb_err_length (c : Curl) (src : List (List Int)) (n : Nat)
    (h1 : 1 ≤ src.length) (h64 : src.length ≤ 64) (hn : n % 243 ≠ 0) :
    c.absorb src n = .err .invalidTritsLength := by
  have h : ¬ (src.length < 1 ∨ src.length > 64) := by omega
  simp only [Curl.absorb, h, if_false, hn, ne_eq, not_false_eq_true, if_true]

/-- a call that passes the two checks panics on a direction violation or a too-short lane, and otherwise
absorbs its blocks. -/
theorem absorb_accepted (c : Curl) (src : List (List Int)) (n : Nat)
    (h1 : 1 ≤ src.length) (h64 : src.length ≤ 64) (hn : n % 243 = 0) :
    c.absorb src n =
      if c.direction ≠ .absorbing ∨ (n ≠ 0 ∧ ∃ lane ∈ src, lane.length < n) then .panic
      else match absorbBlocks src (n / 243) 0 c with
        | some c' => .ok c' ()
        | none => .panic := by
  have h : ¬ (src.length < 1 ∨ src.length > 64) := by omega
  simp only [Curl.absorb, h, if_false, hn, ne_eq, not_true_eq_false, List.any_eq_true, decide_eq_true_eq]
  split
  · next hd => rw [if_pos (Or.inl hd)]
  · next hd =>
    split
    · next hl => rw [if_pos (Or.inr hl)]
    · next hl => exact (if_neg fun h => h.elim hd hl).symm

/-- **T3, absorb.** -/
theorem absorb_sim (c : Curl) (sp : Nat → Spec.CurlP.Sponge) (hs : Sim c sp)
    (src : List (List Int)) (n : Nat) (hdir : c.direction = .absorbing)
    (hlen1 : 1 ≤ src.length) (hlen64 : src.length ≤ 64) (hn : n % 243 = 0)
    (hlanes : ∀ lane ∈ src, n ≤ lane.length) :
    ∃ c', c.absorb src n = .ok c' () ∧ c'.direction = .absorbing ∧
      Sim c' (fun j => (sp j).absorb (src.getD j []) (n / 243)) := by
  obtain ⟨c', hc', hd', hs'⟩ := absorbBlocks_sim src (n / 243) 0 c sp hs
  refine ⟨c', ?_, by rw [hd', hdir], by simpa using hs'⟩
  rw [absorb_accepted c src n hlen1 hlen64 hn, if_neg, hc']
  rintro (hd | ⟨-, lane, hm, hlt⟩)
  · exact hd hdir
  · exact Nat.lt_irrefl _ (Nat.lt_of_lt_of_le hlt (hlanes lane hm))

theorem absorb_panic_squeezing (c : Curl) (src : List (List Int)) (n : Nat)
    (h1 : 1 ≤ src.length) (h64 : src.length ≤ 64) (hn : n % 243 = 0)
    (hdir : c.direction = .squeezing) : c.absorb src n = .panic := by
  rw [absorb_accepted c src n h1 h64 hn, if_pos (Or.inl (by rw [hdir]; exact Direction.noConfusion))]

/-- `Absorb` panics only on a direction violation or a too-short lane (never inside the permutation). -/
theorem absorb_panic_iff (c : Curl) (src : List (List Int)) (n : Nat) :
    c.absorb src n = .panic ↔
      (1 ≤ src.length ∧ src.length ≤ 64 ∧ n % 243 = 0 ∧
        (c.direction ≠ .absorbing ∨ (n ≠ 0 ∧ ∃ lane ∈ src, lane.length < n))) := by
  by_cases hb : src.length < 1 ∨ src.length > 64
  · rw [absorb_err_batch c src n hb]
    exact ⟨fun h => (nomatch h), fun h => by omega⟩
  by_cases hn : n % 243 ≠ 0
  · rw [absorb_err_length c src n (by omega) (by omega) hn]
    exact ⟨fun h => (nomatch h), fun h => absurd h.2.2.1 hn⟩
  rw [absorb_accepted c src n (by omega) (by omega) (by omega)]
  split
  · next h => exact ⟨fun _ => ⟨by omega, by omega, by omega, h⟩, fun _ => rfl⟩
  · next h =>
    refine ⟨fun hp => ?_, fun hp => absurd hp.2.2.2 h⟩
    split at hp
    · exact (nomatch hp)
    · next hnone => exact absurd hnone (absorbBlocks_ne_none _ _ _ _)

/-! ### squeeze -/

theorem squeeze_succ_fst (s : Spec.CurlP.Sponge) (n : Nat) :
    (s.squeeze (n + 1)).1 = (s.squeezeBlock.1.squeeze n).1 := rfl

theorem squeezeBlocks_succ (lanes n : Nat) (c : Curl) (acc : List (List Int)) :
    squeezeBlocks lanes (n + 1) c acc =
      (if c.direction = .squeezing then Curl.transform c else some c).bind fun c1 =>
        squeezeBlocks lanes n { c1 with direction := .squeezing }
          ((List.range lanes).map fun j =>
            acc.getD j [] ++ outLane { c1 with direction := .squeezing } j) := by
  rw [squeezeBlocks]; split <;> rfl

/-- the squeezed output of a lane is the first 243 trits of its state. -/
theorem outLane_eq (c : Curl) (j : Nat) :
    outLane c j = (List.range 243).map fun i => (laneState c.l c.h j).getD i 0 :=
  List.map_congr_left fun i hi =>
    (laneState_getD c.l c.h j i (Nat.lt_trans (List.mem_range.mp hi) (by decide))).symm

theorem squeezeBlocks_sim (lanes : Nat) (hl64 : lanes ≤ 64) (n : Nat) :
    ∀ (c : Curl) (acc : List (List Int)) (sp : Nat → Spec.CurlP.Sponge), Sim c sp →
      acc.length = lanes →
      ∃ c', squeezeBlocks lanes n c acc =
          some (c', (List.range lanes).map fun j => acc.getD j [] ++ ((sp j).squeeze n).2) ∧
        (c'.direction = if n = 0 then c.direction else .squeezing) ∧
        Sim c' (fun j => ((sp j).squeeze n).1) := by
  induction n with
  | zero =>
    intro c acc sp hs hacc
    refine ⟨c, ?_, rfl, hs⟩
    rw [squeezeBlocks]
    congr 2
    apply List.ext_getElem?
    intro i
    by_cases hi : i < lanes
    · simp [List.getElem?_map, List.getElem?_range hi, Spec.CurlP.Sponge.squeeze,
        List.getD_eq_getElem?_getD, List.getElem?_eq_getElem (hacc ▸ hi)]
    · rw [List.getElem?_eq_none (by omega), List.getElem?_eq_none (by simp; omega)]
  | succ n ih =>
    intro c acc sp hs hacc
    obtain ⟨hv, hl⟩ := hs
    -- the optional transform
    obtain ⟨c1, hc1, hv1, hl1⟩ : ∃ c1, (if c.direction = .squeezing then Curl.transform c else some c) = some c1 ∧
        ValidEnc c1.l c1.h ∧ ∀ j, j < 64 → laneState c1.l c1.h j = (sp j).squeezeBlock.1.state := by
      by_cases hd : c.direction = .squeezing
      · obtain ⟨c1, hc1, -, hv1, hl1⟩ := transform_lanes c hv
        refine ⟨c1, by rw [if_pos hd]; exact hc1, hv1, fun j hj => ?_⟩
        rw [hl1 j hj, (hl j hj).1, squeezeBlock_state, if_pos ((hl j hj).2.mpr hd)]
      · refine ⟨c, by rw [if_neg hd], hv, fun j hj => ?_⟩
        rw [(hl j hj).1, squeezeBlock_state, if_neg fun h => hd ((hl j hj).2.mp h)]
    let c2 : Curl := { c1 with direction := .squeezing }
    have hs1 : Sim c2 (fun j => (sp j).squeezeBlock.1) := ⟨hv1, fun j hj => ⟨hl1 j hj, iff_of_true rfl rfl⟩⟩
    have hout : ∀ j, j < 64 → outLane c2 j = (sp j).squeezeBlock.2 := fun j hj => by
      rw [outLane_eq, show laneState c2.l c2.h j = _ from hl1 j hj]; rfl
    let acc' := (List.range lanes).map fun j => acc.getD j [] ++ outLane c2 j
    have hacc' : acc'.length = lanes := by simp [acc']
    obtain ⟨c3, hc3, hd3, hs3⟩ := ih c2 acc' _ hs1 hacc'
    refine ⟨c3, ?_, ?_, hs3⟩
    · rw [squeezeBlocks_succ, hc1]
      show squeezeBlocks lanes n c2 acc' = _
      rw [hc3]
      congr 2
      apply List.map_congr_left
      intro j hj
      have hj' : j < lanes := List.mem_range.mp hj
      have e1 : acc'.getD j [] = acc.getD j [] ++ outLane c2 j := by
        simp [acc', List.getD_eq_getElem?_getD, List.getElem?_map, List.getElem?_range hj']
      rw [e1, hout j (by omega), squeeze_succ_snd, List.append_assoc]
    · rw [hd3]; simp only [Nat.succ_ne_zero, if_false]
      split <;> rfl

theorem squeeze_zero_fst (s : Spec.CurlP.Sponge) : (s.squeeze 0).1 = s := rfl

theorem squeeze_fst_if (s : Spec.CurlP.Sponge) (k : Nat) :
    (if k = 0 then s else (s.squeeze k).1) = (s.squeeze k).1 := by
  split
  · next h => subst h; rfl
  · rfl

/-- **T3, squeeze.** -/
theorem squeeze_sim (c : Curl) (sp : Nat → Spec.CurlP.Sponge) (hs : Sim c sp)
    (lanes n : Nat) (h1 : 1 ≤ lanes) (h64 : lanes ≤ 64) (hn : n % 243 = 0) :
    ∃ c' out, c.squeeze lanes n = .ok c' out ∧
      out = (List.range lanes).map (fun j => ((sp j).squeeze (n / 243)).2) ∧
      (c'.direction = if n / 243 = 0 then c.direction else .squeezing) ∧
      Sim c' (fun j => if n / 243 = 0 then sp j else ((sp j).squeeze (n / 243)).1) := by
  obtain ⟨c', hc', hd', hs'⟩ :=
    squeezeBlocks_sim lanes h64 (n / 243) c (List.replicate lanes []) sp hs (by simp)
  have hnil : ∀ j, (List.replicate lanes ([] : List Int)).getD j [] = [] := fun j => by
    rw [List.getD_eq_getElem?_getD, List.getElem?_replicate]
    split <;> rfl
  simp only [hnil, List.nil_append] at hc'
  refine ⟨c', _, ?_, rfl, hd', ?_⟩
  · have h : ¬ (lanes < 1 ∨ lanes > 64) := by omega
    simp only [Curl.squeeze, h, if_false, hn, ne_eq, not_true_eq_false, hc']
  · simp only [squeeze_fst_if]; exact hs'

/-! ### returned errors of `Squeeze` -/

theorem squeeze_err_batch (c : Curl) (lanes n : Nat) (h : lanes < 1 ∨ lanes > 64) :
    c.squeeze lanes n = .err .invalidBatchSize := by
  simp only [Curl.squeeze, h, if_true]

theorem squeeze_err_length (c : Curl) (lanes n : Nat) (h1 : 1 ≤ lanes) (h64 : lanes ≤ 64)
    (hn : n % 243 ≠ 0) : c.squeeze lanes n = .err .invalidSqueezeLength := by
  have h : ¬ (lanes < 1 ∨ lanes > 64) := by omega
  simp only [Curl.squeeze, h, if_false, hn, ne_eq, not_false_eq_true, if_true]

theorem squeezeBlocks_ne_none (lanes k : Nat) : ∀ c acc, squeezeBlocks lanes k c acc ≠ none := by
  induction k with
  | zero => intro c acc; simp [squeezeBlocks]
  | succ k ih =>
    intro c acc
    rw [squeezeBlocks_succ]
    split
    · rw [Curl.transform_eq]; exact ih _ _
    · exact ih _ _

end Iota.Proofs.Curl
