/-
T2: lane by lane, the bit-sliced s-box is the Curl-P truth table.  First for arbitrary words (the
bit-pair function `fPair`), then for valid encodings against `Spec.CurlP`.
-/
import Iota.Proofs.Curl.Transform

namespace Iota.Proofs.Curl
open Iota.Curl Iota.Spec.CurlP Iota.Spec.CurlW

def laneTrit (l h : Plane) (j i : Nat) : Int :=
  (if (h.toArray.getD i 0).getLsbD j then 1 else 0) - (if (l.toArray.getD i 0).getLsbD j then 1 else 0)

def laneState (l h : Plane) (j : Nat) : Spec.CurlP.State :=
  Array.ofFn (n := 729) fun i => laneTrit l h j i.val

def ValidEnc (l h : Plane) : Prop :=
  ∀ i, i < 729 → ∀ j, j < 64 →
    (l.toArray.getD i 0).getLsbD j = true ∨ (h.toArray.getD i 0).getLsbD j = true

/-- the s-box on one lane's `(l, h)` bit pairs. -/
def fPair (a b : Bool × Bool) : Bool × Bool :=
  let tmp := a.1 && (a.2 ^^ b.1)
  (!tmp, (a.1 ^^ b.2) || tmp)

/-- the `(l, h)` bits of lane `j` at position `i`. -/
def lanePair (l h : Plane) (j i : Nat) : Bool × Bool :=
  ((rdW l i).getLsbD j, (rdW h i).getLsbD j)

/-- the trit a bit pair encodes (`(0,0)` reads as 0). -/
def tritOf (p : Bool × Bool) : Int := (if p.2 then 1 else 0) - (if p.1 then 1 else 0)

def validPair (p : Bool × Bool) : Prop := p.1 = true ∨ p.2 = true

instance (p : Bool × Bool) : Decidable (validPair p) := by unfold validPair; infer_instance

/-- one round on a lane of bit pairs. -/
def pairRound (s : Nat → Bool × Bool) : Nat → Bool × Bool :=
  fun i => fPair (s (idx i)) (s (idx (i + 1)))

def pairRounds : Nat → (Nat → Bool × Bool) → Nat → Bool × Bool
  | 0, s => s
  | n + 1, s => pairRounds n (pairRound s)

/-! ### arbitrary words -/

theorem sBox_lane (aL aH bL bH : W) (j : Nat) (hj : j < 64) :
    ((sBox aL aH bL bH).1.getLsbD j, (sBox aL aH bL bH).2.getLsbD j) =
      fPair (aL.getLsbD j, aH.getLsbD j) (bL.getLsbD j, bH.getLsbD j) := by
  simp [sBox, fPair, hj]

/-- **T2, all states.** Lane `j` of one word-level round is the `fPair` round of lane `j`'s bit
pairs, for arbitrary planes (no validity assumption). -/
theorem roundW_lanePair (l h : Plane) (j : Nat) (hj : j < 64) (i : Nat) (hi : i < 729) :
    lanePair (roundW (l, h)).1 (roundW (l, h)).2 j i = pairRound (lanePair l h j) i := by
  unfold lanePair pairRound
  rw [rdW_roundW_fst _ _ hi, rdW_roundW_snd _ _ hi]
  exact sBox_lane _ _ _ _ j hj

theorem lanePair_of_ge (l h : Plane) (j : Nat) {i : Nat} (hi : 729 ≤ i) :
    lanePair l h j i = (false, false) := by
  simp [lanePair, rdW_of_ge _ hi]

theorem pairRounds_succ' (n : Nat) (s : Nat → Bool × Bool) :
    pairRounds (n + 1) s = pairRound (pairRounds n s) := by
  induction n generalizing s with
  | zero => rfl
  | succ n ih => rw [pairRounds, ih, ← pairRounds]

theorem roundsW_lanePair (n : Nat) (l h : Plane) (j : Nat) (hj : j < 64) (i : Nat) (hi : i < 729) :
    lanePair (roundsW n (l, h)).1 (roundsW n (l, h)).2 j i = pairRounds n (lanePair l h j) i := by
  induction n generalizing i with
  | zero => rfl
  | succ n ih =>
    rw [roundsW_succ', pairRounds_succ']
    refine (roundW_lanePair _ _ j hj i hi).trans ?_
    unfold pairRound
    rw [ih _ (idx_lt _), ih _ (idx_lt _)]

/-! ### valid pairs: `fPair` is the truth table -/

theorem fPair_valid (a b : Bool × Bool) (ha : validPair a) (hb : validPair b) :
    validPair (fPair a b) ∧ tritOf (fPair a b) = f (tritOf a) (tritOf b) := by
  have key : ∀ a1 a2 b1 b2 : Bool, validPair (a1, a2) → validPair (b1, b2) →
      validPair (fPair (a1, a2) (b1, b2)) ∧
        tritOf (fPair (a1, a2) (b1, b2)) = f (tritOf (a1, a2)) (tritOf (b1, b2)) := by decide
  exact key a.1 a.2 b.1 b.2 ha hb

/-- `fPair` never produces the invalid pair `(0,0)`, whatever its arguments. -/
theorem fPair_valid_left (a b : Bool × Bool) : validPair (fPair a b) := by
  have key : ∀ a1 a2 b1 b2 : Bool, validPair (fPair (a1, a2) (b1, b2)) := by decide
  exact key a.1 a.2 b.1 b.2

/-! ### lanes as trit states -/

theorem laneTrit_eq (l h : Plane) (j i : Nat) : laneTrit l h j i = tritOf (lanePair l h j i) := rfl

theorem validEnc_iff (l h : Plane) :
    ValidEnc l h ↔ ∀ i, i < 729 → ∀ j, j < 64 → validPair (lanePair l h j i) := Iff.rfl

theorem laneState_getD (l h : Plane) (j i : Nat) (hi : i < 729) :
    (laneState l h j).getD i 0 = laneTrit l h j i := by
  simp [laneState, Array.getD, hi]

theorem laneState_size (l h : Plane) (j : Nat) : (laneState l h j).size = 729 := by
  simp [laneState]

/-- validity is preserved by a round (indeed produced by it). -/
theorem roundW_valid (l h : Plane) : ValidEnc (roundW (l, h)).1 (roundW (l, h)).2 := by
  rw [validEnc_iff]
  intro i hi j hj
  rw [roundW_lanePair l h j hj i hi]
  exact fPair_valid_left _ _

/-- **T2, one round.** -/
theorem roundW_lanes (l h : Plane) (hv : ValidEnc l h) (j : Nat) (hj : j < 64) :
    laneState (roundW (l, h)).1 (roundW (l, h)).2 j = Spec.CurlP.round (laneState l h j) := by
  unfold Spec.CurlP.round
  rw [laneState]
  refine congrArg (Array.ofFn (n := 729)) (funext fun i => ?_)
  rw [laneState_getD _ _ _ _ (idx_lt _), laneState_getD _ _ _ _ (idx_lt _), laneTrit_eq, laneTrit_eq,
    laneTrit_eq, roundW_lanePair l h j hj i.val i.isLt]
  exact (fPair_valid (lanePair l h j (idx i.val)) (lanePair l h j (idx (i.val + 1)))
    (hv _ (idx_lt _) j hj) (hv _ (idx_lt _) j hj)).2

theorem roundsW_valid (n : Nat) (l h : Plane) (hv : ValidEnc l h) :
    ValidEnc (roundsW n (l, h)).1 (roundsW n (l, h)).2 := by
  induction n generalizing l h with
  | zero => exact hv
  | succ n ih => rw [roundsW_succ]; exact ih _ _ (roundW_valid l h)

/-- **T2, `n` rounds.** -/
theorem roundsW_lanes (n : Nat) (l h : Plane) (hv : ValidEnc l h) (j : Nat) (hj : j < 64) :
    laneState (roundsW n (l, h)).1 (roundsW n (l, h)).2 j = Spec.CurlP.rounds n (laneState l h j) := by
  induction n generalizing l h with
  | zero => rfl
  | succ n ih =>
    rw [roundsW_succ, Spec.CurlP.rounds, ← roundW_lanes l h hv j hj]
    exact ih _ _ (roundW_valid l h)

/-- **T2, the permutation.** -/
theorem transform_lanes (c : Curl) (hv : ValidEnc c.l c.h) :
    ∃ c', c.transform = some c' ∧ c'.direction = c.direction ∧ ValidEnc c'.l c'.h ∧
      ∀ j, j < 64 → laneState c'.l c'.h j = Spec.CurlP.transform (laneState c.l c.h j) :=
  ⟨_, Curl.transform_eq c, rfl, roundsW_valid 81 c.l c.h hv,
    fun j hj => roundsW_lanes 81 c.l c.h hv j hj⟩

/-- the permutation on arbitrary planes, lane by lane (no validity assumption). -/
theorem transform_lanePair (c : Curl) :
    ∃ c', c.transform = some c' ∧ c'.direction = c.direction ∧
      ∀ j, j < 64 → ∀ i, i < 729 → lanePair c'.l c'.h j i = pairRounds 81 (lanePair c.l c.h j) i :=
  ⟨_, Curl.transform_eq c, rfl, fun j hj i hi => roundsW_lanePair 81 c.l c.h j hj i hi⟩

end Iota.Proofs.Curl
