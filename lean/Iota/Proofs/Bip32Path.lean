/-
C10: `parsePath` accepts exactly the strings of the grammar `Spec.Bip32Path.Grammar`, with the indices it names
(`parsePath_of_grammar`, `grammar_of_parsePath`), and the printer is its inverse (`printKey_eq`, `flatMap_printKey`).
Built from the decimal value / printer lemmas, split / join on `/`, and `parseKey` on one component.
-/
import Iota.Spec.Bip32Path

namespace Iota.Proofs.Bip32Path
open Iota.Bip32Path Iota.Spec.Bip32Path

/-! ### decimal value -/

theorem decValueAux_foldl (acc : Nat) (ds : Str) :
    decValueAux acc ds = ds.foldl (fun a d => a * 10 + digitVal d) acc := by
  induction ds generalizing acc with
  | nil => rfl
  | cons d ds ih => exact ih _

theorem decValueAux_append (acc : Nat) (xs : Str) (d : UInt8) :
    decValueAux acc (xs ++ [d]) = decValueAux acc xs * 10 + digitVal d := by
  rw [decValueAux_foldl, decValueAux_foldl, List.foldl_append]
  rfl

/-- `decLE` is a right fold, so on the reversed string it is the left fold of `decValue`. -/
theorem decValue_eq_decimal (ds : Str) : decValue ds = decimal ds := by
  have hLE : ∀ l : Str, decLE l = l.foldr (fun d r => r * 10 + digitVal d) 0 := by
    intro l
    induction l with
    | nil => rfl
    | cons d l ih => rw [decLE, ih, List.foldr_cons, Nat.add_comm, Nat.mul_comm]
  unfold decValue decimal
  rw [decValueAux_foldl, hLE, List.foldr_reverse]

theorem decValue_leading_zeros (k : Nat) (ds : Str) :
    decValue (List.replicate k 48 ++ ds) = decValue ds := by
  unfold decValue
  induction k with
  | zero => simp
  | succ k ih =>
    simp only [List.replicate_succ, List.cons_append, decValueAux]
    have : digitVal 48 = 0 := by unfold digitVal; decide
    rw [this]
    simpa using ih

/-! ### the decimal printer -/

theorem digit_spec (n : Nat) (h : n < 10) :
    isDigit (UInt8.ofNat (48 + n)) = true ∧ digitVal (UInt8.ofNat (48 + n)) = n := by
  unfold isDigit digitVal
  rw [UInt8.toNat_ofNat_of_lt' (show 48 + n < 256 by omega)]
  simp only [Bool.and_eq_true, decide_eq_true_eq]
  omega

theorem decDigitsAux_spec (fuel n : Nat) (h : n < 10 ^ fuel) (hf : 0 < fuel) :
    decDigitsAux fuel n ≠ [] ∧ (∀ d ∈ decDigitsAux fuel n, isDigit d = true) ∧
    decValueAux 0 (decDigitsAux fuel n) = n := by
  induction fuel generalizing n with
  | zero => omega
  | succ fuel ih =>
    unfold decDigitsAux
    split
    · rename_i h10
      obtain ⟨hd, hv⟩ := digit_spec n h10
      refine ⟨List.cons_ne_nil _ _, ?_, ?_⟩
      · intro d hmem
        rw [List.mem_singleton.mp hmem]; exact hd
      · rw [decValueAux, decValueAux, hv, Nat.zero_mul, Nat.zero_add]
    · rename_i h10
      obtain ⟨hd, hv⟩ := digit_spec (n % 10) (Nat.mod_lt _ (by decide))
      have hfuel : 0 < fuel := Nat.pos_of_ne_zero (by rintro rfl; omega)
      obtain ⟨_, hds, hvs⟩ := ih (n / 10) (by rw [Nat.pow_succ] at h; omega) hfuel
      refine ⟨List.append_ne_nil_of_right_ne_nil _ (List.cons_ne_nil _ _), ?_, ?_⟩
      · intro d hmem
        rcases List.mem_append.mp hmem with h1 | h1
        · exact hds d h1
        · rw [List.mem_singleton.mp h1]; exact hd
      · rw [decValueAux_append, hvs, hv]
        exact Nat.div_add_mod' n 10

theorem decDigits_spec (n : Nat) (h : n < 2 ^ 32) :
    decDigits n ≠ [] ∧ (∀ d ∈ decDigits n, isDigit d = true) ∧ decValue (decDigits n) = n := by
  have : n < 10 ^ 10 := by omega
  exact decDigitsAux_spec 10 n this (by omega)

/-! ### takeWhile / dropWhile on a component -/

theorem isDigit_slash : isDigit chSlash = false := by decide
theorem isDigit_H : isDigit chH = false := by decide
theorem isDigit_apos : isDigit chApos = false := by decide
theorem isDigit_m : isDigit chM = false := by decide

theorem takeWhile_digits_append (ds rest : Str) (hd : ∀ d ∈ ds, isDigit d = true)
    (hr : ∀ c, rest.head? = some c → isDigit c = false) :
    (ds ++ rest).takeWhile isDigit = ds ∧ (ds ++ rest).dropWhile isDigit = rest := by
  induction ds with
  | nil =>
    cases rest with
    | nil => simp
    | cons c cs =>
      have := hr c rfl
      simp [this]
  | cons d ds ih =>
    have h1 := hd d (by simp)
    have := ih (fun x hx => hd x (by simp [hx]))
    simp [h1, this.1, this.2]

/-! ### split / join -/

theorem split_ne_nil (s : Str) : split s ≠ [] := by simp [split]

theorem joinSlash_cons (x : Str) (xs : List Str) (h : xs ≠ []) :
    joinSlash (x :: xs) = x ++ chSlash :: joinSlash xs := by
  cases xs with
  | nil => exact absurd rfl h
  | cons y ys => rfl

theorem joinSlash_cons_cons (c : UInt8) (x : Str) (xs : List Str) :
    joinSlash ((c :: x) :: xs) = c :: joinSlash (x :: xs) := by
  cases xs with
  | nil => rfl
  | cons y ys => rfl

theorem joinSlash_split (s : Str) : joinSlash (split s) = s := by
  unfold split
  induction s with
  | nil => rfl
  | cons c cs ih =>
    simp only [splitAux]
    split
    · rename_i hc
      rw [joinSlash_cons _ _ (by simp), ih, hc]; rfl
    · rw [joinSlash_cons_cons, ih]

def NoSlash (x : Str) : Prop := ∀ c ∈ x, c ≠ chSlash

theorem splitAux_noSlash_append (x : Str) (hx : NoSlash x) (rest : Str) :
    splitAux (x ++ chSlash :: rest) = (x, (splitAux rest).1 :: (splitAux rest).2) := by
  induction x with
  | nil => simp [splitAux]
  | cons c cs ih =>
    have hc : c ≠ chSlash := hx c (by simp)
    have := ih (fun d hd => hx d (by simp [hd]))
    simp [splitAux, hc, this]

theorem splitAux_noSlash (x : Str) (hx : NoSlash x) : splitAux x = (x, []) := by
  induction x with
  | nil => simp [splitAux]
  | cons c cs ih =>
    have hc : c ≠ chSlash := hx c (by simp)
    have := ih (fun d hd => hx d (by simp [hd]))
    simp [splitAux, hc, this]

theorem split_joinSlash (xs : List Str) (hne : xs ≠ []) (hx : ∀ x ∈ xs, NoSlash x) :
    split (joinSlash xs) = xs := by
  induction xs with
  | nil => exact absurd rfl hne
  | cons x xs ih =>
    cases xs with
    | nil =>
      simp only [joinSlash, split]
      rw [splitAux_noSlash x (hx x (by simp))]
    | cons y ys =>
      simp only [joinSlash, split]
      rw [splitAux_noSlash_append x (hx x (by simp))]
      have := ih (by simp) (fun z hz => hx z (by simp [hz]))
      simp only [split] at this
      simp [this]

/-! ### components -/

theorem comp_noSlash (c : Comp) (h : c.WF) : NoSlash c.text := by
  intro x hx
  unfold Comp.text at hx
  rcases List.mem_append.mp hx with h1 | h1
  · intro hs
    have := h.2.1 x h1
    rw [hs, isDigit_slash] at this
    exact absurd this (by simp)
  · rcases h.2.2.2 with hm | hm | hm <;> rw [hm] at h1 <;> simp at h1
    · rw [h1]; decide
    · rw [h1]; decide

/-- `parseKey` on a run of digits followed by at most one marker. -/
theorem parseKey_marked (ds : Str) (mk : Option UInt8) (hne : ds ≠ []) (hd : ∀ d ∈ ds, isDigit d = true)
    (hm : mk = none ∨ mk = some chH ∨ mk = some chApos) :
    parseKey (ds ++ mk.toList) = (parseUint31 ds).map (· + if mk.isSome then hardened else 0) := by
  have hr : ∀ x, mk.toList.head? = some x → isDigit x = false := by
    intro x hx
    rcases hm with rfl | rfl | rfl
    · cases hx
    · cases hx; exact isDigit_H
    · cases hx; exact isDigit_apos
  obtain ⟨ht, hdw⟩ := takeWhile_digits_append ds mk.toList hd hr
  have hne' : ds.isEmpty = false := by
    cases ds with
    | nil => exact absurd rfl hne
    | cons _ _ => rfl
  unfold parseKey
  simp only [ht, hdw, hne']
  rcases hm with rfl | rfl | rfl <;> simp [chH, chApos]

theorem marker_cases {mk : Str} (hm : mk = [] ∨ mk = [chH] ∨ mk = [chApos]) :
    ∃ o : Option UInt8, (o = none ∨ o = some chH ∨ o = some chApos) ∧ mk = o.toList := by
  rcases hm with hm | hm | hm
  · exact ⟨none, Or.inl rfl, hm⟩
  · exact ⟨some chH, Or.inr (Or.inl rfl), hm⟩
  · exact ⟨some chApos, Or.inr (Or.inr rfl), hm⟩

theorem parseKey_text (c : Comp) (h : c.WF) : parseKey c.text = some c.index := by
  obtain ⟨hne, hd, hv, hm⟩ := h
  rw [← decValue_eq_decimal] at hv
  unfold Comp.text Comp.index
  rw [parseKey_marked c.digits c.marker hne hd hm, parseUint31, if_pos hv, ← decValue_eq_decimal]
  rfl

theorem parseKey_some (k : Str) (v : Nat) (h : parseKey k = some v) :
    ∃ c : Comp, c.WF ∧ k = c.text ∧ v = c.index := by
  have hk : k = k.takeWhile isDigit ++ k.dropWhile isDigit := (List.takeWhile_append_dropWhile).symm
  have hdig : ∀ d ∈ k.takeWhile isDigit, isDigit d = true :=
    fun d hd => List.all_eq_true.mp (@List.all_takeWhile _ isDigit k) d hd
  have hne : k.takeWhile isDigit ≠ [] := by
    intro h0
    unfold parseKey at h
    simp [h0] at h
  have hm : k.dropWhile isDigit = [] ∨ k.dropWhile isDigit = [chH] ∨ k.dropWhile isDigit = [chApos] := by
    unfold parseKey at h
    by_cases h1 : k.dropWhile isDigit = []
    · exact Or.inl h1
    · by_cases h2 : k.dropWhile isDigit = [chH] ∨ k.dropWhile isDigit = [chApos]
      · exact Or.inr h2
      · simp [h1, h2] at h
  obtain ⟨mk, hmk, hrest⟩ := marker_cases hm
  rw [hrest] at hk
  rw [hk, parseKey_marked _ mk hne hdig hmk, parseUint31] at h
  by_cases hlt : decValue (k.takeWhile isDigit) < 2 ^ 31
  · rw [if_pos hlt, decValue_eq_decimal] at h
    rw [decValue_eq_decimal] at hlt
    exact ⟨⟨k.takeWhile isDigit, mk⟩, ⟨hne, hdig, hlt, hmk⟩, hk, (Option.some.inj h).symm⟩
  · rw [if_neg hlt] at h
    cases h

theorem mapKeys_texts (cs : List Comp) (h : ∀ c ∈ cs, c.WF) :
    mapKeys (cs.map Comp.text) = some (cs.map Comp.index) := by
  induction cs with
  | nil => rfl
  | cons c cs ih =>
    simp only [List.map_cons, mapKeys, parseKey_text c (h c (by simp)),
      ih (fun x hx => h x (by simp [hx]))]

theorem mapKeys_some (ks : List Str) (p : List Nat) (h : mapKeys ks = some p) :
    ∃ cs : List Comp, (∀ c ∈ cs, c.WF) ∧ ks = cs.map Comp.text ∧ p = cs.map Comp.index := by
  induction ks generalizing p with
  | nil =>
    simp only [mapKeys, Option.some.injEq] at h
    exact ⟨[], by simp, rfl, h.symm⟩
  | cons k ks ih =>
    simp only [mapKeys] at h
    split at h
    · simp at h
    · rename_i v hv
      split at h
      · simp at h
      · rename_i vs hvs
        simp only [Option.some.injEq] at h
        obtain ⟨c, hc, hk, hvi⟩ := parseKey_some k v hv
        obtain ⟨cs, hcs, hks, hps⟩ := ih vs hvs
        refine ⟨c :: cs, ?_, ?_, ?_⟩
        · intro x hx
          rcases List.mem_cons.mp hx with rfl | hx
          · exact hc
          · exact hcs x hx
        · simp [hk, hks]
        · simp [← h, hvi, hps]

/-! ### the grammar theorem -/

theorem text_head_digit (c : Comp) (h : c.WF) : ∃ d rest, c.text = d :: rest ∧ isDigit d = true := by
  obtain ⟨hne, hd, _, _⟩ := h
  unfold Comp.text
  cases hc : c.digits with
  | nil => exact absurd hc hne
  | cons d ds => exact ⟨d, ds ++ c.marker.toList, rfl, hd d (by simp [hc])⟩

theorem joinSlash_head (cs : List Comp) (hne : cs ≠ []) (h : ∀ c ∈ cs, c.WF) :
    ∃ d rest, joinSlash (cs.map Comp.text) = d :: rest ∧ isDigit d = true := by
  cases cs with
  | nil => exact absurd rfl hne
  | cons c cs =>
    obtain ⟨d, rest, ht, hd⟩ := text_head_digit c (h c (by simp))
    cases cs with
    | nil => exact ⟨d, rest, by simp [joinSlash, ht], hd⟩
    | cons c' cs' =>
      exact ⟨d, rest ++ chSlash :: joinSlash ((c' :: cs').map Comp.text), by simp [joinSlash, ht], hd⟩

theorem parsePath_of_grammar (s : Str) (p : List Nat) (h : Grammar s p) : parsePath s = some p := by
  cases h with
  | empty => simp [parsePath]
  | m => simp [parsePath]
  | bare cs hne hwf =>
    obtain ⟨d, rest, hs, hd⟩ := joinSlash_head cs hne hwf
    have hdm : d ≠ chM := by intro h; rw [h, isDigit_m] at hd; simp at hd
    have hsplit := split_joinSlash (cs.map Comp.text) (by simpa using hne)
      (by intro x hx; obtain ⟨c, hc, rfl⟩ := List.mem_map.mp hx; exact comp_noSlash c (hwf c hc))
    unfold parsePath
    rw [hs] at hsplit ⊢
    have htrim : trimPrefixM (d :: rest) = d :: rest := by
      unfold trimPrefixM
      cases rest with
      | nil => simp
      | cons r rs => simp [hdm]
    simp only [htrim, hsplit]
    rw [if_neg (by simp [hdm])]
    exact mapKeys_texts cs hwf
  | rooted cs hne hwf =>
    obtain ⟨d, rest, hs, hd⟩ := joinSlash_head cs hne hwf
    have hsplit := split_joinSlash (cs.map Comp.text) (by simpa using hne)
      (by intro x hx; obtain ⟨c, hc, rfl⟩ := List.mem_map.mp hx; exact comp_noSlash c (hwf c hc))
    unfold parsePath
    have htrim : trimPrefixM (chM :: chSlash :: joinSlash (cs.map Comp.text)) = joinSlash (cs.map Comp.text) := by
      simp [trimPrefixM]
    rw [htrim, hsplit, if_neg (by simp)]
    exact mapKeys_texts cs hwf

theorem grammar_of_parsePath (s : Str) (p : List Nat) (h : parsePath s = some p) : Grammar s p := by
  unfold parsePath at h
  split at h
  · rename_i hs
    simp only [Option.some.injEq] at h
    rcases hs with hs | hs <;> rw [hs, ← h]
    · exact Grammar.empty
    · exact Grammar.m
  · obtain ⟨cs, hwf, hks, hps⟩ := mapKeys_some _ p h
    have hne : cs ≠ [] := by
      intro h0; rw [h0] at hks; exact split_ne_nil _ (by simpa using hks)
    have hjoin : trimPrefixM s = joinSlash (cs.map Comp.text) := by
      rw [← hks, joinSlash_split]
    rw [hps]
    unfold trimPrefixM at hjoin
    split at hjoin
    · rename_i htake
      have : s = chM :: chSlash :: s.drop 2 := by
        have := List.take_append_drop 2 s
        rw [htake] at this; exact this.symm
      rw [this, hjoin]
      exact Grammar.rooted cs hne hwf
    · rw [hjoin]
      exact Grammar.bare cs hne hwf

/-! ### round trip -/

theorem printKey_eq (idx : Nat) (h : idx < 2 ^ 32) :
    ∃ c : Comp, c.WF ∧ printKey idx = chSlash :: c.text ∧ c.index = idx := by
  have hlt : idx % hardened < 2 ^ 31 := Nat.mod_lt _ (Nat.pow_pos (by decide))
  obtain ⟨hne, hd, hv⟩ := decDigits_spec (idx % hardened) (Nat.lt_trans hlt (by decide))
  rw [decValue_eq_decimal] at hv
  have hwf (mk : Option UInt8) (hm : mk = none ∨ mk = some chH ∨ mk = some chApos) :
      Comp.WF ⟨decDigits (idx % hardened), mk⟩ := ⟨hne, hd, by rw [hv]; exact hlt, hm⟩
  unfold printKey
  by_cases hh : idx ≥ hardened
  · refine ⟨_, hwf (some chApos) (Or.inr (Or.inr rfl)), by rw [if_pos hh]; rfl, ?_⟩
    show decimal (decDigits (idx % hardened)) + hardened = idx
    rw [hv, Nat.mod_eq_sub_mod hh, Nat.mod_eq_of_lt (by unfold hardened at hh ⊢; omega)]
    exact Nat.sub_add_cancel hh
  · refine ⟨_, hwf none (Or.inl rfl), by rw [if_neg hh]; rfl, ?_⟩
    show decimal (decDigits (idx % hardened)) + 0 = idx
    rw [hv, Nat.mod_eq_of_lt (Nat.lt_of_not_ge hh)]
    rfl

theorem flatMap_printKey (p : List Nat) (h : ∀ i ∈ p, i < 2 ^ 32) (hne : p ≠ []) :
    ∃ cs : List Comp, cs ≠ [] ∧ (∀ c ∈ cs, c.WF) ∧
      p.flatMap printKey = chSlash :: joinSlash (cs.map Comp.text) ∧ cs.map Comp.index = p := by
  induction p with
  | nil => exact absurd rfl hne
  | cons i p ih =>
    obtain ⟨c, hc, hpk, hci⟩ := printKey_eq i (h i (by simp))
    cases p with
    | nil =>
      exact ⟨[c], by simp, by simpa using hc, by simp [hpk, joinSlash], by simp [hci]⟩
    | cons j q =>
      obtain ⟨cs, hcs, hwf, hfm, hidx⟩ := ih (fun x hx => h x (by simp [hx])) (by simp)
      refine ⟨c :: cs, by simp, ?_, ?_, ?_⟩
      · intro x hx
        rcases List.mem_cons.mp hx with rfl | hx
        · exact hc
        · exact hwf x hx
      · cases cs with
        | nil => exact absurd rfl hcs
        | cons c' cs' =>
          rw [List.flatMap_cons, hfm, hpk]
          simp [joinSlash]
      · simp [hci, hidx]

end Iota.Proofs.Bip32Path
