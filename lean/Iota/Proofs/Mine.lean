/-
Concurrency of `Mine` (pkg/pow/worker.go, pkg/pow/v2/worker.go): proofs about the transition system
`Iota.Model.Mine`, for every worker count `W ≥ 1` and every reachable state, i.e. every
interleaving of main, the watcher, the `W` workers and the environment's `cancel`, and every batch
outcome.
  Basic        classifiers of program counters, counting under `List.set`, `Reachable` induction
  Inv          M0 the inductive invariant `Inv W s`: `Inv_init`, `Inv_step`, `Inv_of_reachable`; two of its
               fields are results in themselves: M2 `ErrCancelled` only after cancellation (`ret_none`),
               M3 a returned nonce was found by a worker (`ret_founds`)
  Safety       M1 a finder never blocks; M4 no deadlock; M5 nothing left behind at return
  Termination  M6 `measure`, strict decrease once the flag is set or main is past `wg.Wait()`,
               M6c linear bound, M6d cancellation honoured, M6e run-length bound
  Examples     M7 explicit runs for `W = 2`
-/
import Iota.Proofs.Mine.Basic
import Iota.Proofs.Mine.Inv
import Iota.Proofs.Mine.Safety
import Iota.Proofs.Mine.Termination
import Iota.Proofs.Mine.Examples
