/-
The Jacobian-coordinate formulas of `Iota.Secp256k1` (add-2007-bl with its special cases, dbl-2009-l
for a = 0) written over an arbitrary commutative ring with decidable equality: the same `let`
structure as the `Int` model, without the reductions modulo `P`.
-/
import Mathlib.Algebra.Ring.Defs
import Mathlib.Tactic.Ring

namespace Iota.Proofs.Secp

variable {F : Type*} [CommRing F]

/-- `doubleJacobian` over a ring -/
def dblF (x y z : F) : F × F × F :=
  let a := x * x
  let b := y * y
  let c := b * b
  let d := ((x + b) * (x + b) - a - c) * 2
  let e := 3 * a
  let f := e * e
  let x3 := f - 2 * d
  let y3 := e * (d - x3) - 8 * c
  let z3 := 2 * (y * z)
  (x3, y3, z3)

/-- the general branch of `addF` -/
def addGen (x1 y1 z1 x2 y2 z2 : F) : F × F × F :=
  let z1z1 := z1 * z1
  let z2z2 := z2 * z2
  let u1 := x1 * z2z2
  let u2 := x2 * z1z1
  let h := u2 - u1
  let i := (h * 2) * (h * 2)
  let j := h * i
  let s1 := y1 * z2 * z2z2
  let s2 := y2 * z1 * z1z1
  let r1 := s2 - s1
  let r := r1 * 2
  let v := u1 * i
  let x3 := r * r - j - v - v
  let y3 := r * (v - x3) - (s1 * j) * 2
  let z3 := ((z1 + z2) * (z1 + z2) - z1z1 - z2z2) * h
  (x3, y3, z3)

/-- `addJacobian` over a ring: either input at infinity, equal points, the general case -/
def addF [DecidableEq F] (x1 y1 z1 x2 y2 z2 : F) : F × F × F :=
  if z1 = 0 then (x2, y2, z2)
  else if z2 = 0 then (x1, y1, z1)
  else if x2 * (z1 * z1) - x1 * (z2 * z2) = 0 ∧ y2 * z1 * (z1 * z1) - y1 * z2 * (z2 * z2) = 0 then dblF x1 y1 z1
  else addGen x1 y1 z1 x2 y2 z2

section
variable [DecidableEq F]

theorem addF_zero_left (x1 y1 x2 y2 z2 : F) : addF x1 y1 0 x2 y2 z2 = (x2, y2, z2) := by
  simp [addF]

theorem addF_zero_right (x1 y1 z1 x2 y2 : F) (hz1 : z1 ≠ 0) :
    addF x1 y1 z1 x2 y2 0 = (x1, y1, z1) := by
  simp [addF, hz1]

theorem addF_double {x1 y1 z1 x2 y2 z2 : F} (hz1 : z1 ≠ 0) (hz2 : z2 ≠ 0)
    (hh : x2 * (z1 * z1) - x1 * (z2 * z2) = 0)
    (hr : y2 * z1 * (z1 * z1) - y1 * z2 * (z2 * z2) = 0) :
    addF x1 y1 z1 x2 y2 z2 = dblF x1 y1 z1 := by
  rw [addF, if_neg hz1, if_neg hz2, if_pos ⟨hh, hr⟩]

theorem addF_general {x1 y1 z1 x2 y2 z2 : F} (hz1 : z1 ≠ 0) (hz2 : z2 ≠ 0)
    (hc : ¬(x2 * (z1 * z1) - x1 * (z2 * z2) = 0 ∧ y2 * z1 * (z1 * z1) - y1 * z2 * (z2 * z2) = 0)) :
    addF x1 y1 z1 x2 y2 z2 = addGen x1 y1 z1 x2 y2 z2 := by
  rw [addF, if_neg hz1, if_neg hz2, if_neg hc]

end

end Iota.Proofs.Secp
