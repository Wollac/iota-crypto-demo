/-
S3: the exported API (`add`, `double`, `scalarMult`, `scalarBaseMult`, `isOnCurve`) against Mathlib's
group `E(F)`, `E : y² = x³ + 7`, for every field `F` of characteristic `P` (instantiated with
`ZMod P` in `Iota.Proofs.Secp`).  Inputs: every representable pair, i.e. `(0,0)` (the identity) or an
on-curve pair with coordinates in `[0, P)`.
-/
import Iota.Proofs.Secp.Cast
import Iota.Proofs.Secp.Jacobian

namespace Iota.Proofs.Secp
open Iota.Secp256k1 WeierstrassCurve.Affine

/-! ### Scalars -/

/-- the value of a bit string, most significant bit first, continuing from `n` -/
def bitsVal (n : Nat) (bits : List Bool) : Nat :=
  bits.foldl (fun n b => if b then 2 * n + 1 else 2 * n) n

/-- the value of a big-endian byte string, continuing from `n` -/
def beNatFrom (n : Nat) (k : List UInt8) : Nat := k.foldl (fun n b => n * 256 + b.toNat) n

/-- the natural number denoted by a big-endian byte string (any length, leading zeros allowed) -/
def beNat (k : List UInt8) : Nat := beNatFrom 0 k

theorem beNat_nil : beNat [] = 0 := rfl
theorem beNat_append_singleton (k : List UInt8) (b : UInt8) :
    beNat (k ++ [b]) = beNat k * 256 + b.toNat := by
  simp [beNat, beNatFrom, List.foldl_append]

/-- the bits read so far count as a prefix: `bitsVal n l` is `n` shifted left by `l.length`, plus the value of `l`. -/
theorem bitsVal_acc (l : List Bool) : ∀ n, bitsVal n l = n * 2 ^ l.length + bitsVal 0 l := by
  induction l with
  | nil => intro n; simp [bitsVal]
  | cons b l ih =>
    intro n
    simp only [bitsVal, List.foldl_cons] at ih ⊢
    rw [ih, ih (if b = true then 2 * 0 + 1 else 2 * 0), List.length_cons, Nat.pow_succ]
    cases b
    · simp only [Bool.false_eq_true, if_false]; ring
    · simp only [if_true]; ring

/-- the eight bits of a byte, most significant first, have the byte as value: 256 cases, by evaluation. -/
private theorem bits8_byte : ∀ m, m < 256 →
    bitsVal 0 ((List.range 8).map fun i => decide ((m >>> (7 - i)) % 2 = 1)) = m := by decide +kernel

theorem bitsVal_bitsOfBytes (k : List UInt8) : ∀ n, bitsVal n (bitsOfBytes k) = beNatFrom n k := by
  induction k with
  | nil => intro n; rfl
  | cons b k ih =>
    intro n
    have : bitsOfBytes (b :: k)
        = ((List.range 8).map fun i => decide ((b.toNat >>> (7 - i)) % 2 = 1)) ++ bitsOfBytes k := rfl
    rw [this, bitsVal, List.foldl_append, ← bitsVal, ← bitsVal, ih, bitsVal_acc,
      bits8_byte _ (UInt8.toNat_lt b), List.length_map, List.length_range]
    rfl

/-! ### Points -/

section
variable {F : Type*} [Field F] [CharP F P.toNat]

/-- secp256k1 over `F` -/
abbrev E (F : Type*) [Field F] : WeierstrassCurve.Affine F := curve (7 : F)

omit [CharP F P.toNat] in
theorem E_equation_iff (x y : F) : (E F).Equation x y ↔ y ^ 2 = x ^ 3 + 7 := curve_equation_iff 7 x y

theorem E_nonsingular {x y : F} (h : (E F).Equation x y) : (E F).Nonsingular x y :=
  curve_nonsingular 7 two_ne_zero' three_ne_zero' seven_ne_zero' h

/-- **S3** `isOnCurve` decides the Weierstrass equation of `E` over `F`, for all integers. -/
theorem isOnCurve_iff_equation (x y : Int) :
    isOnCurve x y = true ↔ (E F).Equation (x : F) (y : F) := by
  rw [E_equation_iff, isOnCurve_iff (F := F)]

/-- `(x, y)` is an affine pair of the model representing the point `Q`: either `(0,0)` and `Q = 0`, or
reduced coordinates of the affine point `Q`. -/
def AffRep (x y : Int) (Q : (E F).Point) : Prop :=
  (x = 0 ∧ y = 0 ∧ Q = 0) ∨
  (Red x ∧ Red y ∧ ∃ h : (E F).Nonsingular (x : F) (y : F), Q = Point.some _ _ h)

/-- the inputs of the API: `(0,0)`, or on the curve with both coordinates in `[0, P)` -/
def Representable (x y : Int) : Prop :=
  (x = 0 ∧ y = 0) ∨ (Red x ∧ Red y ∧ isOnCurve x y = true)

open Classical in
/-- **S3** the point denoted by a pair of the model; `none` for pairs that are not representable -/
noncomputable def toPoint? (F : Type*) [Field F] [CharP F P.toNat] (xy : Int × Int) :
    Option (E F).Point :=
  if xy.1 = 0 ∧ xy.2 = 0 then some 0
  else if h : Red xy.1 ∧ Red xy.2 ∧ (E F).Equation (xy.1 : F) (xy.2 : F) then
    some (Point.some _ _ (E_nonsingular h.2.2))
  else none

theorem not_equation_zero : ¬ (E F).Equation ((0 : Int) : F) ((0 : Int) : F) := by
  rw [E_equation_iff]
  simp only [Int.cast_zero]
  intro h
  exact seven_ne_zero' (F := F) (by linear_combination -h)

theorem toPoint?_eq_some_iff (x y : Int) (Q : (E F).Point) :
    toPoint? F (x, y) = some Q ↔ AffRep x y Q := by
  unfold toPoint? AffRep
  by_cases h0 : x = 0 ∧ y = 0
  · obtain ⟨rfl, rfl⟩ := h0
    simp only [and_self, if_true, Option.some.injEq, true_and]
    constructor
    · intro h; exact Or.inl h.symm
    · rintro (h | ⟨_, _, h, _⟩)
      · exact h.symm
      · exact absurd h.1 not_equation_zero
  · rw [if_neg h0]
    constructor
    · intro h
      split at h
      · rename_i hc
        right
        exact ⟨hc.1, hc.2.1, E_nonsingular hc.2.2, (Option.some.inj h).symm⟩
      · cases h
    · rintro (⟨hx, hy, _⟩ | ⟨rx, ry, h, rfl⟩)
      · exact absurd ⟨hx, hy⟩ h0
      · rw [dif_pos ⟨rx, ry, h.1⟩]

theorem representable_iff (x y : Int) : Representable x y ↔ ∃ Q, toPoint? F (x, y) = some Q := by
  simp only [toPoint?_eq_some_iff]
  unfold Representable AffRep
  constructor
  · rintro (⟨rfl, rfl⟩ | ⟨rx, ry, h⟩)
    · exact ⟨0, Or.inl ⟨rfl, rfl, rfl⟩⟩
    · exact ⟨_, Or.inr ⟨rx, ry, E_nonsingular ((isOnCurve_iff_equation x y).1 h), rfl⟩⟩
  · rintro ⟨Q, (⟨rfl, rfl, _⟩ | ⟨rx, ry, h, _⟩)⟩
    · exact Or.inl ⟨rfl, rfl⟩
    · exact Or.inr ⟨rx, ry, (isOnCurve_iff_equation x y).2 h.1⟩

omit [CharP F P.toNat] in
/-- coordinates of representable pairs are in `[0, P)` -/
theorem AffRep.red {x y : Int} {Q : (E F).Point} (h : AffRep x y Q) : Red x ∧ Red y := by
  rcases h with ⟨rfl, rfl, _⟩ | ⟨rx, ry, _⟩
  · exact ⟨red_zero, red_zero⟩
  · exact ⟨rx, ry⟩

omit [CharP F P.toNat] in
/-- the identity is represented by `(0,0)` only -/
theorem AffRep.zero_iff {x y : Int} : AffRep x y (0 : (E F).Point) ↔ x = 0 ∧ y = 0 := by
  constructor
  · rintro (⟨hx, hy, _⟩ | ⟨_, _, h, he⟩)
    · exact ⟨hx, hy⟩
    · exact absurd he.symm (Point.some_ne_zero h)
  · rintro ⟨rfl, rfl⟩; exact Or.inl ⟨rfl, rfl, rfl⟩

/-- a point has at most one representing pair -/
theorem AffRep.inj {x y x' y' : Int} {Q : (E F).Point} (h : AffRep x y Q) (h' : AffRep x' y' Q) :
    x = x' ∧ y = y' := by
  rcases h with ⟨rfl, rfl, rfl⟩ | ⟨rx, ry, hn, rfl⟩
  · exact (AffRep.zero_iff.1 h').imp Eq.symm Eq.symm
  · rcases h' with ⟨_, _, he⟩ | ⟨rx', ry', hn', he⟩
    · exact absurd he (Point.some_ne_zero hn)
    · rw [Point.some.injEq] at he
      exact ⟨(red_cast_inj rx rx').1 he.1, (red_cast_inj ry ry').1 he.2⟩

/-- a pair represents at most one point -/
theorem AffRep.unique {x y : Int} {Q Q' : (E F).Point} (h : AffRep x y Q) (h' : AffRep x y Q') :
    Q = Q' := by
  have h1 := (toPoint?_eq_some_iff x y Q).2 h
  have h2 := (toPoint?_eq_some_iff x y Q').2 h'
  rw [h1] at h2
  exact Option.some.inj h2

/-! ### Affine ↔ Jacobian -/

theorem zForAffine_of_ne {x y : Int} (h : ¬(x = 0 ∧ y = 0)) : zForAffine x y = 1 :=
  if_pos (not_and_or.1 h)

/-- an API input, lifted with `zForAffine`, is a Jacobian representative of its point -/
theorem rep_of_affRep {x y : Int} {Q : (E F).Point} (h : AffRep x y Q) :
    Rep (E F) (x : F) (y : F) ((zForAffine x y : Int) : F) Q := by
  rcases h with ⟨rfl, rfl, rfl⟩ | ⟨_, _, hn, rfl⟩
  · have : zForAffine 0 0 = 0 := by decide
    rw [this, Int.cast_zero]
    exact rep_zero _ _ _
  · have hne : ¬(x = 0 ∧ y = 0) := by
      rintro ⟨rfl, rfl⟩
      exact not_equation_zero hn.1
    rw [zForAffine_of_ne hne, Int.cast_one]
    exact rep_affine hn

/-- `affineFromJacobian` of a Jacobian representative with reduced `z` never fails and returns the
representing pair of the point. -/
theorem affine_of_rep {X Y Z : Int} (hZ : Red Z) {Q : (E F).Point}
    (h : Rep (E F) (X : F) (Y : F) (Z : F) Q) :
    ∃ x' y', affineFromJacobian X Y Z = some (x', y') ∧ AffRep x' y' Q := by
  obtain ⟨s0, s1⟩ := affineFromJacobian_spec (F := F) X Y hZ
  rcases h with ⟨hz, rfl⟩ | ⟨hz, x, y, hns, hX, hY, rfl⟩
  · exact ⟨0, 0, s0 ((red_cast_eq_zero hZ).1 hz), Or.inl ⟨rfl, rfl, rfl⟩⟩
  · have hz' : Z ≠ 0 := fun h => hz (by rw [h, Int.cast_zero])
    obtain ⟨x', y', he, rx, ry, ex, ey⟩ := s1 hz'
    have e1 : (x' : F) = x := mul_right_cancel₀ (pow_ne_zero 2 hz) (ex.trans hX)
    have e2 : (y' : F) = y := mul_right_cancel₀ (pow_ne_zero 3 hz) (ey.trans hY)
    subst e1 e2
    exact ⟨x', y', he, Or.inr ⟨rx, ry, hns, rfl⟩⟩

variable [DecidableEq F]

/-! ### The operations: lift with `zForAffine`, compute on Jacobian representatives, come back with `affineFromJacobian` -/

/-- **S3, `add`**: for all representable inputs `add` never panics, its result is representable
(coordinates in `[0,P)`, on the curve or `(0,0)`), and denotes the group sum. -/
theorem add_correct {x1 y1 x2 y2 : Int} {Q1 Q2 : (E F).Point}
    (h1 : toPoint? F (x1, y1) = some Q1) (h2 : toPoint? F (x2, y2) = some Q2) :
    ∃ x3 y3, add x1 y1 x2 y2 = some (x3, y3) ∧ toPoint? F (x3, y3) = some (Q1 + Q2) := by
  simp only [toPoint?_eq_some_iff] at *
  unfold add
  have hr := rep_add two_ne_zero' (rep_of_affRep h1) (rep_of_affRep h2)
  rw [← cast_addJacobian (red_zForAffine _ _) (red_zForAffine _ _)] at hr
  exact affine_of_rep (red_addJacobian_z (red_zForAffine _ _) (red_zForAffine _ _)) hr

/-- **S3, `double`** -/
theorem double_correct {x y : Int} {Q : (E F).Point} (h : toPoint? F (x, y) = some Q) :
    ∃ x3 y3, double x y = some (x3, y3) ∧ toPoint? F (x3, y3) = some (Q + Q) := by
  simp only [toPoint?_eq_some_iff] at *
  unfold double
  have hr := rep_dbl two_ne_zero' (rep_of_affRep h)
  rw [← cast_doubleJacobian] at hr
  exact affine_of_rep (red_doubleJacobian_z _ _ _) hr

/-- the loop invariant of `ScalarMult`: the accumulator is a representative of `n • B` -/
theorem scalarLoop_rep {bx by_ bz : Int} {B : (E F).Point} (hbz : Red bz)
    (hB : Rep (E F) (bx : F) (by_ : F) (bz : F) B) :
    ∀ (bits : List Bool) (acc : Int × Int × Int) (n : Nat),
      Red acc.2.2 → Rep3 (E F) (cast3 acc) (n • B) →
      Red (scalarLoop bx by_ bz bits acc).2.2 ∧
        Rep3 (E F) (cast3 (scalarLoop bx by_ bz bits acc)) (bitsVal n bits • B) := by
  intro bits
  induction bits with
  | nil => intro acc n hr hrep; exact ⟨hr, hrep⟩
  | cons bit bits ih =>
    rintro ⟨x, y, z⟩ n hr hrep
    have hd : Rep3 (E F) (cast3 (doubleJacobian x y z)) ((2 * n) • B) := by
      rw [cast_doubleJacobian, two_mul, add_nsmul]
      exact rep_dbl two_ne_zero' hrep
    have hdr : Red (doubleJacobian x y z).2.2 := red_doubleJacobian_z _ _ _
    -- `scalarLoop` and `bitsVal` both step by evaluation on a literal bit
    cases bit with
    | false => exact ih (doubleJacobian x y z) (2 * n) hdr hd
    | true =>
      have ha : Rep3 (E F) (cast3 (addJacobian bx by_ bz (doubleJacobian x y z).1
          (doubleJacobian x y z).2.1 (doubleJacobian x y z).2.2)) ((2 * n + 1) • B) := by
        rw [cast_addJacobian hbz hdr, succ_nsmul, add_comm]
        exact rep_add two_ne_zero' hB hd
      exact ih _ (2 * n + 1) (red_addJacobian_z hbz hdr) ha

/-- **S3, `scalarMult`**: for every byte string `k` (any length, leading zeros, any value) and every
representable base point including `(0,0)`. -/
theorem scalarMult_correct {x y : Int} {Q : (E F).Point} (h : toPoint? F (x, y) = some Q)
    (k : List UInt8) :
    ∃ x' y', scalarMult x y k = some (x', y') ∧ toPoint? F (x', y') = some (beNat k • Q) := by
  simp only [toPoint?_eq_some_iff] at *
  unfold scalarMult
  have h0 : Rep3 (E F) (cast3 ((0, 0, 0) : Int × Int × Int)) ((0 : Nat) • Q) := by
    rw [zero_nsmul]
    exact Or.inl ⟨Int.cast_zero, rfl⟩
  obtain ⟨hr, hrep⟩ := scalarLoop_rep (red_zForAffine x y) (rep_of_affRep h) (bitsOfBytes k)
    (0, 0, 0) 0 red_zero h0
  rw [bitsVal_bitsOfBytes] at hrep
  exact affine_of_rep hr hrep

theorem G_onCurve : isOnCurve Gx Gy = true := by decide

/-- the base point -/
noncomputable def G (F : Type*) [Field F] [CharP F P.toNat] : (E F).Point :=
  Point.some (Gx : F) (Gy : F) (E_nonsingular ((isOnCurve_iff_equation Gx Gy).1 G_onCurve))

omit [DecidableEq F] in
theorem toPoint?_G : toPoint? F (Gx, Gy) = some (G F) := by
  rw [toPoint?_eq_some_iff]
  exact Or.inr ⟨⟨by decide, by decide⟩, ⟨by decide, by decide⟩, _, rfl⟩

/-- **S3, `scalarBaseMult`** -/
theorem scalarBaseMult_correct (k : List UInt8) :
    ∃ x' y', scalarBaseMult k = some (x', y') ∧ toPoint? F (x', y') = some (beNat k • G F) :=
  scalarMult_correct toPoint?_G k

end

end Iota.Proofs.Secp
