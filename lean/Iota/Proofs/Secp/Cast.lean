/-
S1: the ring-homomorphism layer.  `F` is any field of characteristic `P` (in the end `ZMod P`): the
`Int` computations of the model commute with the cast `Int → F`; every `% P` and conditional `+ P`
disappears, and the equality tests on reduced intermediates are equality tests in `F`.
-/
import Iota.Model.Secp256k1
import Iota.Proofs.Secp.ModInv
import Iota.Proofs.Secp.Formulas
import Mathlib.Algebra.CharP.Defs
import Mathlib.Algebra.Field.Basic
import Mathlib.Tactic.Ring
import Mathlib.Tactic.LinearCombination

namespace Iota.Proofs.Secp
open Iota.Secp256k1

/-- reduced residue: an integer in `[0, P)` -/
def Red (z : Int) : Prop := 0 ≤ z ∧ z < P

theorem P_pos : 0 < P := by decide
theorem P_lt : P < 2 ^ 511 := by
  have h1 : P < 2 ^ 256 := by decide
  have h2 : (2 : Int) ^ 256 ≤ 2 ^ 511 := pow_le_pow_right₀ (by decide) (by decide)
  omega
theorem P_toNat : (P.toNat : Int) = P := Int.toNat_of_nonneg (by decide)

theorem red_zero : Red 0 := ⟨le_refl _, P_pos⟩
theorem red_one : Red 1 := ⟨by decide, by decide⟩
theorem red_emod (a : Int) : Red (a % P) :=
  ⟨Int.emod_nonneg _ (ne_of_gt P_pos), Int.emod_lt_of_pos _ P_pos⟩

theorem red_sub {a b : Int} (ha : Red a) (hb : Red b) : Red (if a - b < 0 then a - b + P else a - b) := by
  unfold Red at *; split <;> omega

theorem red_zForAffine (x y : Int) : Red (zForAffine x y) := by
  unfold zForAffine; split
  · exact red_one
  · exact red_zero

section
variable {F : Type*} [Field F] [CharP F P.toNat]

theorem cast_eq_zero_iff (a : Int) : (a : F) = 0 ↔ P ∣ a := by
  rw [CharP.intCast_eq_zero_iff F P.toNat, P_toNat]

theorem cast_P : ((P : Int) : F) = 0 := (cast_eq_zero_iff P).2 (dvd_refl _)

theorem cast_emod (a : Int) : ((a % P : Int) : F) = a := by
  rw [Int.emod_def, Int.cast_sub, Int.cast_mul, cast_P, zero_mul, sub_zero]

theorem cast_condAdd (a : Int) : ((if a < 0 then a + P else a : Int) : F) = a := by
  split
  · rw [Int.cast_add, cast_P, add_zero]
  · rfl

theorem cast_eq_iff (a b : Int) : (a : F) = b ↔ a % P = b % P := by
  rw [← sub_eq_zero, ← Int.cast_sub, cast_eq_zero_iff, Int.emod_eq_emod_iff_emod_sub_eq_zero,
    Int.dvd_iff_emod_eq_zero]

theorem red_cast_inj {a b : Int} (ha : Red a) (hb : Red b) : (a : F) = b ↔ a = b := by
  rw [cast_eq_iff, Int.emod_eq_of_lt ha.1 ha.2, Int.emod_eq_of_lt hb.1 hb.2]

/-- a reduced integer vanishes in `F` only if it is `0` -/
theorem red_cast_eq_zero {z : Int} (hz : Red z) : (z : F) = 0 ↔ z = 0 := by
  rw [← Int.cast_zero, red_cast_inj hz red_zero]

/-- a field of characteristic `P` exists only if `P` is prime -/
theorem prime_P (F : Type*) [Field F] [CharP F P.toNat] : Nat.Prime P.toNat :=
  (CharP.char_is_prime_or_zero F P.toNat).resolve_right (by decide)

theorem cast_ne_zero {a : Int} (h : ¬ P ∣ a) : (a : F) ≠ 0 := mt (cast_eq_zero_iff a).1 h

theorem two_ne_zero' : (2 : F) ≠ 0 := by simpa using cast_ne_zero (F := F) (a := 2) (by decide)
theorem three_ne_zero' : (3 : F) ≠ 0 := by simpa using cast_ne_zero (F := F) (a := 3) (by decide)
theorem seven_ne_zero' : (7 : F) ≠ 0 := by simpa using cast_ne_zero (F := F) (a := 7) (by decide)

/-- componentwise cast of a Jacobian triple -/
def cast3 (t : Int × Int × Int) : F × F × F := ((t.1 : F), (t.2.1 : F), (t.2.2 : F))

/-! ### `isOnCurve` -/

/-- **S3/S1** `isOnCurve` is the curve equation in `F`, for all integers. -/
theorem isOnCurve_iff (x y : Int) : isOnCurve x y = true ↔ (y : F) ^ 2 = (x : F) ^ 3 + 7 := by
  unfold isOnCurve B
  simp only [beq_iff_eq]
  rw [← cast_eq_iff (F := F)]
  push_cast
  constructor
  · intro h; linear_combination -h
  · intro h; linear_combination -h

theorem not_isOnCurve_zero : isOnCurve 0 0 = false := by decide

/-! ### `doubleJacobian` -/

theorem red_doubleJacobian_z (x y z : Int) : Red (doubleJacobian x y z).2.2 := red_emod _

/-- **S1** `doubleJacobian` commutes with the cast, unconditionally. -/
theorem cast_doubleJacobian (x y z : Int) :
    (cast3 (doubleJacobian x y z) : F × F × F) = dblF (x : F) y z := by
  unfold doubleJacobian dblF cast3
  simp only [cast_emod, Int.cast_sub, Int.cast_mul, Int.cast_add, Int.cast_ofNat]

/-! ### `addJacobian` -/

theorem red_addJacobian_z {x1 y1 z1 x2 y2 z2 : Int} (h1 : Red z1) (h2 : Red z2) :
    Red (addJacobian x1 y1 z1 x2 y2 z2).2.2 := by
  unfold addJacobian
  split
  · exact h2
  · split
    · exact h1
    · extract_lets z1z1 z2z2 u1 u2 h0 h i j s1 s2 r0 r1
      split
      · exact red_doubleJacobian_z _ _ _
      · exact red_emod _

variable [DecidableEq F]

/-- **S1** `addJacobian` commutes with the cast when the `z` inputs are reduced (so that the tests
`z = 0` mean the same in `Int` and in `F`).  In particular the test `h = 0 ∧ r1 = 0` on the reduced
differences is the test `u2 = u1 ∧ s2 = s1` in `F`. -/
theorem cast_addJacobian {x1 y1 z1 x2 y2 z2 : Int} (h1 : Red z1) (h2 : Red z2) :
    (cast3 (addJacobian x1 y1 z1 x2 y2 z2) : F × F × F) = addF (x1 : F) y1 z1 x2 y2 z2 := by
  unfold addJacobian addF
  by_cases hz1 : z1 = 0
  · rw [if_pos hz1, if_pos ((red_cast_eq_zero h1).2 hz1)]; rfl
  rw [if_neg hz1, if_neg (mt (red_cast_eq_zero h1).1 hz1)]
  by_cases hz2 : z2 = 0
  · rw [if_pos hz2, if_pos ((red_cast_eq_zero h2).2 hz2)]; rfl
  rw [if_neg hz2, if_neg (mt (red_cast_eq_zero h2).1 hz2)]
  extract_lets z1z1 z2z2 u1 u2 h0 h i j s1 s2 r0 r1 r v x3 y3 z30 z31 z32 z33 z3
  have e_h : (h : F) = x2 * (z1 * z1) - x1 * (z2 * z2) := by
    simp only [h, h0, u1, u2, z1z1, z2z2, cast_condAdd, cast_emod, Int.cast_sub, Int.cast_mul]
  have e_r1 : (r1 : F) = y2 * z1 * (z1 * z1) - y1 * z2 * (z2 * z2) := by
    simp only [r1, r0, s1, s2, z1z1, z2z2, cast_condAdd, cast_emod, Int.cast_sub, Int.cast_mul]
  have hcond : (h = 0 ∧ r1 = 0) ↔ ((x2 : F) * (z1 * z1) - x1 * (z2 * z2) = 0 ∧
      (y2 : F) * z1 * (z1 * z1) - y1 * z2 * (z2 * z2) = 0) := by
    rw [← e_h, ← e_r1, red_cast_eq_zero (red_sub (red_emod _) (red_emod _)),
      red_cast_eq_zero (red_sub (red_emod _) (red_emod _))]
  by_cases hc : h = 0 ∧ r1 = 0
  · rw [if_pos hc, if_pos (hcond.1 hc)]
    exact cast_doubleJacobian _ _ _
  rw [if_neg hc, if_neg (mt hcond.2 hc)]
  simp only [cast3, addGen, x3, y3, z3, z33, z32, z31, z30, v, r, j, i, ← e_h, ← e_r1, s1, u1, z1z1, z2z2,
    cast_emod, cast_condAdd, Int.cast_mul, Int.cast_sub, Int.cast_add, Int.cast_ofNat]

/-- **S1**, the non-special case spelled out: for reduced nonzero `z1`, `z2` and `¬(u2 = u1 ∧ s2 = s1)`
in `F`, the cast of `addJacobian` is the plain add-2007-bl formula `addGen` over `F`. -/
theorem cast_addJacobian_general {x1 y1 z1 x2 y2 z2 : Int} (h1 : Red z1) (h2 : Red z2)
    (hz1 : z1 ≠ 0) (hz2 : z2 ≠ 0)
    (hc : ¬((x2 : F) * (z1 * z1) - x1 * (z2 * z2) = 0 ∧
      (y2 : F) * z1 * (z1 * z1) - y1 * z2 * (z2 * z2) = 0)) :
    (cast3 (addJacobian x1 y1 z1 x2 y2 z2) : F × F × F) = addGen (x1 : F) y1 z1 x2 y2 z2 := by
  rw [cast_addJacobian h1 h2]
  exact addF_general (mt (red_cast_eq_zero h1).1 hz1) (mt (red_cast_eq_zero h2).1 hz2) hc

omit [DecidableEq F] in
/-- the `Int`-level reading of the test in `addJacobian` -/
theorem addJacobian_test_iff (x1 z1 x2 z2 : Int) :
    let u1 := (x1 * ((z2 * z2) % P)) % P
    let u2 := (x2 * ((z1 * z1) % P)) % P
    let h0 := u2 - u1
    let h := if h0 < 0 then h0 + P else h0
    h = 0 ↔ (u2 : F) = u1 := by
  intro u1 u2 h0 h
  have red_h : Red h := red_sub (red_emod _) (red_emod _)
  rw [← red_cast_eq_zero (F := F) red_h]
  simp only [h, h0, cast_condAdd, Int.cast_sub, sub_eq_zero]

/-! ### `affineFromJacobian` -/

omit [DecidableEq F] in
/-- **S1** `affineFromJacobian`: never `none`; `z = 0 ↦ (0,0)`; otherwise reduced coordinates with
`x' = x / z²`, `y' = y / z³` in `F` (stated division-free). -/
theorem affineFromJacobian_spec (x y : Int) {z : Int} (hz : Red z) :
    (z = 0 → affineFromJacobian x y z = some (0, 0)) ∧
    (z ≠ 0 → ∃ x' y', affineFromJacobian x y z = some (x', y') ∧ Red x' ∧ Red y' ∧
        (x' : F) * (z : F) ^ 2 = x ∧ (y' : F) * (z : F) ^ 3 = y) := by
  constructor
  · intro h; unfold affineFromJacobian; rw [if_pos h]
  · intro h
    have hzP : z % P ≠ 0 := by rw [Int.emod_eq_of_lt hz.1 hz.2]; exact h
    obtain ⟨zi, hzi, _, _, hinv⟩ := modInverse_prime P_pos P_lt (prime_P F) hzP
    have hinvF : (zi : F) * z = 1 := by
      rw [← Int.cast_mul, ← Int.cast_one, cast_eq_iff, hinv]; decide
    unfold affineFromJacobian
    rw [if_neg h, hzi]
    refine ⟨_, _, rfl, red_emod _, red_emod _, ?_, ?_⟩
    · simp only [cast_emod, Int.cast_mul]
      linear_combination ((x : F) * (zi * z + 1)) * hinvF
    · simp only [cast_emod, Int.cast_mul]
      linear_combination ((y : F) * ((zi * z) ^ 2 + zi * z + 1)) * hinvF

end

end Iota.Proofs.Secp
