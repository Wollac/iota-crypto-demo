/-
The group hypothesis `LawfulW` of C08 (`Iota.Proofs.Slip10Shift`) discharged for secp256k1: the
curve operations of `secpW` run the model `Iota.Secp256k1` on the canonical coordinates of a point
(`ofPoint`), and they are the operations of Mathlib's group `Curve.Point`, which `G` generates with
order `N`.  Hence `shift_commutes` holds for the secp256k1 code with no assumption.
-/
import Iota.Proofs.Secp.Order
import Iota.Proofs.Slip10Shift

namespace Iota.Proofs.Secp
open Iota.Secp256k1 WeierstrassCurve.Affine
open Iota.Proofs.Primes (prime_N)

/-! ### canonical coordinates -/

/-- the pair the Go code uses for a point: `(0, 0)` for the identity, else the coordinates in `[0, P)` -/
noncomputable def ofPoint : Curve.Point → Int × Int
  | .zero => (0, 0)
  | .some x y _ => ((x.val : Int), (y.val : Int))

theorem ofPoint_zero : ofPoint (0 : Curve.Point) = (0, 0) := rfl

private theorem P_nonneg : (0 : Int) ≤ P := by decide

private theorem val_red (x : Fp) : 0 ≤ ((x.val : Nat) : Int) ∧ ((x.val : Nat) : Int) < P := by
  have : NeZero P.toNat := ⟨Nat.Prime.ne_zero Iota.Proofs.Primes.prime_P⟩
  refine ⟨Int.natCast_nonneg _, ?_⟩
  have h : (x.val : Int) < (P.toNat : Int) := Int.ofNat_lt.2 (ZMod.val_lt x)
  rwa [Int.toNat_of_nonneg P_nonneg] at h

private theorem val_cast (x : Fp) : (((x.val : Nat) : Int) : Fp) = x := by
  have : NeZero P.toNat := ⟨Nat.Prime.ne_zero Iota.Proofs.Primes.prime_P⟩
  rw [Int.cast_natCast, ZMod.natCast_zmod_val]

/-- `ofPoint` is a section of `toPoint` -/
theorem toPoint_ofPoint (Q : Curve.Point) : toPoint (ofPoint Q) = some Q := by
  cases Q with
  | zero => exact (toPoint?_eq_some_iff 0 0 _).2 (Or.inl ⟨rfl, rfl, rfl⟩)
  | some x y h =>
    have key : ∀ (a b : Fp), a = x → b = y →
        ∃ h' : Curve.Nonsingular a b, Point.some x y h = Point.some a b h' := by
      rintro _ _ rfl rfl; exact ⟨h, rfl⟩
    exact (toPoint?_eq_some_iff _ _ _).2
      (Or.inr ⟨val_red x, val_red y, key _ _ (val_cast x) (val_cast y)⟩)

theorem ofPoint_eq_zero_iff (Q : Curve.Point) : ofPoint Q = (0, 0) ↔ Q = 0 := by
  constructor
  · intro h
    have h1 := toPoint_ofPoint Q
    rw [h, (toPoint_eq_zero_iff 0 0).2 ⟨rfl, rfl⟩] at h1
    exact (Option.some.inj h1).symm
  · rintro rfl; rfl

/-- the two readings of a big-endian byte string agree -/
theorem beNat_eq (k : List UInt8) : beNat k = Iota.Slip10.beNat k := rfl

/-! ### the `WCurve` of secp256k1, running the model -/

/-- `elliptic.Curve` for secp256k1: `ScalarBaseMult` and `Add` are the model's, applied to canonical
coordinates; a failing (`none`) or unrepresentable result would be mapped to `0`, which never happens. -/
noncomputable def secpW : Iota.Slip10.WCurve Curve.Point where
  n := N.toNat
  baseMul := fun k => ((scalarBaseMult k).bind toPoint).getD 0
  add := fun a b =>
    ((Iota.Secp256k1.add (ofPoint a).1 (ofPoint a).2 (ofPoint b).1 (ofPoint b).2).bind toPoint).getD 0
  isInfinity := fun a => decide (ofPoint a = (0, 0))
  compress := fun _ => []

theorem secpW_n : secpW.n = N.toNat := rfl

/-- the model's `ScalarBaseMult` never fails and is scalar multiplication of `G` -/
theorem secpW_baseMul (k : List UInt8) : secpW.baseMul k = Iota.Slip10.beNat k • G Fp := by
  obtain ⟨x', y', h1, (h2 : toPoint (x', y') = _)⟩ := scalarBaseMult_correct (F := Fp) k
  show ((scalarBaseMult k).bind toPoint).getD 0 = _
  rw [h1, Option.bind_some, h2, Option.getD_some, beNat_eq]

/-- the model's `Add` never fails and is the group addition -/
theorem secpW_add (a b : Curve.Point) : secpW.add a b = a + b := by
  obtain ⟨x3, y3, h1, (h2 : toPoint (x3, y3) = _)⟩ := add_correct (x1 := (ofPoint a).1) (y1 := (ofPoint a).2)
    (x2 := (ofPoint b).1) (y2 := (ofPoint b).2) (toPoint_ofPoint a) (toPoint_ofPoint b)
  show ((Iota.Secp256k1.add _ _ _ _).bind toPoint).getD 0 = _
  rw [h1, Option.bind_some, h2, Option.getD_some]

theorem secpW_lawful : Iota.Proofs.Slip10Shift.LawfulW secpW (G Fp) where
  add_eq := secpW_add
  baseMul_eq := secpW_baseMul
  inf_iff := fun a => by
    show decide (ofPoint a = (0, 0)) = true ↔ a = 0
    rw [decide_eq_true_iff, ofPoint_eq_zero_iff]
  order := addOrderOf_G
  n_pos := Nat.Prime.pos prime_N

theorem secpW_n_lt : secpW.n < 256 ^ 40 := by
  show N.toNat < 256 ^ 40
  decide +kernel

open Iota.Slip10 in
/-- **C08 for secp256k1, unconditionally**: for every private key `0 < k < N` and every shift `buf`,
shifting the private key and shifting its public key — both computed by the model of the Go
secp256k1 code — either both report ErrInvalidKey (exactly when the shift is `≥ N` or
`k + shift ≡ 0 (mod N)`) or both succeed, and then the public key of the shifted private key is the
shifted public key. -/
theorem shift_commutes_secp256k1 (hk : Bytes) (k : Nat) (hk0 : 0 < k) (hkn : k < N.toNat)
    (buf : Bytes) :
    let c := wCurve secpW hk
    (Iota.Slip10.beNat buf ≥ secpW.n ∨ (Iota.Slip10.beNat buf + k) % secpW.n = 0 →
      c.shift (.priv k) buf = .error .invalidKey ∧
        c.shift (c.pub (.priv k)) buf = .error .invalidKey) ∧
    (¬ (Iota.Slip10.beNat buf ≥ secpW.n ∨ (Iota.Slip10.beNat buf + k) % secpW.n = 0) →
      ∃ k' q, c.shift (.priv k) buf = .ok (.priv k') ∧
        c.shift (c.pub (.priv k)) buf = .ok (.pub q) ∧
        0 < k' ∧ k' < secpW.n ∧ c.pub (.priv k') = .pub q) :=
  Iota.Proofs.Slip10Shift.shift_commutes secpW (G Fp) secpW_lawful hk k (hkn.trans secpW_n_lt) secpW_n_lt buf

end Iota.Proofs.Secp
