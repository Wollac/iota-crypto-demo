/-
The order of the secp256k1 base point: `N • G = 0` by running the model's `scalarBaseMult` on the
big-endian bytes of `N` in the kernel, `G ≠ 0`, and `N` prime, hence `addOrderOf G = N`.

The kernel evaluates call-by-name, so the model's double-and-add loop is evaluated through a twin
`loopK` that forces every loop-carried coordinate to a literal (`forceI`); the twin is proved equal
to the model's `scalarLoop`.  The final Jacobian `z` is `0`, so no modular inverse is needed.
-/
import Iota.Proofs.Secp
import Iota.Proofs.Primes
import Mathlib.GroupTheory.OrderOfElement

namespace Iota.Proofs.Secp
open Iota.Secp256k1 WeierstrassCurve.Affine
open Iota.Proofs.Primes (force force_eq prime_N)

/-! ### kernel-friendly twin of the scalar loop -/

/-- evaluate an `Int` to a literal constructor application before going on -/
@[inline] def forceI {α : Sort _} (x : Int) (k : Int → α) : α :=
  match x with
  | .ofNat n => force n fun n => k (.ofNat n)
  | .negSucc n => force n fun n => k (.negSucc n)

theorem forceI_eq {α : Sort _} (x : Int) (k : Int → α) : forceI x k = k x := by
  cases x <;> simp only [forceI, force_eq]

/-- evaluate the three components of a triple before going on -/
@[inline] def force3 {α : Sort _} (t : Int × Int × Int) (k : Int → Int → Int → α) : α :=
  forceI t.1 fun a => forceI t.2.1 fun b => forceI t.2.2 fun c => k a b c

theorem force3_eq {α : Sort _} (t : Int × Int × Int) (k : Int → Int → Int → α) :
    force3 t k = k t.1 t.2.1 t.2.2 := by
  simp only [force3, forceI_eq]

/-- `scalarLoop` with the accumulator forced after every Jacobian operation -/
def loopK (bx by_ bz : Int) : List Bool → Int → Int → Int → Int × Int × Int
  | [], x, y, z => (x, y, z)
  | bit :: bits, x, y, z =>
    force3 (doubleJacobian x y z) fun dx dy dz =>
    if bit then
      force3 (addJacobian bx by_ bz dx dy dz) fun ax ay az => loopK bx by_ bz bits ax ay az
    else loopK bx by_ bz bits dx dy dz

theorem loopK_eq (bx by_ bz : Int) : ∀ (bits : List Bool) (x y z : Int),
    loopK bx by_ bz bits x y z = scalarLoop bx by_ bz bits (x, y, z) := by
  intro bits
  induction bits with
  | nil => intro x y z; rfl
  | cons bit bits ih =>
    intro x y z
    rw [loopK, scalarLoop, force3_eq]
    cases bit with
    | false => simp only [Bool.false_eq_true, if_false]; exact ih _ _ _
    | true => simp only [if_true]; rw [force3_eq]; exact ih _ _ _

/-! ### `N • G = 0` -/

/-- the 32 big-endian bytes of `N` -/
def nBytes : List UInt8 :=
  [255, 255, 255, 255, 255, 255, 255, 255, 255, 255, 255, 255, 255, 255, 255, 254,
   186, 174, 220, 230, 175, 72, 160, 59, 191, 210, 94, 140, 208, 54, 65, 65]

theorem beNat_nBytes : beNat nBytes = N.toNat := by decide +kernel

/-- the double-and-add loop on the bits of `N`, from `G`, ends at the point at infinity (`z = 0`) -/
theorem loopK_nBytes : (loopK Gx Gy 1 (bitsOfBytes nBytes) 0 0 0).2.2 = 0 := by decide +kernel

theorem zForAffine_G : zForAffine Gx Gy = 1 := by decide +kernel

/-- `ScalarBaseMult(N)` is the identity `(0, 0)`, by evaluation. -/
theorem scalarBaseMult_nBytes : scalarBaseMult nBytes = some (0, 0) := by
  have h := loopK_nBytes
  rw [loopK_eq] at h
  unfold scalarBaseMult scalarMult
  simp only [zForAffine_G]
  unfold affineFromJacobian
  rw [if_pos h]

theorem N_smul_G : N.toNat • G Fp = 0 := by
  obtain ⟨x', y', h1, (h2 : toPoint (x', y') = _)⟩ := scalarBaseMult_correct (F := Fp) nBytes
  rw [scalarBaseMult_nBytes] at h1
  obtain ⟨rfl, rfl⟩ : (0 : Int) = x' ∧ (0 : Int) = y' := by
    have := Option.some.inj h1
    exact ⟨congrArg Prod.fst this, congrArg Prod.snd this⟩
  rw [(toPoint_eq_zero_iff 0 0).2 ⟨rfl, rfl⟩, beNat_nBytes] at h2
  exact (Option.some.inj h2).symm

theorem G_ne_zero : G Fp ≠ 0 := Point.some_ne_zero _

theorem addOrderOf_G : addOrderOf (G Fp) = N.toNat := by
  have hd : addOrderOf (G Fp) ∣ N.toNat := addOrderOf_dvd_of_nsmul_eq_zero N_smul_G
  rcases (Nat.dvd_prime prime_N).1 hd with h | h
  · exact absurd (AddMonoid.addOrderOf_eq_one_iff.1 h) G_ne_zero
  · exact h

end Iota.Proofs.Secp
