/-
S2: correctness of the Jacobian formulas over an arbitrary field `F` with `2 ≠ 0`, for the curve
`y² = x³ + b`, against Mathlib's group law on `WeierstrassCurve.Affine.Point`.  A triple `(X, Y, Z)`
with `Z ≠ 0` represents the affine point `(X/Z², Y/Z³)`; `Z = 0` represents `0`.  All special cases
of `addF` (either input at infinity, `P = Q`, `P = -Q`) and of `dblF` (`y = 0`) are covered.
-/
import Iota.Proofs.Secp.Formulas
import Mathlib.AlgebraicGeometry.EllipticCurve.Affine.Point
import Mathlib.Tactic.Ring
import Mathlib.Tactic.LinearCombination

namespace Iota.Proofs.Secp
open WeierstrassCurve.Affine

variable {F : Type*} [Field F]

/-- the short Weierstrass curve `y² = x³ + b` -/
def curve (b : F) : WeierstrassCurve.Affine F := { a₁ := 0, a₂ := 0, a₃ := 0, a₄ := 0, a₆ := b }

section curve
variable (b : F)

@[simp] theorem curve_a₁ : (curve b).a₁ = 0 := rfl
@[simp] theorem curve_a₂ : (curve b).a₂ = 0 := rfl
@[simp] theorem curve_a₃ : (curve b).a₃ = 0 := rfl
@[simp] theorem curve_a₄ : (curve b).a₄ = 0 := rfl
@[simp] theorem curve_a₆ : (curve b).a₆ = b := rfl

theorem curve_equation_iff (x y : F) : (curve b).Equation x y ↔ y ^ 2 = x ^ 3 + b := by
  rw [equation_iff]; simp

theorem curve_negY (x y : F) : (curve b).negY x y = -y := by simp [negY]

theorem curve_addX (x1 x2 ℓ : F) : (curve b).addX x1 x2 ℓ = ℓ ^ 2 - x1 - x2 := by simp [addX]

theorem curve_addY (x1 x2 y1 ℓ : F) :
    (curve b).addY x1 x2 y1 ℓ = -(ℓ * (ℓ ^ 2 - x1 - x2 - x1) + y1) := by
  simp [addY, negAddY, negY, addX]

theorem ne_neg_self (h2 : (2 : F) ≠ 0) {y : F} (hy : y ≠ 0) : y ≠ -y :=
  fun h => mul_ne_zero h2 hy (by linear_combination h)

/-- on `y² = x³ + b` with `b ≠ 0` in characteristic `≠ 2, 3` every affine solution is nonsingular -/
theorem curve_nonsingular (h2 : (2 : F) ≠ 0) (h3 : (3 : F) ≠ 0) (hb : b ≠ 0) {x y : F}
    (h : (curve b).Equation x y) : (curve b).Nonsingular x y := by
  rw [nonsingular_iff]
  refine ⟨h, ?_⟩
  rw [curve_equation_iff] at h
  simp only [curve_a₁, curve_a₂, curve_a₃, curve_a₄, zero_mul, mul_zero, add_zero, sub_zero]
  by_cases hy : y = 0
  · left
    subst hy
    have hx : x ≠ 0 := by
      rintro rfl
      apply hb
      linear_combination -h
    exact (mul_ne_zero h3 (pow_ne_zero 2 hx)).symm
  · exact Or.inr (ne_neg_self h2 hy)

end curve

/-! ### Representation of points by Jacobian triples -/

/-- `(X, Y, Z)` represents the point `Q`: division-free form of `Q = (X/Z², Y/Z³)`, `Z = 0 ↦ 0`. -/
def Rep (W : WeierstrassCurve.Affine F) (X Y Z : F) (Q : W.Point) : Prop :=
  (Z = 0 ∧ Q = 0) ∨
  (Z ≠ 0 ∧ ∃ x y, ∃ h : W.Nonsingular x y, X = x * Z ^ 2 ∧ Y = y * Z ^ 3 ∧ Q = Point.some x y h)

def Rep3 (W : WeierstrassCurve.Affine F) (T : F × F × F) (Q : W.Point) : Prop :=
  Rep W T.1 T.2.1 T.2.2 Q

theorem rep_zero (W : WeierstrassCurve.Affine F) (X Y : F) : Rep W X Y 0 0 := Or.inl ⟨rfl, rfl⟩

theorem rep_affine {W : WeierstrassCurve.Affine F} {x y : F} (h : W.Nonsingular x y) :
    Rep W x y 1 (Point.some x y h) :=
  Or.inr ⟨one_ne_zero, x, y, h, by ring, by ring, rfl⟩

/-- the division form of `Rep`, for reference -/
theorem rep_iff_div (W : WeierstrassCurve.Affine F) (X Y Z : F) (Q : W.Point) :
    Rep W X Y Z Q ↔ (Z = 0 ∧ Q = 0) ∨
      (Z ≠ 0 ∧ ∃ h : W.Nonsingular (X / Z ^ 2) (Y / Z ^ 3), Q = Point.some _ _ h) := by
  unfold Rep
  refine or_congr Iff.rfl (and_congr_right fun hZ => ?_)
  constructor
  · rintro ⟨x, y, h, rfl, rfl, rfl⟩
    have e1 : x * Z ^ 2 / Z ^ 2 = x := mul_div_cancel_right₀ _ (pow_ne_zero 2 hZ)
    have e2 : y * Z ^ 3 / Z ^ 3 = y := mul_div_cancel_right₀ _ (pow_ne_zero 3 hZ)
    exact ⟨by rw [e1, e2]; exact h, by simp only [e1, e2]⟩
  · rintro ⟨h, rfl⟩
    exact ⟨_, _, h, (div_mul_cancel₀ _ (pow_ne_zero 2 hZ)).symm,
      (div_mul_cancel₀ _ (pow_ne_zero 3 hZ)).symm, rfl⟩

/-! ### Pure algebra: the formulas against chord and tangent -/

/-- tangent: with `ℓ·2y = 3x²`, `dblF` of `(xZ², yZ³, Z)` is `(x₃Z₃², y₃Z₃³, Z₃)`, `Z₃ = 2yZ⁴`. -/
theorem dblF_alg (x y Z ℓ : F) (hℓ : ℓ * (2 * y) = 3 * x ^ 2) :
    (dblF (x * Z ^ 2) (y * Z ^ 3) Z).1
      = (ℓ ^ 2 - x - x) * (dblF (x * Z ^ 2) (y * Z ^ 3) Z).2.2 ^ 2 ∧
    (dblF (x * Z ^ 2) (y * Z ^ 3) Z).2.1
      = -(ℓ * (ℓ ^ 2 - x - x - x) + y) * (dblF (x * Z ^ 2) (y * Z ^ 3) Z).2.2 ^ 3 ∧
    (dblF (x * Z ^ 2) (y * Z ^ 3) Z).2.2 = 2 * y * Z ^ 4 := by
  simp only [dblF]
  refine ⟨?_, ?_, by ring⟩
  · linear_combination (-(Z ^ 8) * (3 * x ^ 2 + 2 * y * ℓ)) * hℓ
  · linear_combination (-(Z ^ 12) * (12 * x * y ^ 2 - (3 * x ^ 2) ^ 2 - (3 * x ^ 2) * (2 * y * ℓ)
      - (2 * y * ℓ) ^ 2)) * hℓ

/-- chord: with `ℓ·(x₁ - x₂) = y₁ - y₂`, `addGen` of the two triples is `(x₃Z₃², y₃Z₃³, Z₃)` with
`Z₃ = 2Z₁Z₂·(x₂ - x₁)Z₁²Z₂²`. -/
theorem addGen_alg (x1 y1 x2 y2 Z1 Z2 ℓ : F) (hℓ : ℓ * (x1 - x2) = y1 - y2) :
    (addGen (x1 * Z1 ^ 2) (y1 * Z1 ^ 3) Z1 (x2 * Z2 ^ 2) (y2 * Z2 ^ 3) Z2).1
      = (ℓ ^ 2 - x1 - x2)
        * (addGen (x1 * Z1 ^ 2) (y1 * Z1 ^ 3) Z1 (x2 * Z2 ^ 2) (y2 * Z2 ^ 3) Z2).2.2 ^ 2 ∧
    (addGen (x1 * Z1 ^ 2) (y1 * Z1 ^ 3) Z1 (x2 * Z2 ^ 2) (y2 * Z2 ^ 3) Z2).2.1
      = -(ℓ * (ℓ ^ 2 - x1 - x2 - x1) + y1)
        * (addGen (x1 * Z1 ^ 2) (y1 * Z1 ^ 3) Z1 (x2 * Z2 ^ 2) (y2 * Z2 ^ 3) Z2).2.2 ^ 3 ∧
    (addGen (x1 * Z1 ^ 2) (y1 * Z1 ^ 3) Z1 (x2 * Z2 ^ 2) (y2 * Z2 ^ 3) Z2).2.2
      = 2 * Z1 * Z2 * ((x2 - x1) * Z1 ^ 2 * Z2 ^ 2) := by
  obtain rfl : y1 = y2 + ℓ * (x1 - x2) := by linear_combination -hℓ
  simp only [addGen]
  refine ⟨by ring, by ring, by ring⟩

variable [DecidableEq F]

variable {b : F}

/-- **S2, doubling**: `dblF` of a representative of `Q` represents `Q + Q`; when `y = 0` the result
has `Z₃ = 0`, which is correct because then `2·(x, 0) = 0`. -/
theorem rep_dbl (h2 : (2 : F) ≠ 0) {X Y Z : F} {Q : (curve b).Point} (hQ : Rep (curve b) X Y Z Q) :
    Rep3 (curve b) (dblF X Y Z) (Q + Q) := by
  rcases hQ with ⟨rfl, rfl⟩ | ⟨hZ, x, y, h, rfl, rfl, rfl⟩
  · left; exact ⟨by simp [dblF], by simp⟩
  · by_cases hy : y = 0
    · left
      subst hy
      refine ⟨by simp [dblF], ?_⟩
      exact Point.add_self_of_Y_eq (by rw [curve_negY]; simp)
    · have hy' : y ≠ (curve b).negY x y := by rw [curve_negY]; exact ne_neg_self h2 hy
      have hℓ : (curve b).slope x x y y * (2 * y) = 3 * x ^ 2 := by
        rw [slope_of_Y_ne rfl hy', curve_negY]
        simp only [curve_a₁, curve_a₂, curve_a₄, zero_mul, mul_zero, add_zero, sub_zero,
          sub_neg_eq_add]
        rw [← two_mul, div_mul_cancel₀ _ (mul_ne_zero h2 hy)]
      obtain ⟨e1, e2, e3⟩ := dblF_alg x y Z _ hℓ
      right
      refine ⟨?_, _, _, _, ?_, ?_, Point.add_self_of_Y_ne hy'⟩
      · rw [e3]; exact mul_ne_zero (mul_ne_zero h2 hy) (pow_ne_zero 4 hZ)
      · rw [curve_addX]; exact e1
      · rw [curve_addY]; exact e2

/-- **S2, addition**: `addF` of representatives of `Q₁`, `Q₂` represents `Q₁ + Q₂`, in every case:
either input at infinity, `Q₁ = Q₂` (doubling branch), `Q₁ = -Q₂` (`Z₃ = 0`), and the general case. -/
theorem rep_add (h2 : (2 : F) ≠ 0) {X1 Y1 Z1 X2 Y2 Z2 : F} {Q1 Q2 : (curve b).Point}
    (hQ1 : Rep (curve b) X1 Y1 Z1 Q1) (hQ2 : Rep (curve b) X2 Y2 Z2 Q2) :
    Rep3 (curve b) (addF X1 Y1 Z1 X2 Y2 Z2) (Q1 + Q2) := by
  rcases hQ1 with ⟨rfl, rfl⟩ | ⟨hZ1, x1, y1, h1, rfl, rfl, rfl⟩
  · rw [addF_zero_left, zero_add]; exact hQ2
  rcases hQ2 with ⟨rfl, rfl⟩ | ⟨hZ2, x2, y2, h2', rfl, rfl, rfl⟩
  · rw [addF_zero_right _ _ _ _ _ hZ1, add_zero]
    exact Or.inr ⟨hZ1, x1, y1, h1, rfl, rfl, rfl⟩
  -- the two tests of `addF` on these representatives compare the affine coordinates
  have eH : x2 * Z2 ^ 2 * (Z1 * Z1) - x1 * Z1 ^ 2 * (Z2 * Z2) = 0 ↔ x2 = x1 := by
    rw [show x2 * Z2 ^ 2 * (Z1 * Z1) - x1 * Z1 ^ 2 * (Z2 * Z2) = (x2 - x1) * (Z1 ^ 2 * Z2 ^ 2) by ring,
      mul_eq_zero, sub_eq_zero]
    exact or_iff_left (mul_ne_zero (pow_ne_zero 2 hZ1) (pow_ne_zero 2 hZ2))
  have eR : y2 * Z2 ^ 3 * Z1 * (Z1 * Z1) - y1 * Z1 ^ 3 * Z2 * (Z2 * Z2) = 0 ↔ y2 = y1 := by
    rw [show y2 * Z2 ^ 3 * Z1 * (Z1 * Z1) - y1 * Z1 ^ 3 * Z2 * (Z2 * Z2) = (y2 - y1) * (Z1 ^ 3 * Z2 ^ 3)
      by ring, mul_eq_zero, sub_eq_zero]
    exact or_iff_left (mul_ne_zero (pow_ne_zero 3 hZ1) (pow_ne_zero 3 hZ2))
  by_cases hx : x1 = x2
  · subst hx
    by_cases hy : y1 = y2
    · subst hy
      rw [addF_double hZ1 hZ2 (eH.2 rfl) (eR.2 rfl)]
      exact rep_dbl h2 (Or.inr ⟨hZ1, x1, y1, h1, rfl, rfl, rfl⟩)
    · have hneg : y1 = (curve b).negY x1 y2 := (Y_eq_of_X_eq h1.1 h2'.1 rfl).resolve_left hy
      rw [addF_general hZ1 hZ2 fun hh => hy (eR.1 hh.2).symm]
      left
      refine ⟨?_, Point.add_of_Y_eq rfl hneg⟩
      simp only [addGen]; ring
  · rw [addF_general hZ1 hZ2 fun hh => hx (eH.1 hh.1).symm]
    have hℓ : (curve b).slope x1 x2 y1 y2 * (x1 - x2) = y1 - y2 := by
      rw [slope_of_X_ne hx, div_mul_cancel₀ _ (sub_ne_zero.2 hx)]
    obtain ⟨e1, e2, e3⟩ := addGen_alg x1 y1 x2 y2 Z1 Z2 _ hℓ
    right
    refine ⟨?_, _, _, _, ?_, ?_, Point.add_of_X_ne hx⟩
    · rw [e3]
      exact mul_ne_zero (mul_ne_zero (mul_ne_zero h2 hZ1) hZ2)
        (mul_ne_zero (mul_ne_zero (sub_ne_zero.2 (Ne.symm hx)) (pow_ne_zero 2 hZ1))
          (pow_ne_zero 2 hZ2))
    · rw [curve_addX]; exact e1
    · rw [curve_addY]; exact e2

end Iota.Proofs.Secp
