/-
S0: `Iota.Secp256k1.modInverse` (extended Euclid with 1024 fuel) is `big.Int.ModInverse` for every
modulus `0 < n < 2^511`: it returns the inverse in `[0, n)` exactly when `g` and `n` are coprime and
`none` exactly when they are not.
-/
import Iota.Model.Secp256k1
import Mathlib.Data.Int.GCD
import Mathlib.Data.Nat.Prime.Basic
import Mathlib.Tactic.Linarith
import Mathlib.Tactic.Ring

namespace Iota.Proofs.Secp
open Iota.Secp256k1

/-- one Euclid step at least halves the product of the two remainders -/
private theorem euclid_step_prod {r0 r1 : Int} (h1 : 0 < r1) (h01 : r1 < r0) :
    2 * (r1 * (r0 % r1)) < r0 * r1 := by
  have hm := Int.emod_add_mul_ediv r0 r1
  have hlt : r0 % r1 < r1 := Int.emod_lt_of_pos _ h1
  have hnn : 0 ≤ r0 % r1 := Int.emod_nonneg _ (ne_of_gt h1)
  have hq : 1 ≤ r0 / r1 := Int.le_ediv_of_mul_le h1 (by omega)
  have h2 : r1 ≤ r1 * (r0 / r1) := by nlinarith
  have h3 : 2 * (r0 % r1) < r0 := by omega
  nlinarith

theorem egcd_zero_right (fuel : Nat) (r0 s0 s1 : Int) : egcd fuel r0 0 s0 s1 = (r0, s0) := by
  cases fuel <;> simp only [egcd, if_true]

/-- Invariant of `egcd`: the first component is the gcd, the second a Bezout coefficient of `a`
modulo `n`, provided the fuel covers `log₂ (r0·r1)`. -/
theorem egcd_spec (a n : Int) : ∀ (fuel : Nat) (r0 r1 s0 s1 : Int),
    0 ≤ r1 → r1 < r0 → r0 * r1 < 2 ^ fuel →
    n ∣ s0 * a - r0 → n ∣ s1 * a - r1 →
    (egcd fuel r0 r1 s0 s1).1 = (Int.gcd r0 r1 : Int) ∧
      n ∣ (egcd fuel r0 r1 s0 s1).2 * a - (egcd fuel r0 r1 s0 s1).1 := by
  -- with `r1 = 0` the answer is `(r0, s0)` whatever the fuel
  have stop : ∀ fuel r0 s0 s1, 0 < r0 → n ∣ s0 * a - r0 →
      (egcd fuel r0 0 s0 s1).1 = (Int.gcd r0 0 : Int) ∧
        n ∣ (egcd fuel r0 0 s0 s1).2 * a - (egcd fuel r0 0 s0 s1).1 := by
    intro fuel r0 s0 s1 h0 d0
    rw [egcd_zero_right, Int.gcd_zero_right, Int.natAbs_of_nonneg h0.le]
    exact ⟨rfl, d0⟩
  intro fuel
  induction fuel with
  | zero =>
    intro r0 r1 s0 s1 h1 h01 hp d0 _
    obtain rfl : r1 = 0 := by
      rcases Int.lt_or_eq_of_le h1 with h | h
      · have : 1 ≤ r0 * r1 := by nlinarith
        simp at hp; omega
      · exact h.symm
    exact stop 0 r0 s0 s1 h01 d0
  | succ k ih =>
    intro r0 r1 s0 s1 h1 h01 hp d0 d1
    by_cases hr1 : r1 = 0
    · subst hr1; exact stop _ r0 s0 s1 h01 d0
    · rw [egcd, if_neg hr1]
      have h1' : 0 < r1 := by omega
      have hlt : r0 % r1 < r1 := Int.emod_lt_of_pos _ h1'
      have hnn : 0 ≤ r0 % r1 := Int.emod_nonneg _ hr1
      have hprod := euclid_step_prod h1' h01
      have hp' : r1 * (r0 % r1) < 2 ^ k := by
        have : (2 : Int) ^ (k + 1) = 2 * 2 ^ k := by ring
        rw [this] at hp; omega
      have d2 : n ∣ (s0 - r0 / r1 * s1) * a - r0 % r1 := by
        have e : (s0 - r0 / r1 * s1) * a - r0 % r1
            = (s0 * a - r0) - (r0 / r1) * (s1 * a - r1) := by
          have hm := Int.emod_add_mul_ediv r0 r1
          have : r0 % r1 = r0 - r1 * (r0 / r1) := by omega
          rw [this]; ring
        rw [e]
        exact Int.dvd_sub d0 (Dvd.dvd.mul_left d1 _)
      obtain ⟨ih1, ih2⟩ := ih r1 (r0 % r1) s1 (s0 - r0 / r1 * s1) hnn hlt hp' d1 d2
      refine ⟨?_, ih2⟩
      rw [ih1, Int.gcd_comm r1, Int.gcd_emod, Int.gcd_comm]

/-- the value computed by `modInverse` before the `r.1 = 1` test -/
theorem egcd_modInverse {g n : Int} (hn : 0 < n) (hbound : n < 2 ^ 511) :
    (egcd 1024 (g % n) n 1 0).1 = (Int.gcd g n : Int) ∧
      n ∣ (egcd 1024 (g % n) n 1 0).2 * (g % n) - (egcd 1024 (g % n) n 1 0).1 := by
  have hnn : 0 ≤ g % n := Int.emod_nonneg _ (ne_of_gt hn)
  have hlt : g % n < n := Int.emod_lt_of_pos _ hn
  have hne : n ≠ 0 := ne_of_gt hn
  have step : egcd 1024 (g % n) n 1 0 = egcd 1023 n (g % n) 0 1 := by
    rw [show (1024 : Nat) = 1023 + 1 from rfl, egcd, if_neg hne,
      Int.emod_emod_of_dvd _ (dvd_refl n)]
    simp
  rw [step]
  have hp : n * (g % n) < 2 ^ 1023 :=
    calc n * (g % n) < 2 ^ 511 * 2 ^ 511 := mul_lt_mul'' hbound (hlt.trans hbound) hn.le hnn
      _ ≤ 2 ^ 1023 := by rw [← pow_add]; exact pow_le_pow_right₀ (by norm_num) (by norm_num)
  have := egcd_spec (g % n) n 1023 n (g % n) 0 1 hnn hlt hp (by simp) (by simp)
  refine ⟨?_, this.2⟩
  rw [this.1, Int.gcd_comm, Int.gcd_emod]

/-- **S0**, characterisation: for `0 < n < 2^511`, `modInverse g n` is `none` exactly when `g` and `n`
are not coprime, and otherwise the unique inverse of `g` in `[0, n)`. -/
theorem modInverse_eq_none_iff {g n : Int} (hn : 0 < n) (hbound : n < 2 ^ 511) :
    modInverse g n = none ↔ Int.gcd g n ≠ 1 := by
  have h := (egcd_modInverse (g := g) hn hbound).1
  unfold modInverse
  simp only [h]
  split
  · rename_i h1; simp; exact_mod_cast h1
  · rename_i h1; simp; exact_mod_cast h1

/-- **S0**: a coprime argument has an inverse, returned in `[0, n)`.  (`1 % n = 1` unless `n = 1`.) -/
theorem modInverse_of_coprime {g n : Int} (hn : 0 < n) (hbound : n < 2 ^ 511)
    (hg : Int.gcd g n = 1) :
    ∃ zi, modInverse g n = some zi ∧ 0 ≤ zi ∧ zi < n ∧ (zi * g) % n = 1 % n := by
  obtain ⟨h1, h2⟩ := egcd_modInverse (g := g) hn hbound
  have hne : n ≠ 0 := ne_of_gt hn
  refine ⟨(egcd 1024 (g % n) n 1 0).2 % n, ?_, Int.emod_nonneg _ hne, Int.emod_lt_of_pos _ hn, ?_⟩
  · unfold modInverse
    simp only [h1, hg]
    simp
  · rw [h1, hg] at h2
    generalize (egcd 1024 (g % n) n 1 0).2 = e at h2
    have key : (e % n) * g - 1 = (e * (g % n) - 1) + n * (e * (g / n) - (e / n) * g) := by
      rw [Int.emod_def, Int.emod_def]; ring
    refine Int.emod_eq_emod_iff_emod_sub_eq_zero.2 (Int.emod_eq_zero_of_dvd ?_)
    rw [key]
    exact Int.dvd_add (by simpa using h2) (Int.dvd_mul_right _ _)

/-- **S0** with the hypothesis on `g % n` and modulus `> 1`. -/
theorem modInverse_spec {g n : Int} (hn : 1 < n) (hbound : n < 2 ^ 511)
    (hg : Int.gcd (g % n) n = 1) :
    ∃ zi, modInverse g n = some zi ∧ 0 ≤ zi ∧ zi < n ∧ (zi * g) % n = 1 := by
  rw [Int.gcd_emod] at hg
  obtain ⟨zi, h1, h2, h3, h4⟩ := modInverse_of_coprime (by omega) hbound hg
  exact ⟨zi, h1, h2, h3, by rw [h4]; exact Int.emod_eq_of_lt (by omega) hn⟩

/-- `modInverse` never returns a wrong value: whatever it returns is an inverse in `[0, n)`. -/
theorem modInverse_sound {g n zi : Int} (hn : 0 < n) (hbound : n < 2 ^ 511)
    (h : modInverse g n = some zi) : Int.gcd g n = 1 ∧ 0 ≤ zi ∧ zi < n ∧ (zi * g) % n = 1 % n := by
  have hc : Int.gcd g n = 1 := by
    by_contra hc
    rw [(modInverse_eq_none_iff hn hbound).2 hc] at h
    cases h
  obtain ⟨zi', h1, h2, h3, h4⟩ := modInverse_of_coprime hn hbound hc
  rw [h1] at h
  cases h
  exact ⟨hc, h2, h3, h4⟩

/-- a prime modulus: everything not divisible by `n` is invertible -/
theorem modInverse_prime {g n : Int} (hn : 0 < n) (hbound : n < 2 ^ 511)
    (hp : Nat.Prime n.toNat) (hg : g % n ≠ 0) :
    ∃ zi, modInverse g n = some zi ∧ 0 ≤ zi ∧ zi < n ∧ (zi * g) % n = 1 := by
  have h1 : 1 < n := by have := hp.one_lt; omega
  refine modInverse_spec h1 hbound ?_
  rw [Int.gcd_emod, Int.gcd_comm, Int.gcd]
  have hnat : n.natAbs = n.toNat := by omega
  rw [hnat]
  refine (Nat.Prime.coprime_iff_not_dvd hp).2 ?_
  intro hd
  apply hg
  apply Int.emod_eq_zero_of_dvd
  have : (n.toNat : Int) ∣ g := Int.natCast_dvd.2 hd
  rwa [Int.toNat_of_nonneg (le_of_lt hn)] at this

end Iota.Proofs.Secp
