/-
`Hash.sha512 = sha512Eval`, where `sha512Eval` is the instance of the list recursion of Sha2.lean with the
constants of SHA-512.  Known-answer vectors that go through SHA-512 rewrite with this equation (or with
`hmacSha512_eq_eval`) and leave `sha512Eval` to the kernel.  Core Lean only.
-/
import Iota.Proofs.Hash.Sha2

namespace Iota.Proofs.Hash
open Iota.Hash Sha2

namespace Sha512
def ssig0 (x : UInt64) : UInt64 := rotr64 x 1 ^^^ rotr64 x 8 ^^^ (x >>> 7)
def ssig1 (x : UInt64) : UInt64 := rotr64 x 19 ^^^ rotr64 x 61 ^^^ (x >>> 6)
def bsig0 (x : UInt64) : UInt64 := rotr64 x 28 ^^^ rotr64 x 34 ^^^ rotr64 x 39
def bsig1 (x : UInt64) : UInt64 := rotr64 x 14 ^^^ rotr64 x 18 ^^^ rotr64 x 41
end Sha512
open Sha512

def block512 (h : Array UInt64) (l : List UInt8) : Array UInt64 :=
  block ssig0 ssig1 bsig0 bsig1 k512.toList h (beWords 8 beWord64 16 l)

def sha512Eval (msg : List UInt8) : List UInt8 :=
  let p := mdPad msg 128 16
  (blocks block512 128 (p.size / 128) p.toList
    #[0x6a09e667f3bcc908, 0xbb67ae8584caa73b, 0x3c6ef372fe94f82b, 0xa54ff53a5f1d36f1,
      0x510e527fade682d1, 0x9b05688c2b3e6c1f, 0x1f83d9abfb41bd6b, 0x5be0cd19137e2179]).toList.flatMap u64be

theorem sha512Block_eq (h : Array UInt64) (b : Array UInt8) (off : Nat) :
    sha512Block h b off = block512 h (b.toList.drop off) := by
  rw [block512, ← Nat.add_zero off, ← Nat.mul_zero 8, ← map_range'_eq_beWords be64 beWord64 be64_eq]
  exact block_eq 0 (fun i => be64 b (off + 8 * i)) (sched ssig0 ssig1) (round bsig0 bsig1) (addState h) k512 64 rfl _

theorem sha512_eq_eval : sha512 = sha512Eval := by
  funext msg
  simp only [sha512, sha512Eval, forIn_range_eq_foldl, bind_pure_comp, map_pure, Id.run_pure, sha512Block_eq]
  rw [Nat.sub_zero, foldl_drop_eq_blocks, Nat.mul_zero, List.drop_zero]

theorem hmacSha512_eq_eval : hmacSha512 = hmac sha512Eval 128 := by
  unfold hmacSha512
  rw [sha512_eq_eval]

end Iota.Proofs.Hash
