/-
`Hash.blake2b = blake2bEval`, for the known-answer vectors of BLAKE2b.

In the model (Iota/Model/Hash/Blake2b.lean) the working vector `v` is an array that every call of `b2G` reads four
times and writes four times, so that the kernel, which evaluates lazily, reads through a growing chain of `set!`;
and each byte of a block is read as `blk[off + j]!`, a walk from the start of the message.  Here a round takes the
sixteen words of `v` apart by pattern matching and puts the results of the eight mixings together again, and the
message words are taken off the front of the block.  Core Lean only.
-/
import Iota.Model.Hash.Blake2b
import Iota.Proofs.Hash.Sha2

namespace Iota.Proofs.Hash
open Iota.Hash Sha2

def leWord64 (l : List UInt8) : UInt64 :=
  (List.range' 0 8).foldl (fun r j => r ||| ((l.getD j 0).toUInt64 <<< UInt64.ofNat (8 * j))) 0

theorem le64_eq (b : Array UInt8) (i : Nat) : le64 b i = leWord64 (b.toList.drop i) := by
  simp only [le64, forIn_range_eq_foldl, getElem!_eq_getD_drop]
  rfl

/-- The mixing function G of RFC 7693 on the four words it changes. -/
def b2Mix (a b c d x y : UInt64) : UInt64 × UInt64 × UInt64 × UInt64 :=
  let a := a + b + x
  let d := rotr64 (d ^^^ a) 32
  let c := c + d
  let b := rotr64 (b ^^^ c) 24
  let a := a + b + y
  let d := rotr64 (d ^^^ a) 16
  let c := c + d
  let b := rotr64 (b ^^^ c) 63
  (a, b, c, d)

/-- The body of the round loop of `b2Compress`, with `look k` for `m[k]!`. -/
def b2Round (look : Nat → UInt64) (s : Array Nat) (v : Array UInt64) : Array UInt64 :=
  let v := b2G v 0 4 8 12 (look s[0]!) (look s[1]!)
  let v := b2G v 1 5 9 13 (look s[2]!) (look s[3]!)
  let v := b2G v 2 6 10 14 (look s[4]!) (look s[5]!)
  let v := b2G v 3 7 11 15 (look s[6]!) (look s[7]!)
  let v := b2G v 0 5 10 15 (look s[8]!) (look s[9]!)
  let v := b2G v 1 6 11 12 (look s[10]!) (look s[11]!)
  let v := b2G v 2 7 8 13 (look s[12]!) (look s[13]!)
  b2G v 3 4 9 14 (look s[14]!) (look s[15]!)

/-- One round on the sixteen words of `v`.  On a list of another length, which does not arise, it is `b2Round`, so
that `b2Round_eq` needs no hypothesis on the length. -/
def b2RoundEval (look : Nat → UInt64) (s : Array Nat) : List UInt64 → List UInt64
  | [v0, v1, v2, v3, v4, v5, v6, v7, v8, v9, v10, v11, v12, v13, v14, v15] =>
    match b2Mix v0 v4 v8 v12 (look s[0]!) (look s[1]!), b2Mix v1 v5 v9 v13 (look s[2]!) (look s[3]!),
        b2Mix v2 v6 v10 v14 (look s[4]!) (look s[5]!), b2Mix v3 v7 v11 v15 (look s[6]!) (look s[7]!) with
    | (v0, v4, v8, v12), (v1, v5, v9, v13), (v2, v6, v10, v14), (v3, v7, v11, v15) =>
    match b2Mix v0 v5 v10 v15 (look s[8]!) (look s[9]!), b2Mix v1 v6 v11 v12 (look s[10]!) (look s[11]!),
        b2Mix v2 v7 v8 v13 (look s[12]!) (look s[13]!), b2Mix v3 v4 v9 v14 (look s[14]!) (look s[15]!) with
    | (v0, v5, v10, v15), (v1, v6, v11, v12), (v2, v7, v8, v13), (v3, v4, v9, v14) =>
      [v0, v1, v2, v3, v4, v5, v6, v7, v8, v9, v10, v11, v12, v13, v14, v15]
  | v => (b2Round look s v.toArray).toList

theorem b2Round_eq (look : Nat → UInt64) (s : Array Nat) (v : List UInt64) :
    b2Round look s v.toArray = (b2RoundEval look s v).toArray := by
  unfold b2RoundEval
  split
  · simp only [b2Round, b2G, b2Mix, List.getElem!_toArray, List.getElem!_cons_zero, List.getElem!_cons_succ, Array.set!,
      List.setIfInBounds_toArray, List.set_cons_zero, List.set_cons_succ]
  · rw [Array.toArray_toList]

def b2CompressEval (h : Array UInt64) (l : List UInt8) (t : Nat) (last : Bool) : Array UInt64 :=
  let m := beWords 8 leWord64 16 l
  let v := h.toList ++ blake2bIV.toList
  let v := v.set 12 (v[12]! ^^^ UInt64.ofNat (t % 2^64))
  let v := v.set 13 (v[13]! ^^^ UInt64.ofNat (t / 2^64))
  let v := if last then v.set 14 (~~~ v[14]!) else v
  let v := blake2bSigma.toList.foldl (fun v s => b2RoundEval (m[·]!) s v) v
  (List.range' 0 8).foldl (fun out i => out.set! i (h[i]! ^^^ v[i]! ^^^ v[i+8]!)) h

theorem b2Compress_eq (h : Array UInt64) (blk : Array UInt8) (off t : Nat) (last : Bool) :
    b2Compress h blk off t last = b2CompressEval h (blk.toList.drop off) t last := by
  have hv : h ++ blake2bIV = (h.toList ++ blake2bIV.toList).toArray := by
    rw [← Array.toList_append, Array.toArray_toList]
  have hr (look : Nat → UInt64) (v : List UInt64) :
      (List.range' 0 12).foldl (fun v r => b2Round look blake2bSigma[r]! v) v.toArray =
        (blake2bSigma.toList.foldl (fun v s => b2RoundEval look s v) v).toArray := by
    rw [← map_getElem!_range' blake2bSigma 12 rfl, List.foldl_map]
    exact List.foldl_hom List.toArray fun v r => b2Round_eq look _ v
  cases last
  all_goals
    refine (fill_foldl_eq 0 (fun i => le64 blk (off + 8 * i)) (fun look v r => b2Round look blake2bSigma[r]! v)
      (fun v => Id.run do
        let mut out := h
        for i in [0:8] do
          out := out.set! i (h[i]! ^^^ v[i]! ^^^ v[i+8]!)
        return out) 12 _).trans ?_
    simp only [forIn_range_eq_foldl, Nat.sub_zero, hv, Array.set!, List.setIfInBounds_toArray, List.getElem!_toArray, hr,
      map_range'_eq_beWords le64 leWord64 le64_eq, Nat.mul_zero, Nat.add_zero]
    rfl

def blake2bEval (outLen : Nat) (msg : List UInt8) : List UInt8 :=
  let n := msg.length
  let nblocks := if n = 0 then 1 else (n + 127) / 128
  let padded := msg ++ List.replicate (nblocks * 128 - n) 0
  let h := (List.range' 0 nblocks).foldl (fun h i =>
      let last := i + 1 == nblocks
      b2CompressEval h (padded.drop (128 * i)) (if last then n else 128 * (i + 1)) last)
    (blake2bIV.set! 0 (blake2bIV[0]! ^^^ 0x01010000 ^^^ UInt64.ofNat outLen))
  (h.toList.flatMap u64le).take outLen

theorem blake2b_eq_eval : blake2b = blake2bEval := by
  funext outLen msg
  simp only [blake2b, forIn_range_eq_foldl, bind_pure_comp, map_pure, Id.run_pure, b2Compress_eq, Nat.sub_zero]
  rfl

end Iota.Proofs.Hash
