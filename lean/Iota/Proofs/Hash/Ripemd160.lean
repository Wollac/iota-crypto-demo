/-
`Hash.ripemd160 = ripemd160Eval`, for the known-answer vectors that go through RIPEMD-160.

The model (Iota/Model/Hash/Ripemd160.lean) reads `rmdR[j]!`, `rmdS[j]!`, `rmdR'[j]!`, `rmdS'[j]!` in each of the 80
steps of a block, and every such read walks an 80-element list from its head: that is most of what the kernel
pays for a block.  Here the four tables are zipped once with the step numbers, the two message words of a step
are put beside them, and the steps are a fold over that list.  Core Lean only.
-/
import Iota.Model.Hash.Ripemd160
import Iota.Proofs.Hash.Sha2

namespace Iota.Proofs.Hash
open Iota.Hash Sha2

def leWord32 (l : List UInt8) : UInt32 :=
  (l.getD 0 0).toUInt32 ||| ((l.getD 1 0).toUInt32 <<< 8) ||| ((l.getD 2 0).toUInt32 <<< 16) |||
    ((l.getD 3 0).toUInt32 <<< 24)

theorem le32_eq (b : Array UInt8) (i : Nat) : le32 b i = leWord32 (b.toList.drop i) := by
  rw [le32, ← Nat.add_zero i, Nat.add_assoc, Nat.add_assoc, Nat.add_assoc]
  simp only [getElem!_eq_getD_drop]
  rfl

/-- The registers `a b c d e` of the left line and `a' b' c' d' e'` of the right line. -/
abbrev Lines := UInt32 × UInt32 × UInt32 × UInt32 × UInt32 × UInt32 × UInt32 × UInt32 × UInt32 × UInt32

/-- Step `j` of both lines, with the message words `w`, `w'` and the rotation amounts `s`, `s'` of that step. -/
def step160 : Lines → Nat × UInt32 × Nat × UInt32 × Nat → Lines
  | (a, b, c, d, e, a', b', c', d', e'), (j, w, s, w', s') =>
    (e, rotl32 (a + rmdF j b c d + w + rmdK j) (UInt32.ofNat s) + e, b, rotl32 c 10, d,
     e', rotl32 (a' + rmdF (79 - j) b' c' d' + w' + rmdK' j) (UInt32.ofNat s') + e', b', rotl32 c' 10, d')

def out160 (h : Array UInt32) : Lines → Array UInt32
  | (a, b, c, d, e, a', b', c', d', e') =>
    #[h[1]! + c + d', h[2]! + d + e', h[3]! + e + a', h[4]! + a + b', h[0]! + b + c']

def block160 (h : Array UInt32) (l : List UInt8) : Array UInt32 :=
  let x := beWords 4 leWord32 16 l
  out160 h (((List.range' 0 80).zip ((rmdR.toList.map (x[·]!)).zip (rmdS.toList.zip
      ((rmdR'.toList.map (x[·]!)).zip rmdS'.toList)))).foldl step160
    (h[0]!, h[1]!, h[2]!, h[3]!, h[4]!, h[0]!, h[1]!, h[2]!, h[3]!, h[4]!))

def ripemd160Eval (msg : List UInt8) : List UInt8 :=
  let l := msg.length
  let lenEnc := (List.range 8).map fun i => UInt8.ofNat (((l * 8) >>> (8 * i)) % 256)
  let p := msg ++ [0x80] ++ List.replicate ((64 - (l + 9) % 64) % 64) 0 ++ lenEnc
  (blocks block160 64 (p.length / 64) p
    #[0x67452301, 0xefcdab89, 0x98badcfe, 0x10325476, 0xc3d2e1f0]).toList.flatMap u32le

/-- The body of the block loop of `Hash.ripemd160` (its last line copies the five words into a new array), for the
chaining value `h` and the block at `off` of the padded message `p`. -/
theorem block160_eq (h : Array UInt32) (p : Array UInt8) (off : Nat) :
    (Id.run do
      let mut x : Array UInt32 := Array.replicate 16 0
      for i in [0:16] do
        x := x.set! i (le32 p (off + 4 * i))
      let mut a := h[0]!; let mut b := h[1]!; let mut c := h[2]!; let mut d := h[3]!; let mut e := h[4]!
      let mut a' := h[0]!; let mut b' := h[1]!; let mut c' := h[2]!; let mut d' := h[3]!; let mut e' := h[4]!
      for j in [0:80] do
        let t := rotl32 (a + rmdF j b c d + x[rmdR[j]!]! + rmdK j) (UInt32.ofNat rmdS[j]!) + e
        a := e; e := d; d := rotl32 c 10; c := b; b := t
        let t' := rotl32 (a' + rmdF (79 - j) b' c' d' + x[rmdR'[j]!]! + rmdK' j) (UInt32.ofNat rmdS'[j]!) + e'
        a' := e'; e' := d'; d' := rotl32 c' 10; c' := b'; b' := t'
      return #[h[1]! + c + d', h[2]! + d + e', h[3]! + e + a', h[4]! + a + b', h[0]! + b + c']) =
    block160 h (p.toList.drop off) := by
  refine (fill_foldl_eq 0 (fun i => le32 p (off + 4 * i))
    (fun x s j => step160 s (j, x rmdR[j]!, rmdS[j]!, x rmdR'[j]!, rmdS'[j]!)) (out160 h) 80
    (h[0]!, h[1]!, h[2]!, h[3]!, h[4]!, h[0]!, h[1]!, h[2]!, h[3]!, h[4]!)).trans ?_
  -- each table is the list of its reads, so the zipped tables are the list of what step `j` reads, `j` in `[0:80]`
  rw [block160, ← map_getElem!_range' rmdR 80 rfl, ← map_getElem!_range' rmdS 80 rfl,
    ← map_getElem!_range' rmdR' 80 rfl, ← map_getElem!_range' rmdS' 80 rfl, List.map_map, List.map_map,
    List.zip_map', List.zip_map', List.zip_map', List.zip_eq_zipWith, List.zipWith_map_right, List.zipWith_self,
    List.foldl_map, map_range'_eq_beWords le32 leWord32 le32_eq, Nat.mul_zero, Nat.add_zero]
  rfl

theorem ripemd160_eq_eval : ripemd160 = ripemd160Eval := by
  funext msg
  have hp (p : Array UInt8) := forIn_range_eq_foldl 0 (p.size / 64)
    (#[0x67452301, 0xefcdab89, 0x98badcfe, 0x10325476, 0xc3d2e1f0] : Array UInt32)
    (fun blk h => block160 h (p.toList.drop (64 * blk)))
  conv at hp => intro p; lhs; simp only [← block160_eq]
  -- the left side of `hp _` is the block loop of `Hash.ripemd160` by unfolding alone
  refine (congrArg (fun r => (Id.run r).toList.flatMap u32le) (hp _)).trans ?_
  rw [Id.run_pure, Nat.sub_zero, foldl_drop_eq_blocks, Nat.mul_zero, List.drop_zero]
  rfl

end Iota.Proofs.Hash
