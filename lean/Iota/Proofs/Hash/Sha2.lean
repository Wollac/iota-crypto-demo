/-
SHA-256 and SHA-512 in a shape the kernel evaluates in time linear in the message, and the loop lemmas by which
Sha256.lean and Sha512.lean prove that shape equal to the model (Iota/Model/Hash/SHA2.lean) on every input;
Ripemd160.lean and Blake2b.lean do the same for their hashes with the same lemmas.

The model's block function fills an array `w` with `set!` inside `for` loops and reads it back with `w[i]!`.
The kernel evaluates lazily: the array becomes a chain of as many nested `set!` as there were steps, and each
`w[i]!` walks down that chain again; a byte of the padded message read as `b[off + j]!` likewise costs a walk
from the start of the message.  Here the schedule is a list grown at its head by structural recursion, the
rounds are a fold over the round constants zipped with the schedule, and words and blocks are taken off the
front of the message as it is consumed.  Everything is over a variable word type, so that the two hashes differ
only in their four sigma functions, constants and word decoding.  Core Lean only.
-/
import Iota.Model.Hash.SHA2

namespace Iota.Proofs.Hash.Sha2

theorem forIn_range_eq_foldl {β : Type} (a b : Nat) (init : β) (f : Nat → β → β) :
    forIn (m := Id) [a:b] init (fun i s => pure (ForInStep.yield (f i s))) =
      pure ((List.range' a (b - a)).foldl (fun s i => f i s) init) := by
  rw [Std.Legacy.Range.forIn_eq_forIn_range', List.forIn_pure_yield_eq_foldl]
  simp [Std.Legacy.Range.size]

variable {α : Type}

theorem set!_append_cons (pre rest : List α) (x y : α) :
    (pre ++ x :: rest).toArray.set! pre.length y = (pre ++ y :: rest).toArray := by
  simp [Array.set!]

theorem getElem!_reverse_append [Inhabited α] (ws rest : List α) (j : Nat) (h0 : 0 < j) (hj : j ≤ ws.length) :
    (ws.reverse ++ rest).toArray[ws.length - j]! = ws.getD (j - 1) default := by
  have h1 : ws.length - j < ws.reverse.length := by simp; omega
  simp [List.getElem?_append_left h1, List.getD_eq_getElem?_getD,
    List.getElem?_reverse' (show ws.length - j + (j - 1) + 1 = ws.length by omega)]

/-- The message schedule as a list, newest word first: `n` more words on top of `ws`, each computed by `g`
from the words 16, 15, 7 and 2 places back. -/
def schedule [Inhabited α] (g : α → α → α → α → α) : Nat → List α → List α
  | 0, ws => ws
  | n+1, ws =>
    schedule g n (g (ws.getD 15 default) (ws.getD 14 default) (ws.getD 6 default) (ws.getD 1 default) :: ws)

theorem length_schedule [Inhabited α] (g : α → α → α → α → α) (n : Nat) (ws : List α) :
    (schedule g n ws).length = n + ws.length := by
  induction n generalizing ws with
  | zero => simp [schedule]
  | succ n ih => rw [schedule, ih, List.length_cons]; omega

/- The invariant of the schedule loop: when the step for index `i` runs, the array holds the `i` words known so
far (`ws`, newest first, so the array begins with `ws.reverse`) and then padding.  As `i = ws.length`, the reads
at `i-16`, `i-15`, `i-7`, `i-2` are `ws[15]`, `ws[14]`, `ws[6]`, `ws[1]`, and the write at `i` replaces the first
padding word; the induction is on the number of steps still to run, with `ws` generalised. -/
theorem foldl_set!_eq_schedule [Inhabited α] (g : α → α → α → α → α) (pad : α) (n k : Nat) (ws : List α)
    (h : 16 ≤ ws.length) :
    (List.range' ws.length n).foldl
        (fun (w : Array α) i => w.set! i (g w[i-16]! w[i-15]! w[i-7]! w[i-2]!))
        (ws.reverse ++ List.replicate (n + k) pad).toArray =
      ((schedule g n ws).reverse ++ List.replicate k pad).toArray := by
  induction n generalizing ws with
  | zero => simp [schedule]
  | succ n ih =>
    rw [List.range'_succ, List.foldl_cons, Nat.add_right_comm, List.replicate_succ,
      getElem!_reverse_append _ _ 16 (by omega) h, getElem!_reverse_append _ _ 15 (by omega) (by omega),
      getElem!_reverse_append _ _ 7 (by omega) (by omega), getElem!_reverse_append _ _ 2 (by omega) (by omega),
      ← List.length_reverse, set!_append_cons, List.length_reverse]
    have := ih (g (ws.getD 15 default) (ws.getD 14 default) (ws.getD 6 default) (ws.getD 1 default) :: ws)
      (by simp; omega)
    simpa [schedule] using this

theorem foldl_set!_eq_map (f : Nat → α) (pad : α) (n k : Nat) (pre : List α) :
    (List.range' pre.length n).foldl (fun (w : Array α) i => w.set! i (f i))
        (pre ++ List.replicate (n + k) pad).toArray =
      (pre ++ (List.range' pre.length n).map f ++ List.replicate k pad).toArray := by
  induction n generalizing pre with
  | zero => simp
  | succ n ih =>
    rw [List.range'_succ, List.foldl_cons, Nat.add_right_comm, List.replicate_succ, set!_append_cons]
    simpa using ih (pre ++ [f pre.length])

theorem map_getElem!_range' [Inhabited α] (ks : Array α) (n : Nat) (h : ks.size = n) :
    (List.range' 0 n).map (fun i => ks[i]!) = ks.toList := by
  subst h
  apply List.ext_getElem
  · simp
  · intro i h1 h2
    simp at h1
    simp [h1]

theorem foldl_getElem!_eq_foldl_zip {σ κ : Type} [Inhabited κ] [Inhabited α] (step : σ → κ → α → σ)
    (ks : Array κ) (ws : List α) (h : ks.size = ws.length) (init : σ) :
    (List.range' 0 ks.size).foldl (fun s i => step s ks[i]! ws.toArray[i]!) init =
      (ks.toList.zip ws).foldl (fun s kw => step s kw.1 kw.2) init := by
  have hz : ks.toList.zip ws = (List.range' 0 ks.size).map fun i => (ks[i]!, ws.toArray[i]!) := by
    rw [← List.zip_map', map_getElem!_range' ks _ rfl, map_getElem!_range' ws.toArray _ (h ▸ List.size_toArray)]
  rw [hz, List.foldl_map]

/-- A loop that fills 16 words and a loop that folds `step` over `[0:n]` reading them (`look r` is `x[r]!`), as in
`Hash.ripemd160` and `Hash.b2Compress`: the reads become reads of the list of decoded words. -/
theorem fill_foldl_eq {σ ρ : Type} [Inhabited α] (zero : α) (dec : Nat → α) (step : (Nat → α) → σ → Nat → σ)
    (fin : σ → ρ) (n : Nat) (init : σ) :
    (Id.run do
      let mut x : Array α := Array.replicate 16 zero
      for i in [0:16] do
        x := x.set! i (dec i)
      let mut s := init
      for j in [0:n] do
        s := step (fun r => x[r]!) s j
      return fin s) =
    fin ((List.range' 0 n).foldl (step (fun r => ((List.range' 0 16).map dec)[r]!)) init) := by
  have h1 := foldl_set!_eq_map dec zero 16 0 []
  simp only [List.length_nil, List.nil_append, Nat.add_zero, List.replicate_zero, List.append_nil,
    List.toArray_replicate] at h1
  simp only [forIn_range_eq_foldl, bind_pure_comp, map_pure, Id.run_pure, Nat.sub_zero, h1, List.getElem!_toArray]

/-- One compression: the schedule grown from the 16 message words `w16`, then one `step` per round constant. -/
def compress {σ κ : Type} [Inhabited α] (g : α → α → α → α → α) (step : σ → κ → α → σ) (ks : List κ) (n : Nat)
    (init : σ) (w16 : List α) : σ :=
  (ks.zip (schedule g n w16.reverse).reverse).foldl (fun s kw => step s kw.1 kw.2) init

/-- The three loops of `sha256Block` and `sha512Block`, with the word decoding `dec`, the schedule function `g`,
the round `step` and the final addition `fin` left open: both model functions are instances of the left side
by unfolding alone. -/
theorem block_eq {σ κ ρ : Type} [Inhabited α] [Inhabited κ] (zero : α) (dec : Nat → α) (g : α → α → α → α → α)
    (step : σ → κ → α → σ) (fin : σ → ρ) (ks : Array κ) (n : Nat) (hks : ks.size = 16 + n) (init : σ) :
    (Id.run do
      let mut w : Array α := Array.replicate (16 + n) zero
      for i in [0:16] do
        w := w.set! i (dec i)
      for i in [16:16+n] do
        w := w.set! i (g w[i-16]! w[i-15]! w[i-7]! w[i-2]!)
      let mut s := init
      for i in [0:16+n] do
        s := step s ks[i]! w[i]!
      return fin s) =
    fin (compress g step ks.toList n init ((List.range' 0 16).map dec)) := by
  have h1 := foldl_set!_eq_map dec zero 16 n []
  have h2 := foldl_set!_eq_schedule g zero n 0 ((List.range' 0 16).map dec).reverse (by simp)
  simp only [List.length_nil, List.nil_append, List.length_reverse, List.length_map, List.length_range',
    List.reverse_reverse, Nat.add_zero, List.replicate_zero, List.append_nil, List.toArray_replicate] at h1 h2
  simp only [forIn_range_eq_foldl, bind_pure_comp, map_pure, Id.run_pure]
  rw [Nat.sub_zero, Nat.add_sub_cancel_left, Nat.sub_zero, h1, h2, ← hks, foldl_getElem!_eq_foldl_zip]
  · rfl
  · simp [length_schedule, hks, Nat.add_comm]

section Word
variable [Inhabited α] [Add α] [AndOp α] [XorOp α] [Complement α] (ssig0 ssig1 bsig0 bsig1 : α → α)

def sched (w16 w15 w7 w2 : α) : α :=
  w16 + ssig0 w15 + w7 + ssig1 w2

abbrev State (α : Type) := α × α × α × α × α × α × α × α

def round : State α → α → α → State α
  | (a, b, c, d, e, f, g, h), k, w =>
    let t1 := h + bsig1 e + ((e &&& f) ^^^ (~~~e &&& g)) + k + w
    let t2 := bsig0 a + ((a &&& b) ^^^ (a &&& c) ^^^ (b &&& c))
    (t1 + t2, a, b, c, d + t1, e, f, g)

def addState (h : Array α) : State α → Array α
  | (a, b, c, d, e, f, g, hh) =>
    #[h[0]! + a, h[1]! + b, h[2]! + c, h[3]! + d, h[4]! + e, h[5]! + f, h[6]! + g, h[7]! + hh]

/-- The block function of FIPS 180-4 on the 16 words `w16` of a block, with the small and big sigmas and the
round constants `ks` (64 of 32 bits or 80 of 64 bits) as parameters. -/
def block (ks : List α) (h : Array α) (w16 : List α) : Array α :=
  addState h (compress (sched ssig0 ssig1) (round bsig0 bsig1) ks (ks.length - 16)
    (h[0]!, h[1]!, h[2]!, h[3]!, h[4]!, h[5]!, h[6]!, h[7]!) w16)

end Word

/-- `n` consecutive words of `c` bytes each, the first at the head of the list. -/
def beWords (c : Nat) (dec : List UInt8 → α) : Nat → List UInt8 → List α
  | 0, _ => []
  | n+1, l => dec l :: beWords c dec n (l.drop c)

theorem map_range'_eq_beWords (dec : Array UInt8 → Nat → α) (decL : List UInt8 → α)
    (hdec : ∀ b i, dec b i = decL (b.toList.drop i)) (c n s : Nat) (b : Array UInt8) (off : Nat) :
    (List.range' s n).map (fun i => dec b (off + c * i)) = beWords c decL n (b.toList.drop (off + c * s)) := by
  induction n generalizing s with
  | zero => rfl
  | succ n ih =>
    rw [List.range'_succ, List.map_cons, ih, hdec, beWords, List.drop_drop, Nat.mul_succ, Nat.add_assoc]

theorem getElem!_eq_getD_drop [Inhabited α] (b : Array α) (i k : Nat) :
    b[i + k]! = (b.toList.drop i).getD k default := by
  simp [List.getD_eq_getElem?_getD, Array.getElem!_eq_getD, Array.getD_eq_getD_getElem?]

def beWord32 (l : List UInt8) : UInt32 :=
  ((l.getD 0 0).toUInt32 <<< 24) ||| ((l.getD 1 0).toUInt32 <<< 16) ||| ((l.getD 2 0).toUInt32 <<< 8) |||
    (l.getD 3 0).toUInt32

theorem be32_eq (b : Array UInt8) (i : Nat) : Iota.Hash.be32 b i = beWord32 (b.toList.drop i) := by
  rw [Iota.Hash.be32, ← Nat.add_zero i, Nat.add_assoc, Nat.add_assoc, Nat.add_assoc]
  simp only [getElem!_eq_getD_drop]
  rfl

def beWord64 (l : List UInt8) : UInt64 :=
  ((beWord32 l).toUInt64 <<< 32) ||| (beWord32 (l.drop 4)).toUInt64

theorem be64_eq (b : Array UInt8) (i : Nat) : Iota.Hash.be64 b i = beWord64 (b.toList.drop i) := by
  rw [Iota.Hash.be64, be32_eq, be32_eq, beWord64, List.drop_drop]

/-- Fold `f` over `n` consecutive blocks of `c` bytes. -/
def blocks {β : Type} (f : β → List UInt8 → β) (c : Nat) : Nat → List UInt8 → β → β
  | 0, _, s => s
  | n+1, l, s => blocks f c n (l.drop c) (f s l)

theorem foldl_drop_eq_blocks {β : Type} (f : β → List UInt8 → β) (c n s : Nat) (l : List UInt8) (init : β) :
    (List.range' s n).foldl (fun h i => f h (l.drop (c * i))) init = blocks f c n (l.drop (c * s)) init := by
  induction n generalizing s init with
  | zero => rfl
  | succ n ih => rw [List.range'_succ, List.foldl_cons, ih, blocks, List.drop_drop, Nat.mul_succ]

end Iota.Proofs.Hash.Sha2
