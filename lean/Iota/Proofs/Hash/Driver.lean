/-
The hash instances of the SLIP-0010 driver (Iota/Driver/Slip10.lean) with `sha256Eval`, `sha512Eval` and
`ripemd160Eval` in the place of SHA-256, SHA-512 and RIPEMD-160, for the SLIP-0010 known-answer vectors.  Core Lean only.
-/
import Iota.Driver.Slip10
import Iota.Proofs.Hash.Sha256
import Iota.Proofs.Hash.Ripemd160
import Iota.Proofs.Hash.EdLib

namespace Iota.Proofs.Hash
open Iota Iota.Driver.Slip10

theorem hmac512_eq_eval : hmac512 = Hash.hmac sha512Eval 128 :=
  hmacSha512_eq_eval

theorem hash160_eq_eval : hash160 = fun b => ripemd160Eval (sha256Eval b) := by
  unfold hash160
  rw [sha256_eq_eval, ripemd160_eq_eval]

theorem edPublic_eq_eval : edPublic = fun seed =>
    match Ed25519.newKeyFromSeed edLibEval seed with
    | some k => k.drop 32
    | none => [] := by
  funext seed
  rw [edPublic, edLib_eq_eval]
  rfl

end Iota.Proofs.Hash
