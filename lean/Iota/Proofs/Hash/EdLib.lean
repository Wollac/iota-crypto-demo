/-
The driver's curve library `Ed25519.edLib` with `sha512Eval` in the place of `Hash.sha512`, for the known-answer
vectors of Ed25519, ECVRF and SLIP-0010 on ed25519.  Core Lean only.
-/
import Iota.Model.Ed25519
import Iota.Proofs.Hash.Sha512

namespace Iota.Proofs.Hash
open Iota

def edLibEval : Ed25519.EdLib Edwards.Point :=
  { add := Edwards.add, neg := Edwards.neg, zero := Edwards.zero, smul := Edwards.smul, base := Edwards.base,
    decode := Edwards.decodePermissive, encode := Edwards.encode, eq := Edwards.eq, sha512 := sha512Eval }

theorem edLib_eq_eval : Ed25519.edLib = edLibEval := by
  rw [Ed25519.edLib, sha512_eq_eval, edLibEval]

end Iota.Proofs.Hash
