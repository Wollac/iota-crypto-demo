/-
`Hash.sha256 = sha256Eval`: the instance of the list recursion of Sha2.lean with the constants of SHA-256, for
the known-answer vectors that go through SHA-256.  Core Lean only.
-/
import Iota.Proofs.Hash.Sha2

namespace Iota.Proofs.Hash
open Iota.Hash Sha2

namespace Sha256
def ssig0 (x : UInt32) : UInt32 := rotr32 x 7 ^^^ rotr32 x 18 ^^^ (x >>> 3)
def ssig1 (x : UInt32) : UInt32 := rotr32 x 17 ^^^ rotr32 x 19 ^^^ (x >>> 10)
def bsig0 (x : UInt32) : UInt32 := rotr32 x 2 ^^^ rotr32 x 13 ^^^ rotr32 x 22
def bsig1 (x : UInt32) : UInt32 := rotr32 x 6 ^^^ rotr32 x 11 ^^^ rotr32 x 25
end Sha256
open Sha256

def block256 (h : Array UInt32) (l : List UInt8) : Array UInt32 :=
  block ssig0 ssig1 bsig0 bsig1 k256.toList h (beWords 4 beWord32 16 l)

def sha256Eval (msg : List UInt8) : List UInt8 :=
  let p := mdPad msg 64 8
  (blocks block256 64 (p.size / 64) p.toList
    #[0x6a09e667, 0xbb67ae85, 0x3c6ef372, 0xa54ff53a, 0x510e527f, 0x9b05688c, 0x1f83d9ab, 0x5be0cd19]).toList.flatMap u32be

theorem sha256Block_eq (h : Array UInt32) (b : Array UInt8) (off : Nat) :
    sha256Block h b off = block256 h (b.toList.drop off) := by
  rw [block256, ← Nat.add_zero off, ← Nat.mul_zero 4, ← map_range'_eq_beWords be32 beWord32 be32_eq]
  exact block_eq 0 (fun i => be32 b (off + 4 * i)) (sched ssig0 ssig1) (round bsig0 bsig1) (addState h) k256 48 rfl _

theorem sha256_eq_eval : sha256 = sha256Eval := by
  funext msg
  simp only [sha256, sha256Eval, forIn_range_eq_foldl, bind_pure_comp, map_pure, Id.run_pure, sha256Block_eq]
  rw [Nat.sub_zero, foldl_drop_eq_blocks, Nat.mul_zero, List.drop_zero]

end Iota.Proofs.Hash
