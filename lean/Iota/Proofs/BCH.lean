import Iota.Proofs.BCH.Finite
/-!
C16: the Bech32 checksum detects every error pattern of weight 1…4 confined to a window of 89
symbols.

`polymod` is affine over GF(2), so `polymod v' = polymod v ^^^ Lr e.reverse` with `e = v ⊕ v'` and `Lr` the
syndrome map (`Algebra`).  Shift normal form: leading zeros of `e` do not contribute, trailing zeros
are removed by the injective shift `XN`, and the lowest nonzero symbol `a < 32` only touches the low
five bits of the syndrome.  What remains is: no XOR of at most three shifted nonzero symbols
`Xn m b ^^^ Xn i c ^^^ Xn j d` at distinct distances `1…88` has all its upper 25 bits zero.  Scaling
normal form: the code is linear over GF(32) = GF(2)[x]/(x⁵+x³+1), so the three symbols may be
multiplied by `c⁻¹` and `c = 1` (`Scalar`).  The rest is finite and checked by kernel evaluation
(`Cert/K`, `Finite`): the 88·31 keys `Xn m b >>> 5` are distinct and nonzero, and none of them is
the key of a pair `Xn i 1 ^^^ Xn j d`, `i < j` (C(88,2)·31 = 118 668 pairs).
-/
namespace Iota.Proofs.BCH
open Iota.Bech32

/-- number of positions where two equal-length lists differ -/
def hamming : List UInt8 → List UInt8 → Nat
  | a :: as, b :: bs => (if a = b then 0 else 1) + hamming as bs
  | _, _ => 0

/-- every position where the lists differ is among the last `w` positions -/
def DiffWithinLast (w : Nat) (v v' : List UInt8) : Prop :=
  ∀ i, i < v.length → v[i]? ≠ v'[i]? → v.length ≤ i + w

/-! ### weight of a word -/

/-- number of nonzero symbols -/
def wt (r : List UInt8) : Nat := r.countP (· != 0)

theorem wt_cons_zero (r : List UInt8) : wt (0 :: r) = wt r := by
  simp [wt]

theorem wt_cons_ne (a : UInt8) (r : List UInt8) (h : a ≠ 0) : wt (a :: r) = wt r + 1 := by
  simp [wt, h]

theorem wt_zeros_append (k : Nat) (r : List UInt8) : wt (List.replicate k 0 ++ r) = wt r := by
  simp [wt, List.countP_append, List.countP_replicate]

theorem wt_eq_zero (r : List UInt8) : wt r = 0 ↔ ∀ x ∈ r, x = 0 := by
  simp [wt, List.countP_eq_zero]

/-- a word of positive weight: zeros, then a nonzero symbol, then a word of weight one less. -/
theorem shape (r : List UInt8) (h : 0 < wt r) :
    ∃ k b r', r = List.replicate k 0 ++ b :: r' ∧ b ≠ 0 ∧ wt r = wt r' + 1 := by
  induction r with
  | nil => simp [wt] at h
  | cons a r ih =>
    by_cases ha : a = 0
    · subst ha
      rw [wt_cons_zero] at h ⊢
      obtain ⟨k, b, r', hr, hb, hw⟩ := ih h
      exact ⟨k + 1, b, r', by rw [hr, List.replicate_succ, List.cons_append], hb, hw⟩
    · exact ⟨0, a, r, rfl, ha, wt_cons_ne a r ha⟩

/-! ### the syndrome of a sparse word -/

/-- the nonzero symbol of `r` nearest to distance `s` splits off the syndrome. -/
theorem peel (s : Nat) (r : List UInt8) (hr : ∀ x ∈ r, x.toNat < 32) (h : wt r ≠ 0) :
    ∃ m b r', s < m ∧ m + r'.length = s + r.length ∧ 1 ≤ b ∧ b < 32 ∧ (∀ x ∈ r', x.toNat < 32) ∧
      wt r = wt r' + 1 ∧ Xn s (XN (Lr r)) = Xn m b ^^^ Xn m (XN (Lr r')) := by
  obtain ⟨k, b, r', rfl, hb, hw⟩ := shape r (by omega)
  have hb32 := hr b (by simp)
  have hb1 : b.toNat ≠ 0 := fun h0 => hb (UInt8.toNat_inj.mp h0)
  refine ⟨s + k + 1, b.toNat, r', by omega, by simp; omega, by omega, hb32,
    fun x hx => hr x (by simp [hx]), hw, ?_⟩
  rw [Lr_zeros_append, Lr_cons, show XN (Xn k (XN (Lr r') ^^^ b.toNat)) =
    Xn (k + 1) (XN (Lr r') ^^^ b.toNat) from rfl, ← Xn_add, Nat.add_assoc,
    Xn_xor _ _ _ (XN_lt _) (by omega), Nat.xor_comm]

theorem XN_Lr_zero (s : Nat) (r : List UInt8) (h : wt r = 0) : Xn s (XN (Lr r)) = 0 := by
  rw [Lr_allzero r ((wt_eq_zero r).mp h), XN_zero, Xn_zero]

/-- a word of weight at most three on distances `1…88` whose syndrome fits in the low five bits is
zero. -/
theorem W (r : List UInt8) (hlen : r.length ≤ 88) (hr : ∀ x ∈ r, x.toNat < 32) (hw : wt r ≤ 3)
    (h : XN (Lr r) >>> 5 = 0) : Lr r = 0 := by
  by_cases h0 : wt r = 0
  · exact Lr_allzero r ((wt_eq_zero r).mp h0)
  exfalso
  obtain ⟨m, b, r2, hm, hl2, hb1, hb32, hr2, hw2, e1⟩ := peel 0 r hr h0
  rw [show XN (Lr r) = Xn 0 (XN (Lr r)) from rfl, e1] at h
  by_cases h2 : wt r2 = 0
  · rw [XN_Lr_zero m r2 h2, Nat.xor_zero] at h
    exact K1 m (by omega) (by omega) b hb1 hb32 h
  obtain ⟨i, c, r3, hi, hl3, hc1, hc32, hr3, hw3, e2⟩ := peel m r2 hr2 h2
  rw [e2] at h
  by_cases h3 : wt r3 = 0
  · rw [XN_Lr_zero i r3 h3, Nat.xor_zero] at h
    exact K2 m i (by omega) hi (by omega) b c hb1 hb32 hc1 hc32 h
  obtain ⟨j, d, r4, hj, hl4, hd1, hd32, -, hw4, e3⟩ := peel i r3 hr3 h3
  rw [e3, XN_Lr_zero j r4 (by omega), Nat.xor_zero] at h
  exact K3 m i j (by omega) hi hj (by omega) b c d hb1 hb32 hc1 hc32 hd1 hd32 h

/-- a word of weight 1…4 on distances `0…88` has a nonzero syndrome. -/
theorem Lr_ne_zero (r : List UInt8) (hlen : r.length ≤ 89) (hr : ∀ x ∈ r, x.toNat < 32)
    (h1 : 1 ≤ wt r) (h4 : wt r ≤ 4) : Lr r ≠ 0 := by
  intro h
  obtain ⟨k, a, r1, rfl, ha, hw⟩ := shape r (by omega)
  rw [Lr_zeros_append] at h
  have h := Xn_inj0 k _ (Lr_lt _) h
  rw [Lr_cons] at h
  have h := eq_of_xor_eq_zero h
  have ha32 := hr a (by simp)
  simp only [List.length_append, List.length_replicate, List.length_cons] at hlen
  have hz : Lr r1 = 0 := by
    refine W r1 (by omega) (fun x hx => hr x (by simp [hx])) (by omega) ?_
    rw [h, Nat.shiftRight_eq_div_pow]; omega
  rw [hz, XN_zero] at h
  exact ha (UInt8.toNat_inj.mp h.symm)

/-! ### from the two words to the error word -/

theorem hamming_eq_wt (v v' : List UInt8) : hamming v v' = wt (List.zipWith (· ^^^ ·) v v') := by
  induction v generalizing v' with
  | nil => cases v' <;> simp [hamming, wt]
  | cons a v ih =>
    cases v' with
    | nil => simp [hamming, wt]
    | cons b v' =>
      rw [hamming, ih v', List.zipWith_cons_cons]
      by_cases hab : a = b
      · subst hab; rw [UInt8.xor_self, wt_cons_zero]; simp
      · rw [wt_cons_ne _ _ (fun h => hab (UInt8.xor_eq_zero_iff.mp h))]; simp [hab]; omega

theorem zipWith_xor_lt (v v' : List UInt8) (hv : ∀ x ∈ v, x.toNat < 32)
    (hv' : ∀ x ∈ v', x.toNat < 32) : ∀ x ∈ List.zipWith (· ^^^ ·) v v', x.toNat < 32 := by
  induction v generalizing v' with
  | nil => intro x hx; simp at hx
  | cons a v ih =>
    cases v' with
    | nil => intro x hx; simp at hx
    | cons b v' =>
      intro x hx
      rw [List.zipWith_cons_cons, List.mem_cons] at hx
      rcases hx with rfl | hx
      · rw [UInt8.toNat_xor]
        exact @Nat.xor_lt_two_pow _ _ 5 (hv a (by simp)) (hv' b (by simp))
      · exact ih v' (fun x hx => hv x (by simp [hx])) (fun x hx => hv' x (by simp [hx])) x hx

theorem zipWith_xor_self (p : List UInt8) : List.zipWith (· ^^^ ·) p p = List.replicate p.length 0 := by
  induction p with
  | nil => rfl
  | cons a p ih => rw [List.zipWith_cons_cons, ih, UInt8.xor_self]; rfl

/-- the error word is zero before its last `w` symbols. -/
theorem error_word_take {w : Nat} {v v' : List UInt8} (hlen : v.length = v'.length)
    (hwin : DiffWithinLast w v v') :
    (List.zipWith (· ^^^ ·) v v').take (v.length - w) = List.replicate (v.length - w) 0 := by
  have ht : v.take (v.length - w) = v'.take (v.length - w) := by
    apply List.ext_getElem?
    intro i
    rw [List.getElem?_take, List.getElem?_take]
    split
    · exact Classical.byContradiction fun hne => by have := hwin i (by omega) hne; omega
    · rfl
  rw [List.take_zipWith, ← ht, zipWith_xor_self, List.length_take, Nat.min_eq_left (Nat.sub_le _ _)]

theorem bch_detects (v v' : List UInt8) (hlen : v.length = v'.length)
    (hv : ∀ x ∈ v, x.toNat < 32) (hv' : ∀ x ∈ v', x.toNat < 32)
    (h1 : 1 ≤ hamming v v') (h4 : hamming v v' ≤ 4)
    (hwin : DiffWithinLast 89 v v')
    (hp : polymod v = 1) : polymod v' ≠ 1 := by
  intro hp'
  have hx := polymod_xor v v' hlen
  have hwt := hamming_eq_wt v v'
  have he32 := zipWith_xor_lt v v' hv hv'
  have hz := error_word_take hlen hwin
  have helen : (List.zipWith (· ^^^ ·) v v').length = v.length := by simp [hlen]
  generalize List.zipWith (· ^^^ ·) v v' = e at hx hwt he32 hz helen
  rw [hp, hp'] at hx
  -- the syndrome of the error word vanishes, and so does that of its last 89 symbols
  have hL : Lr e.reverse = 0 := by
    have := xor_cancel 1 (Lr e.reverse)
    rw [← hx] at this
    exact this.symm
  rw [← List.take_append_drop (v.length - 89) e, hz] at hL hwt
  rw [List.reverse_append, List.reverse_replicate,
    Lr_append_allzero _ _ fun x hx => List.eq_of_mem_replicate hx] at hL
  rw [wt_zeros_append, wt, ← List.countP_reverse, ← wt] at hwt
  exact Lr_ne_zero (e.drop (v.length - 89)).reverse (by simp; omega)
    (fun x hx => he32 x (List.mem_of_mem_drop (List.mem_reverse.mp hx))) (by omega) (by omega) hL

end Iota.Proofs.BCH
