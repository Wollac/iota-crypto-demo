/- ASCII case folding, separator search and case validation lemmas for the Bech32 model. -/
import Iota.Proofs.Bech32Checksum
import Iota.Spec.Bip173

namespace Iota.Proofs.Bech32
open Iota.Bech32 Iota.Proofs Iota.Spec.Bip173

/-! ### per-character facts -/

theorem case_facts : ∀ c : UInt8,
    toLowerAscii (toLowerAscii c) = toLowerAscii c ∧ toLowerAscii (toUpperAscii c) = toLowerAscii c ∧
    isUpperAscii (toLowerAscii c) = false ∧ isLowerAscii (toUpperAscii c) = false ∧
    isValidHRPChar (toLowerAscii c) = isValidHRPChar c ∧ isValidHRPChar (toUpperAscii c) = isValidHRPChar c ∧
    (toLowerAscii c = 49 ↔ c = 49) ∧ (toUpperAscii c = 49 ↔ c = 49) ∧
    ((toLowerAscii c).toNat < 128 ↔ c.toNat < 128) ∧ ((toUpperAscii c).toNat < 128 ↔ c.toNat < 128) ∧
    (isUpperAscii c = true → toLowerAscii c ≠ c) ∧ (isLowerAscii c = true → toUpperAscii c ≠ c) := by
  apply forall_byte
  decide +kernel

theorem valid_lower_c (c : UInt8) : isValidHRPChar (toLowerAscii c) = isValidHRPChar c :=
  (case_facts c).2.2.2.2.1
theorem valid_upper_c (c : UInt8) : isValidHRPChar (toUpperAscii c) = isValidHRPChar c :=
  (case_facts c).2.2.2.2.2.1
theorem lower_eq_sep (c : UInt8) : toLowerAscii c = 49 ↔ c = 49 := (case_facts c).2.2.2.2.2.2.1
theorem upper_eq_sep (c : UInt8) : toUpperAscii c = 49 ↔ c = 49 := (case_facts c).2.2.2.2.2.2.2.1
theorem ascii_lower_c (c : UInt8) : (toLowerAscii c).toNat < 128 ↔ c.toNat < 128 :=
  (case_facts c).2.2.2.2.2.2.2.2.1
theorem ascii_upper_c (c : UInt8) : (toUpperAscii c).toNat < 128 ↔ c.toNat < 128 :=
  (case_facts c).2.2.2.2.2.2.2.2.2.1
theorem lower_ne_c (c : UInt8) (h : isUpperAscii c = true) : toLowerAscii c ≠ c :=
  (case_facts c).2.2.2.2.2.2.2.2.2.2.1 h
theorem upper_ne_c (c : UInt8) (h : isLowerAscii c = true) : toUpperAscii c ≠ c :=
  (case_facts c).2.2.2.2.2.2.2.2.2.2.2 h
theorem lower_id_c (c : UInt8) (h : isUpperAscii c = false) : toLowerAscii c = c := by
  simp [toLowerAscii, h]
theorem upper_id_c (c : UInt8) (h : isLowerAscii c = false) : toUpperAscii c = c := by
  simp [toUpperAscii, h]
theorem not_both_c (c : UInt8) : ¬ (isUpperAscii c = true ∧ isLowerAscii c = true) := by
  simp only [isUpperAscii, isLowerAscii, Bool.and_eq_true, decide_eq_true_eq]
  omega
theorem valid_iff_c (c : UInt8) : isValidHRPChar c = true ↔ 33 ≤ c.toNat ∧ c.toNat ≤ 126 := by
  simp [isValidHRPChar]

/-! ### strings -/

theorem lower_length (s : Str) : (lower s).length = s.length := by simp [lower]
theorem upper_length (s : Str) : (upper s).length = s.length := by simp [upper]
theorem lower_append (a b : Str) : lower (a ++ b) = lower a ++ lower b := by simp [lower]
theorem upper_append (a b : Str) : upper (a ++ b) = upper a ++ upper b := by simp [upper]
theorem lower_take (n : Nat) (s : Str) : (lower s).take n = lower (s.take n) := by simp [lower, List.map_take]
theorem lower_drop (n : Nat) (s : Str) : (lower s).drop n = lower (s.drop n) := by simp [lower, List.map_drop]
theorem lower_lower (s : Str) : lower (lower s) = lower s := by
  simp [lower, (case_facts _).1]
theorem lower_upper (s : Str) : lower (upper s) = lower s := by
  simp [lower, upper, (case_facts _).2.1]
theorem lower_sep : lower [separator] = [separator] := by decide

theorem lower_eq_self_iff (s : Str) : lower s = s ↔ ∀ c ∈ s, isUpperAscii c = false := by
  induction s with
  | nil => simp [lower]
  | cons c cs ih =>
    simp only [lower, List.map_cons, List.cons.injEq, List.mem_cons, forall_eq_or_imp] at ih ⊢
    constructor
    · rintro ⟨h1, h2⟩
      refine ⟨?_, ih.mp h2⟩
      cases hu : isUpperAscii c with
      | false => rfl
      | true => exact absurd h1 (lower_ne_c c hu)
    · rintro ⟨h1, h2⟩
      exact ⟨lower_id_c c h1, ih.mpr h2⟩

theorem upper_eq_self_of (s : Str) (h : ∀ c ∈ s, isLowerAscii c = false) : upper s = s := by
  induction s with
  | nil => rfl
  | cons c cs ih =>
    simp only [upper, List.map_cons, List.cons.injEq]
    exact ⟨upper_id_c c (h c (by simp)), ih (fun x hx => h x (by simp [hx]))⟩

/-! ### separator search -/

theorem lastIndexSep_none (s : Str) : lastIndexSep s = none ↔ separator ∉ s := by
  induction s with
  | nil => simp [lastIndexSep]
  | cons c cs ih =>
    simp only [lastIndexSep]
    split
    · rename_i i hi
      simp only [reduceCtorEq, List.mem_cons, not_or, false_iff, not_and, Classical.not_not]
      intro _
      have : ¬ (lastIndexSep cs = none) := by rw [hi]; simp
      exact Classical.not_not.mp (fun h => this (ih.mpr h))
    · rename_i hn
      have := ih.mp hn
      by_cases hc : c = separator
      · simp [hc]
      · simp [hc, this]; exact fun h => hc h.symm

theorem lastIndexSep_some (s : Str) (i : Nat) (h : lastIndexSep s = some i) :
    i < s.length ∧ s = s.take i ++ [separator] ++ s.drop (i + 1) ∧ separator ∉ s.drop (i + 1) := by
  induction s generalizing i with
  | nil => simp [lastIndexSep] at h
  | cons c cs ih =>
    simp only [lastIndexSep] at h
    split at h
    · rename_i j hj
      simp only [Option.some.injEq] at h
      subst h
      obtain ⟨h1, h2, h3⟩ := ih j hj
      refine ⟨by simp; omega, ?_, ?_⟩
      · simp only [List.take_succ_cons, List.drop_succ_cons, List.cons_append, List.cons.injEq, true_and]
        simpa using h2
      · simpa using h3
    · rename_i hn
      split at h
      · rename_i hc
        simp only [Option.some.injEq] at h
        subst h
        refine ⟨by simp, by simp [hc], ?_⟩
        simpa using (lastIndexSep_none cs).mp hn
      · simp at h

theorem lastIndexSep_of_split (h d : Str) (hd : separator ∉ d) :
    lastIndexSep (h ++ [separator] ++ d) = some h.length := by
  induction h with
  | nil =>
    simp only [List.nil_append, List.cons_append, lastIndexSep, (lastIndexSep_none d).mpr hd]
    simp
  | cons c cs ih =>
    simp only [List.cons_append, lastIndexSep]
    rw [ih]; simp

/-! ### case validation -/

theorem findIdx_none_iff (p : UInt8 → Bool) (s : Str) : s.findIdx? p = none ↔ ∀ c ∈ s, p c = false := by
  rw [List.findIdx?_eq_none_iff]

theorem findIdx_some_lt (p : UInt8 → Bool) (s : Str) (i : Nat) (h : s.findIdx? p = some i) : i < s.length := by
  have := List.findIdx?_eq_some_iff_getElem.mp h
  exact this.1

theorem findIdx_some_get (p : UInt8 → Bool) (s : Str) (i : Nat) (h : s.findIdx? p = some i) :
    ∃ c ∈ s, p c = true := by
  obtain ⟨hlt, hp, _⟩ := List.findIdx?_eq_some_iff_getElem.mp h
  exact ⟨s[i], List.getElem_mem hlt, hp⟩

theorem validateCase_none_iff (s : Str) : validateCase s = none ↔ ¬ (hasUpper s ∧ hasLower s) := by
  unfold validateCase firstUpper firstLower
  constructor
  · intro h ⟨⟨cu, hcu, hu⟩, ⟨cl, hcl, hl⟩⟩
    cases hU : s.findIdx? isUpperAscii with
    | none => rw [findIdx_none_iff] at hU; rw [hU cu hcu] at hu; simp at hu
    | some u =>
      cases hL : s.findIdx? isLowerAscii with
      | none => rw [findIdx_none_iff] at hL; rw [hL cl hcl] at hl; simp at hl
      | some l =>
        rw [hU, hL] at h
        simp only at h
        obtain ⟨hu1, hu2, _⟩ := List.findIdx?_eq_some_iff_getElem.mp hU
        obtain ⟨hl1, hl2, _⟩ := List.findIdx?_eq_some_iff_getElem.mp hL
        by_cases h1 : u < l
        · simp [h1] at h
        · by_cases h2 : l < u
          · simp [h1, h2] at h
          · have : u = l := by omega
            subst this
            exact not_both_c _ ⟨hu2, hl2⟩
  · intro h
    cases hU : s.findIdx? isUpperAscii with
    | none => rfl
    | some u =>
      cases hL : s.findIdx? isLowerAscii with
      | none => rfl
      | some l =>
        exact absurd ⟨findIdx_some_get _ _ _ hU, findIdx_some_get _ _ _ hL⟩ h

theorem validateCase_some_lt (s : Str) (off : Nat) (h : validateCase s = some off) : off < s.length := by
  unfold validateCase firstUpper firstLower at h
  cases hU : s.findIdx? isUpperAscii with
  | none => rw [hU] at h; simp at h
  | some u =>
    cases hL : s.findIdx? isLowerAscii with
    | none => rw [hU, hL] at h; simp at h
    | some l =>
      rw [hU, hL] at h
      simp only at h
      have hu := findIdx_some_lt _ _ _ hU
      have hl := findIdx_some_lt _ _ _ hL
      split at h
      · simp only [Option.some.injEq] at h; omega
      · split at h
        · simp only [Option.some.injEq] at h; omega
        · simp at h

theorem hasUpper_lower (s : Str) : ¬ hasUpper (lower s) := by
  rintro ⟨c, hc, hu⟩
  simp only [lower, List.mem_map] at hc
  obtain ⟨x, _, rfl⟩ := hc
  rw [(case_facts x).2.2.1] at hu; simp at hu

theorem hasLower_upper (s : Str) : ¬ hasLower (upper s) := by
  rintro ⟨c, hc, hu⟩
  simp only [upper, List.mem_map] at hc
  obtain ⟨x, _, rfl⟩ := hc
  rw [(case_facts x).2.2.2.1] at hu; simp at hu

end Iota.Proofs.Bech32
