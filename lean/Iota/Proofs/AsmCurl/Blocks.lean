/-
C20 — symbolic execution of the straight-line blocks of `Iota.Asm.program`:
prologue (pc 0–4), round head with the first s-box (pc 5–19), one StateLoop iteration with four
s-boxes (pc 20–63), the `JL` (pc 64), the pointer swap and round counter (pc 65–68), `RET` (pc 69).
-/
import Iota.Proofs.AsmCurl.Basic

namespace Iota.Proofs.AsmCurl
open Iota.Asm Iota.Curl Iota.Spec.CurlW
set_option linter.unusedSimpArgs false

/-- which physical buffer each pointer register refers to during a round:
AX ↦ `tL`, CX ↦ `tH`, DX ↦ `fL`, BX ↦ `fH`. -/
structure Cfg where
  tL : Buf
  tH : Buf
  fL : Buf
  fH : Buf

/-- the four buffers are pairwise distinct. -/
structure Cfg.Ok (c : Cfg) : Prop where
  h1 : c.fL ≠ c.tL
  h2 : c.fL ≠ c.tH
  h3 : c.fH ≠ c.tL
  h4 : c.fH ≠ c.tH
  h5 : c.tL ≠ c.tH
  h6 : c.fL ≠ c.fH

def Cfg.swap (c : Cfg) : Cfg := ⟨c.fL, c.fH, c.tL, c.tH⟩

theorem Cfg.Ok.swap {c : Cfg} (h : c.Ok) : c.swap.Ok :=
  ⟨h.h1.symm, h.h3.symm, h.h2.symm, h.h4.symm, h.h6, h.h5⟩

/-- the pointer registers hold the (offset 0) pointers of configuration `c`. -/
structure Ptrs (c : Cfg) (R : Regs) : Prop where
  ax : R.get .AX = .ptr c.tL 0
  cx : R.get .CX = .ptr c.tH 0
  dx : R.get .DX = .ptr c.fL 0
  bx : R.get .BX = .ptr c.fH 0

theorem ptrs_iff (c : Cfg) (R : Regs) : Ptrs c R ↔ R.get .AX = .ptr c.tL 0 ∧ R.get .CX = .ptr c.tH 0 ∧
    R.get .DX = .ptr c.fL 0 ∧ R.get .BX = .ptr c.fH 0 :=
  ⟨fun ⟨a, b, c, d⟩ => ⟨a, b, c, d⟩, fun ⟨a, b, c, d⟩ => ⟨a, b, c, d⟩⟩

/-- pc 20 → 64: one StateLoop iteration up to (excluding) the `JL`. -/
theorem body (c : Cfg) (hc : c.Ok) (R : Regs) (F : Flags) (M : Mem) (t i : Nat) (hp : Ptrs c R)
    (h11 : R.get .R11 = .word (BitVec.ofNat 64 t)) (h12 : R.get .R12 = .word (BitVec.ofNat 64 i))
    (h9 : R.get .R9 = .word (rdW (M.get c.fL) t)) (h10 : R.get .R10 = .word (rdW (M.get c.fH) t))
    (ht : 2 ≤ t) (ht' : t ≤ 364) (hi : i + 3 < 729) :
    ∃ R' M' lt, exN 44 ⟨20, R, F, M⟩ = some ⟨64, R', .cmp lt, M'⟩ ∧ (lt = true ↔ i + 4 < 729) ∧
      Ptrs c R' ∧ R'.get .SI = R.get .SI ∧
      R'.get .R11 = .word (BitVec.ofNat 64 (t - 2)) ∧ R'.get .R12 = .word (BitVec.ofNat 64 (i + 4)) ∧
      R'.get .R9 = .word (rdW (M.get c.fL) (t - 2)) ∧ R'.get .R10 = .word (rdW (M.get c.fH) (t - 2)) ∧
      M'.get c.fL = M.get c.fL ∧ M'.get c.fH = M.get c.fH ∧
      M'.get c.tL = wrW (wrW (wrW (wrW (M.get c.tL) i (sL (M.get c.fL) (M.get c.fH) t (t + 364)))
        (i + 1) (sL (M.get c.fL) (M.get c.fH) (t + 364) (t - 1)))
        (i + 2) (sL (M.get c.fL) (M.get c.fH) (t - 1) (t + 363)))
        (i + 3) (sL (M.get c.fL) (M.get c.fH) (t + 363) (t - 2)) ∧
      M'.get c.tH = wrW (wrW (wrW (wrW (M.get c.tH) i (sH (M.get c.fL) (M.get c.fH) t (t + 364)))
        (i + 1) (sH (M.get c.fL) (M.get c.fH) (t + 364) (t - 1)))
        (i + 2) (sH (M.get c.fL) (M.get c.fH) (t - 1) (t + 363)))
        (i + 3) (sH (M.get c.fL) (M.get c.fH) (t + 363) (t - 2)) := by
  obtain ⟨h1, h2, h3, h4, h5, -⟩ := hc
  obtain ⟨hAX, hCX, hDX, hBX⟩ := hp
  have h6 := h5.symm
  have a1 : (t : Int) * ((8 : Nat) : Int) + 2912 = 8 * ((t + 364 : Nat) : Int) := by omega
  have a2 : (t : Int) * ((8 : Nat) : Int) + -8 = 8 * ((t - 1 : Nat) : Int) := by omega
  have a3 : (t : Int) * ((8 : Nat) : Int) + 2904 = 8 * ((t + 363 : Nat) : Int) := by omega
  have a4 : (t : Int) * ((8 : Nat) : Int) + -16 = 8 * ((t - 2 : Nat) : Int) := by omega
  have a5 : (i : Int) * ((8 : Nat) : Int) = 8 * (i : Int) := by omega
  have a6 : (i : Int) * ((8 : Nat) : Int) + 8 = 8 * ((i + 1 : Nat) : Int) := by omega
  have a7 : (i : Int) * ((8 : Nat) : Int) + 16 = 8 * ((i + 2 : Nat) : Int) := by omega
  have a8 : (i : Int) * ((8 : Nat) : Int) + 24 = 8 * ((i + 3 : Nat) : Int) := by omega
  have e9 : BitVec.ofNat 64 t - 2#64 = BitVec.ofNat 64 (t - 2) := BitVec.ofNat_sub_ofNat_of_le t 2 (by decide) ht
  have e10 : BitVec.ofNat 64 i + 4#64 = BitVec.ofNat 64 (i + 4) := (BitVec.ofNat_add i 4).symm
  asm_exec [hAX, hCX, hDX, hBX, h11, h12, h9, h10, h1, h2, h3, h4, h5, h6, e9, e10,
    toInt_ofNat_small t (by omega), toInt_ofNat_small i (by omega), toInt_ofNat_small (i + 4) (by omega),
    loadAt_word a1 (by omega), loadAt_word a2 (by omega), loadAt_word a3 (by omega), loadAt_word a4 (by omega),
    storeAt_word a5 (by omega), storeAt_word a6 (by omega), storeAt_word a7 (by omega), storeAt_word a8 (by omega)]
  refine ⟨_, _, _, rfl, ?_⟩
  simp only [ptrs_iff, Regs.get_set, Mem.get_set, reduceCtorEq, ↓reduceIte, h1, h2, h3, h4, h5, h6, true_and,
    decide_eq_true_eq, sL, sH, ← sBox_fst, ← sBox_snd, hAX, hCX, hDX, hBX, and_true]
  omega

/-- pc 64: the `JL StateLoop`. -/
theorem jl_step (R : Regs) (M : Mem) (lt : Bool) :
    exN 1 ⟨64, R, .cmp lt, M⟩ = some ⟨if lt then 20 else 65, R, .cmp lt, M⟩ := by
  cases lt <;> asm_exec []

/-- pointer assignment at entry: AX = lto, CX = hto, DX = lfrom, BX = hfrom. -/
def cfg0 : Cfg := ⟨.lto, .hto, .lfrom, .hfrom⟩

/-- pc 0 → 5: load the four pointer arguments and the round counter. -/
theorem prologue (M : Mem) :
    ∃ R, exN 5 (initial M) = some ⟨5, R, .undef, M⟩ ∧ Ptrs cfg0 R ∧
      R.get .SI = .word (BitVec.ofNat 64 81) := by
  unfold initial
  asm_exec []
  refine ⟨_, rfl, ?_⟩
  simp only [ptrs_iff, cfg0, Regs.get_set, reduceCtorEq, ↓reduceIte, and_self]

/-- pc 5 → 20: the first s-box of a round and the initialisation of the StateLoop counters. -/
theorem head (c : Cfg) (hc : c.Ok) (R : Regs) (F : Flags) (M : Mem) (hp : Ptrs c R) :
    ∃ R' F' M', exN 15 ⟨5, R, F, M⟩ = some ⟨20, R', F', M'⟩ ∧
      Ptrs c R' ∧ R'.get .SI = R.get .SI ∧
      R'.get .R11 = .word (BitVec.ofNat 64 364) ∧ R'.get .R12 = .word (BitVec.ofNat 64 1) ∧
      R'.get .R9 = .word (rdW (M.get c.fL) 364) ∧ R'.get .R10 = .word (rdW (M.get c.fH) 364) ∧
      M'.get c.fL = M.get c.fL ∧ M'.get c.fH = M.get c.fH ∧
      M'.get c.tL = wrW (M.get c.tL) 0 (sL (M.get c.fL) (M.get c.fH) 0 364) ∧
      M'.get c.tH = wrW (M.get c.tH) 0 (sH (M.get c.fL) (M.get c.fH) 0 364) := by
  obtain ⟨h1, h2, h3, h4, h5, -⟩ := hc
  obtain ⟨hAX, hCX, hDX, hBX⟩ := hp
  have h6 := h5.symm
  asm_exec [hAX, hCX, hDX, hBX, h1, h2, h3, h4, h5, h6, loadAt_word (e := 0) (k := 0) rfl (by decide),
    loadAt_word (e := 2912) (k := 364) rfl (by decide), storeAt_word (e := 0) (k := 0) rfl (by decide)]
  refine ⟨_, _, _, rfl, ?_⟩
  simp only [ptrs_iff, Regs.get_set, Mem.get_set, reduceCtorEq, ↓reduceIte, h1, h2, h3, h4, h5, h6, true_and,
    sL, sH, ← sBox_fst, ← sBox_snd, hAX, hCX, hDX, hBX, and_true]

/-- pc 65 → 5 or 69: swap the buffer pointers, decrement the round counter, loop or fall through. -/
theorem epilogue (c : Cfg) (R : Regs) (F : Flags) (M : Mem) (s : Nat) (hp : Ptrs c R)
    (hSI : R.get .SI = .word (BitVec.ofNat 64 s)) (hs : 1 ≤ s) (hs' : s ≤ 81) :
    ∃ R' F', exN 4 ⟨65, R, F, M⟩ = some ⟨if s = 1 then 69 else 5, R', F', M⟩ ∧
      Ptrs c.swap R' ∧ R'.get .SI = .word (BitVec.ofNat 64 (s - 1)) := by
  obtain ⟨hAX, hCX, hDX, hBX⟩ := hp
  have e1 : BitVec.ofNat 64 s - 1 = BitVec.ofNat 64 (s - 1) := BitVec.ofNat_sub_ofNat_of_le s 1 (by decide) hs
  by_cases h : s = 1
  · subst h
    asm_exec [hSI, BitVec.reduceSub, BitVec.reduceBEq]
    refine ⟨_, _, rfl, ?_⟩
    simp only [ptrs_iff, Cfg.swap, Regs.get_set, reduceCtorEq, ↓reduceIte, hAX, hCX, hDX, hBX, true_and]
  · have e2 : (BitVec.ofNat 64 (s - 1) == 0) = false := by
      rw [beq_eq_false_iff_ne, ne_eq, ofNat_eq_zero_iff _ (by omega)]
      omega
    asm_exec [hSI, e1, e2, h]
    refine ⟨_, _, rfl, ?_⟩
    simp only [ptrs_iff, Cfg.swap, Regs.get_set, reduceCtorEq, ↓reduceIte, hAX, hCX, hDX, hBX, and_self]

/-- pc 69: `RET`. -/
theorem ret_step (R : Regs) (F : Flags) (M : Mem) (f : Nat) :
    run program (f + 1) ⟨69, R, F, M⟩ = .done M := by
  rw [run_succ, step_mk, fetch69]; rfl

end Iota.Proofs.AsmCurl
