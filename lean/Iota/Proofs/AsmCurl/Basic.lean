/-
C20 — basic lemmas for symbolic execution of `Iota.Asm.program` under the semantics of
Iota/Model/AsmSem.lean: register-file and memory lookups, the step-counting executor `exN` (n steps without
halting, fuel splitting), instruction fetch, word/index arithmetic, the s-box in the form the routine computes
(`sBox_fst` / `sBox_snd`), and the tactic `asm_exec` that the block and loop files run.
-/
import Iota.Model.AsmSem
import Iota.Proofs.CurlSpec

namespace Iota.Proofs.AsmCurl
open Iota.Asm Iota.Curl Iota.Spec.CurlW
set_option linter.unusedSimpArgs false

/-! ### register file and memory -/

/-- the slot number determines the register. -/
theorem Reg.ofNat_idx (r : Reg) : Reg.ofNat r.idx.val = r := by cases r <;> rfl

theorem Regs.get_set (R : Regs) (r r' : Reg) (v : Val) :
    (R.set r v).get r' = if r' = r then v else R.get r' := by
  by_cases h : r' = r
  · subst h; simp [Regs.get, Regs.set]
  · have : r.idx.val ≠ r'.idx.val := fun e => h (by rw [← Reg.ofNat_idx r', ← e, Reg.ofNat_idx])
    simp [Regs.get, Regs.set, this, h]

theorem Mem.get_set (M : Mem) (b b' : Buf) (p : Plane) :
    (M.set b p).get b' = if b' = b then p else M.get b' := by
  cases b <;> cases b' <;> simp [Mem.get, Mem.set]

theorem Mem.ext_get {M M' : Mem} (h : ∀ b, M.get b = M'.get b) : M = M' := by
  cases M; cases M'
  rw [Mem.mk.injEq]
  exact ⟨h .lto, h .hto, h .lfrom, h .hfrom⟩

/-! ### n steps without halting -/

def cont (k : Machine → Option Machine) : Step → Option Machine
  | .next m => k m
  | _ => none

/-- `n` steps of the program, none of which halts or faults. -/
def exN : Nat → Machine → Option Machine
  | 0, m => some m
  | n + 1, m => cont (exN n) (step program m)

theorem exN_zero (m : Machine) : exN 0 m = some m := rfl
theorem exN_succ (n : Nat) (m : Machine) : exN (n + 1) m = cont (exN n) (step program m) := rfl
theorem cont_next (k : Machine → Option Machine) (m : Machine) : cont k (.next m) = k m := rfl

theorem exN_add (a b : Nat) (m : Machine) : exN (a + b) m = (exN a m).bind (exN b) := by
  induction a generalizing m with
  | zero => simp [exN]
  | succ a ih =>
    rw [show a + 1 + b = (a + b) + 1 by omega, exN_succ, exN_succ]
    cases step program m <;> simp [cont, ih]

theorem exN_trans {a b : Nat} {m m' m'' : Machine} (h1 : exN a m = some m') (h2 : exN b m' = some m'') :
    exN (a + b) m = some m'' := by
  rw [exN_add, h1]; exact h2

theorem run_succ (prog : List Instr) (n : Nat) (m : Machine) : run prog (n + 1) m =
    match step prog m with
    | .next m' => run prog n m'
    | .halt mem => .done mem
    | .fault => .fault := rfl

theorem run_of_exN {n : Nat} {m m' : Machine} (h : exN n m = some m') (f : Nat) :
    run program (n + f) m = run program f m' := by
  induction n generalizing m with
  | zero => simp [exN] at h; simp [h]
  | succ n ih =>
    rw [show n + 1 + f = (n + f) + 1 by omega]
    rw [exN_succ] at h
    rw [run_succ]
    cases hs : step program m with
    | next m1 => rw [hs] at h; exact ih h
    | halt _ => rw [hs] at h; simp [cont] at h
    | fault => rw [hs] at h; simp [cont] at h

/-- a run that has not halted after `n` steps has not halted after `f ≤ n` steps either. -/
theorem run_outOfFuel_of_exN {n : Nat} {m m' : Machine} (h : exN n m = some m') {f : Nat} (hf : f ≤ n) :
    run program f m = .outOfFuel := by
  rw [← Nat.add_sub_cancel' hf, exN_add] at h
  cases hm : exN f m with
  | none => rw [hm] at h; cases h
  | some m'' => exact run_of_exN hm 0

/-! ### instruction fetch -/

def stepO (m : Machine) : Option Instr → Step
  | some i => exec program m i
  | none => .fault

theorem step_mk (pc : Nat) (R : Regs) (F : Flags) (M : Mem) :
    step program ⟨pc, R, F, M⟩ = stepO ⟨pc, R, F, M⟩ program[pc]? := by
  simp only [step, stepO]; cases program[pc]? <;> rfl
theorem stepO_some (m : Machine) (i : Instr) : stepO m (some i) = exec program m i := rfl

/-! `fetchN`: the instruction at program counter `N` (one `rfl` lemma per position against
`program` of Iota/Model/AsmProgram.lean, so a lemma that disagrees with the program does not compile). -/

theorem fetch0 : program[0]? = some (.movq (.arg 0) (.reg .AX)) := rfl
theorem fetch1 : program[1]? = some (.movq (.arg 8) (.reg .CX)) := rfl
theorem fetch2 : program[2]? = some (.movq (.arg 16) (.reg .DX)) := rfl
theorem fetch3 : program[3]? = some (.movq (.arg 24) (.reg .BX)) := rfl
theorem fetch4 : program[4]? = some (.movq (.imm 81) (.reg .SI)) := rfl
theorem fetch5 : program[5]? = some (.label 0) := rfl
theorem fetch6 : program[6]? = some (.movq (.mem 0 .DX none 1) (.reg .DI)) := rfl
theorem fetch7 : program[7]? = some (.movq (.mem 0 .BX none 1) (.reg .R8)) := rfl
theorem fetch8 : program[8]? = some (.movq (.mem 2912 .DX none 1) (.reg .R9)) := rfl
theorem fetch9 : program[9]? = some (.movq (.mem 2912 .BX none 1) (.reg .R10)) := rfl
theorem fetch10 : program[10]? = some (.movq (.reg .R9) (.reg .R11)) := rfl
theorem fetch11 : program[11]? = some (.xorq (.reg .R8) (.reg .R11)) := rfl
theorem fetch12 : program[12]? = some (.andq (.reg .DI) (.reg .R11)) := rfl
theorem fetch13 : program[13]? = some (.xorq (.reg .R10) (.reg .DI)) := rfl
theorem fetch14 : program[14]? = some (.orq (.reg .R11) (.reg .DI)) := rfl
theorem fetch15 : program[15]? = some (.notq (.reg .R11)) := rfl
theorem fetch16 : program[16]? = some (.movq (.reg .R11) (.mem 0 .AX none 1)) := rfl
theorem fetch17 : program[17]? = some (.movq (.reg .DI) (.mem 0 .CX none 1)) := rfl
theorem fetch18 : program[18]? = some (.movq (.imm 364) (.reg .R11)) := rfl
theorem fetch19 : program[19]? = some (.movq (.imm 1) (.reg .R12)) := rfl
theorem fetch20 : program[20]? = some (.label 1) := rfl
theorem fetch21 : program[21]? = some (.movq (.mem 2912 .DX (some .R11) 8) (.reg .DI)) := rfl
theorem fetch22 : program[22]? = some (.movq (.mem 2912 .BX (some .R11) 8) (.reg .R8)) := rfl
theorem fetch23 : program[23]? = some (.movq (.reg .DI) (.reg .R13)) := rfl
theorem fetch24 : program[24]? = some (.xorq (.reg .R10) (.reg .R13)) := rfl
theorem fetch25 : program[25]? = some (.andq (.reg .R9) (.reg .R13)) := rfl
theorem fetch26 : program[26]? = some (.xorq (.reg .R8) (.reg .R9)) := rfl
theorem fetch27 : program[27]? = some (.orq (.reg .R13) (.reg .R9)) := rfl
theorem fetch28 : program[28]? = some (.notq (.reg .R13)) := rfl
theorem fetch29 : program[29]? = some (.movq (.reg .R13) (.mem 0 .AX (some .R12) 8)) := rfl
theorem fetch30 : program[30]? = some (.movq (.reg .R9) (.mem 0 .CX (some .R12) 8)) := rfl
theorem fetch31 : program[31]? = some (.movq (.mem (-8) .DX (some .R11) 8) (.reg .R9)) := rfl
theorem fetch32 : program[32]? = some (.movq (.mem (-8) .BX (some .R11) 8) (.reg .R10)) := rfl
theorem fetch33 : program[33]? = some (.movq (.reg .R9) (.reg .R13)) := rfl
theorem fetch34 : program[34]? = some (.xorq (.reg .R8) (.reg .R13)) := rfl
theorem fetch35 : program[35]? = some (.andq (.reg .DI) (.reg .R13)) := rfl
theorem fetch36 : program[36]? = some (.xorq (.reg .R10) (.reg .DI)) := rfl
theorem fetch37 : program[37]? = some (.orq (.reg .R13) (.reg .DI)) := rfl
theorem fetch38 : program[38]? = some (.notq (.reg .R13)) := rfl
theorem fetch39 : program[39]? = some (.movq (.reg .R13) (.mem 8 .AX (some .R12) 8)) := rfl
theorem fetch40 : program[40]? = some (.movq (.reg .DI) (.mem 8 .CX (some .R12) 8)) := rfl
theorem fetch41 : program[41]? = some (.movq (.mem 2904 .DX (some .R11) 8) (.reg .DI)) := rfl
theorem fetch42 : program[42]? = some (.movq (.mem 2904 .BX (some .R11) 8) (.reg .R8)) := rfl
theorem fetch43 : program[43]? = some (.movq (.reg .DI) (.reg .R13)) := rfl
theorem fetch44 : program[44]? = some (.xorq (.reg .R10) (.reg .R13)) := rfl
theorem fetch45 : program[45]? = some (.andq (.reg .R9) (.reg .R13)) := rfl
theorem fetch46 : program[46]? = some (.xorq (.reg .R8) (.reg .R9)) := rfl
theorem fetch47 : program[47]? = some (.orq (.reg .R13) (.reg .R9)) := rfl
theorem fetch48 : program[48]? = some (.notq (.reg .R13)) := rfl
theorem fetch49 : program[49]? = some (.movq (.reg .R13) (.mem 16 .AX (some .R12) 8)) := rfl
theorem fetch50 : program[50]? = some (.movq (.reg .R9) (.mem 16 .CX (some .R12) 8)) := rfl
theorem fetch51 : program[51]? = some (.movq (.mem (-16) .DX (some .R11) 8) (.reg .R9)) := rfl
theorem fetch52 : program[52]? = some (.movq (.mem (-16) .BX (some .R11) 8) (.reg .R10)) := rfl
theorem fetch53 : program[53]? = some (.movq (.reg .R9) (.reg .R13)) := rfl
theorem fetch54 : program[54]? = some (.xorq (.reg .R8) (.reg .R13)) := rfl
theorem fetch55 : program[55]? = some (.andq (.reg .DI) (.reg .R13)) := rfl
theorem fetch56 : program[56]? = some (.xorq (.reg .R10) (.reg .DI)) := rfl
theorem fetch57 : program[57]? = some (.orq (.reg .R13) (.reg .DI)) := rfl
theorem fetch58 : program[58]? = some (.notq (.reg .R13)) := rfl
theorem fetch59 : program[59]? = some (.movq (.reg .R13) (.mem 24 .AX (some .R12) 8)) := rfl
theorem fetch60 : program[60]? = some (.movq (.reg .DI) (.mem 24 .CX (some .R12) 8)) := rfl
theorem fetch61 : program[61]? = some (.subq (.imm 2) (.reg .R11)) := rfl
theorem fetch62 : program[62]? = some (.addq (.imm 4) (.reg .R12)) := rfl
theorem fetch63 : program[63]? = some (.cmpq (.reg .R12) (.imm 729)) := rfl
theorem fetch64 : program[64]? = some (.jl 1) := rfl
theorem fetch65 : program[65]? = some (.xchgq (.reg .DX) (.reg .AX)) := rfl
theorem fetch66 : program[66]? = some (.xchgq (.reg .BX) (.reg .CX)) := rfl
theorem fetch67 : program[67]? = some (.decq (.reg .SI)) := rfl
theorem fetch68 : program[68]? = some (.jnz 0) := rfl
theorem fetch69 : program[69]? = some (.ret) := rfl

theorem findLabel0 : findLabel program 0 = some 5 := by decide
theorem findLabel1 : findLabel program 1 = some 20 := by decide

/-! ### memory operands

Proof-side view of a buffer: total read `rdW` and total write `wrW`; the bounds checks of the
semantics are discharged once, in `chk_word`. -/

/-- the bounds and alignment check of `resolve`. -/
def chk (b : Buf) (e : Int) : Option (Buf × Fin 729) :=
  if h : 0 ≤ e ∧ e < 8 * 729 ∧ e % 8 = 0 then some (b, ⟨(e / 8).toNat, by omega⟩) else none

def chkOpt : Val → Option Int → Int → Option (Buf × Fin 729)
  | .ptr b off, some i, disp => chk b (off + i + disp)
  | _, _, _ => none

theorem resolve_eq (R : Regs) (disp : Int) (base : Reg) (index : Option Reg) (scale : Nat) :
    resolve R disp base index scale = chkOpt (R.get base) (indexVal R scale index) disp := by
  unfold resolve chkOpt chk
  split <;> simp_all

theorem chkOpt_ptr (b : Buf) (off i disp : Int) :
    chkOpt (.ptr b off) (some i) disp = chk b (off + i + disp) := rfl

def loadAt (M : Mem) : Option (Buf × Fin 729) → Option Val
  | some (b, j) => some (.word (M.get b)[j])
  | none => none

def storeAt (m : Machine) (w : W) : Option (Buf × Fin 729) → Option Machine
  | some (b, j) => some { m with mem := m.mem.set b ((m.mem.get b).set j w) }
  | none => none

theorem readOp_mem (m : Machine) (d : Int) (b : Reg) (i : Option Reg) (s : Nat) :
    readOp m (.mem d b i s) = loadAt m.mem (resolve m.regs d b i s) := by
  simp only [readOp]; cases resolve m.regs d b i s <;> rfl

theorem writeOp_mem (m : Machine) (w : W) (d : Int) (b : Reg) (i : Option Reg) (s : Nat) :
    writeOp m (.word w) (.mem d b i s) = storeAt m w (resolve m.regs d b i s) := by
  simp only [writeOp]; cases resolve m.regs d b i s <;> rfl

/-- a byte offset `e = 8·k`, `k < 729`, passes the check and addresses word `k`. -/
theorem chk_word {e : Int} {k : Nat} (he : e = 8 * k) (hk : k < 729) (b : Buf) :
    chk b e = some (b, ⟨k, hk⟩) := by
  have h : 0 ≤ e ∧ e < 8 * 729 ∧ e % 8 = 0 := by omega
  have hi : (e / 8).toNat = k := by omega
  simp only [chk, h, and_self, dite_true, hi]

theorem loadAt_word {e : Int} {k : Nat} (he : e = 8 * k) (hk : k < 729) (M : Mem) (b : Buf) :
    loadAt M (chk b e) = some (.word (rdW (M.get b) k)) := by
  rw [chk_word he hk, rdW_eq _ hk]; rfl

theorem storeAt_word {e : Int} {k : Nat} (he : e = 8 * k) (hk : k < 729) (pc : Nat) (R : Regs) (F : Flags)
    (M : Mem) (w : W) (b : Buf) :
    storeAt ⟨pc, R, F, M⟩ w (chk b e) = some ⟨pc, R, F, M.set b (wrW (M.get b) k w)⟩ := by
  rw [chk_word he hk, ← set_eq_wrW _ hk]; rfl

theorem readOp_imm (m : Machine) (v : Int) : readOp m (.imm v) = some (.word (BitVec.ofInt 64 v)) := rfl
theorem readOp_reg (m : Machine) (r : Reg) : readOp m (.reg r) = some (m.regs.get r) := rfl
theorem readOp_arg0 (m : Machine) : readOp m (.arg 0) = some (.ptr .lto 0) := rfl
theorem readOp_arg8 (m : Machine) : readOp m (.arg 8) = some (.ptr .hto 0) := rfl
theorem readOp_arg16 (m : Machine) : readOp m (.arg 16) = some (.ptr .lfrom 0) := rfl
theorem readOp_arg24 (m : Machine) : readOp m (.arg 24) = some (.ptr .hfrom 0) := rfl
theorem writeOp_reg (m : Machine) (v : Val) (r : Reg) : writeOp m v (.reg r) = some (m.setReg r v) := rfl

/-! ### words used as counters -/

theorem toInt_ofNat_small (n : Nat) (h : n < 2^63) : (BitVec.ofNat 64 n).toInt = n := by
  rw [BitVec.toInt_eq_toNat_cond]
  simp only [BitVec.toNat_ofNat]
  omega

theorem ofNat_eq_zero_iff (n : Nat) (hn : n < 2^64) : BitVec.ofNat 64 n = 0 ↔ n = 0 := by
  rw [← BitVec.toNat_inj, BitVec.toNat_ofNat, Nat.mod_eq_of_lt hn]
  rfl

/-! ### the s-box as the routine computes it -/

theorem sBox_fst (aL aH bL bH : W) : ~~~((bL ^^^ aH) &&& aL) = (sBox aL aH bL bH).1 := by
  simp only [sBox]
  rw [BitVec.xor_comm bL aH, BitVec.and_comm]

theorem sBox_snd (aL aH bL bH : W) : (aL ^^^ bH) ||| ((bL ^^^ aH) &&& aL) = (sBox aL aH bL bH).2 := by
  simp only [sBox]
  rw [BitVec.xor_comm bL aH, BitVec.and_comm (aH ^^^ bL)]

/-! ### the symbolic-execution simp set -/

open Lean.Parser.Tactic in
/-- run the machine symbolically: unfold `exN` step by step on a machine given as an explicit record. -/
macro "asm_exec" "[" ts:simpLemma,* "]" : tactic => `(tactic|
  simp only [exN_succ, exN_zero, step_mk, stepO_some, cont_next,
    fetch0, fetch1, fetch2, fetch3, fetch4, fetch5, fetch6, fetch7, fetch8, fetch9,
    fetch10, fetch11, fetch12, fetch13, fetch14, fetch15, fetch16, fetch17, fetch18, fetch19,
    fetch20, fetch21, fetch22, fetch23, fetch24, fetch25, fetch26, fetch27, fetch28, fetch29,
    fetch30, fetch31, fetch32, fetch33, fetch34, fetch35, fetch36, fetch37, fetch38, fetch39,
    fetch40, fetch41, fetch42, fetch43, fetch44, fetch45, fetch46, fetch47, fetch48, fetch49,
    fetch50, fetch51, fetch52, fetch53, fetch54, fetch55, fetch56, fetch57, fetch58, fetch59,
    fetch60, fetch61, fetch62, fetch63, fetch64, fetch65, fetch66, fetch67, fetch68, fetch69,
    exec, Machine.next, Machine.setReg, Machine.setFlags, execMov, execAlu, isMem, jump,
    findLabel0, findLabel1,
    readOp_mem, writeOp_mem, readOp_imm, readOp_reg, writeOp_reg,
    readOp_arg0, readOp_arg8, readOp_arg16, readOp_arg24,
    resolve_eq, indexVal, chkOpt_ptr, Regs.get_set, Mem.get_set, reduceCtorEq,
    Bool.and_false, Bool.and_true, Bool.false_eq_true, ↓reduceIte,
    Int.zero_add, Int.add_zero, Int.reduceAdd, Int.reduceMul, Int.reduceDiv, Int.reduceMod,
    Int.reduceLT, Int.reduceLE, Int.reduceToNat, Nat.reduceAdd, BitVec.reduceOfInt, $ts,*])

end Iota.Proofs.AsmCurl
