/-
C20 — the two loops of `Iota.Asm.program`: the StateLoop invariant (182 iterations fill the
to-planes with one closed-form round of the from-planes) and one full round including the pointer swap.
-/
import Iota.Proofs.AsmCurl.Blocks

namespace Iota.Proofs.AsmCurl
open Iota.Asm Iota.Curl Iota.Spec.CurlW Iota.Spec.CurlP

theorem idx_zero : idx 0 = 0 := rfl
theorem idx_one : idx 1 = 364 := rfl

/-! ### StateLoop -/

/-- state at the `StateLoop` label after `k` iterations. `FL, FH` are the from-planes, `sv` the
round counter (untouched by the loop). -/
structure InnerInv (c : Cfg) (FL FH : Plane) (sv : Val) (k : Nat) (R : Regs) (M : Mem) : Prop where
  ptrs : Ptrs c R
  si : R.get .SI = sv
  r11 : R.get .R11 = .word (BitVec.ofNat 64 (364 - 2 * k))
  r12 : R.get .R12 = .word (BitVec.ofNat 64 (4 * k + 1))
  r9 : R.get .R9 = .word (rdW FL (364 - 2 * k))
  r10 : R.get .R10 = .word (rdW FH (364 - 2 * k))
  fl : M.get c.fL = FL
  fh : M.get c.fH = FH
  tl : ∀ j, j < 4 * k + 1 → rdW (M.get c.tL) j = rdW (roundW (FL, FH)).1 j
  th : ∀ j, j < 4 * k + 1 → rdW (M.get c.tH) j = rdW (roundW (FL, FH)).2 j

/-- one StateLoop iteration (45 steps, including the label and the `JL`). -/
theorem inner_step (c : Cfg) (hc : c.Ok) (FL FH : Plane) (sv : Val) (k : Nat) (hk : k < 182)
    (R : Regs) (F : Flags) (M : Mem) (inv : InnerInv c FL FH sv k R M) :
    ∃ R' F' M', exN 45 ⟨20, R, F, M⟩ = some ⟨if k + 1 < 182 then 20 else 65, R', F', M'⟩ ∧
      InnerInv c FL FH sv (k + 1) R' M' := by
  obtain ⟨hp, hSI, h11, h12, h9, h10, hfl, hfh, htl, hth⟩ := inv
  subst hfl hfh
  obtain ⟨R', M', lt, hex, hlt, hp', a5, a6, a7, a8, a9, a10, a11, a12, a13⟩ :=
    body c hc R F M (364 - 2 * k) (4 * k + 1) hp h11 h12 h9 h10 (by omega) (by omega) (by omega)
  have hjl := jl_step R' M' lt
  have hpc : (if lt = true then 20 else 65) = (if k + 1 < 182 then 20 else 65) :=
    ite_congr (propext (hlt.trans (by omega))) (fun _ => rfl) (fun _ => rfl)
  rw [hpc] at hjl
  have ht : 364 - 2 * k + 2 * k = 364 := by omega
  refine ⟨R', .cmp lt, M', exN_trans hex hjl, hp', a5.trans hSI, ?_, ?_, ?_, ?_, a10, a11, ?_, ?_⟩
  · rw [a6, show 364 - 2 * k - 2 = 364 - 2 * (k + 1) by omega]
  · rw [a7, show 4 * k + 1 + 4 = 4 * (k + 1) + 1 by omega]
  · rw [a8, show 364 - 2 * k - 2 = 364 - 2 * (k + 1) by omega]
  · rw [a9, show 364 - 2 * k - 2 = 364 - 2 * (k + 1) by omega]
  · rw [a12]; exact walk4 (fun _ => rdW_roundW_fst _ _) hk ht htl
  · rw [a13]; exact walk4 (fun _ => rdW_roundW_snd _ _) hk ht hth

/-- `k ≤ 182` StateLoop iterations. -/
theorem inner_loop (c : Cfg) (hc : c.Ok) (FL FH : Plane) (sv : Val) (k : Nat) (hk : k ≤ 182)
    (R : Regs) (F : Flags) (M : Mem) (inv : InnerInv c FL FH sv 0 R M) :
    ∃ R' F' M', exN (45 * k) ⟨20, R, F, M⟩ = some ⟨if k < 182 then 20 else 65, R', F', M'⟩ ∧
      InnerInv c FL FH sv k R' M' := by
  induction k with
  | zero => exact ⟨R, F, M, rfl, inv⟩
  | succ k ih =>
    obtain ⟨R1, F1, M1, h1, inv1⟩ := ih (by omega)
    rw [if_pos (by omega)] at h1
    obtain ⟨R2, F2, M2, h2, inv2⟩ := inner_step c hc FL FH sv k (by omega) R1 F1 M1 inv1
    refine ⟨R2, F2, M2, ?_, inv2⟩
    rw [show 45 * (k + 1) = 45 * k + 45 by omega]
    exact exN_trans h1 h2

/-! ### one round -/

/-- pc 5 → 5 (or 69 after the last round): one full round, `15 + 182·45 + 4 = 8209` steps.  The
to-buffers receive the closed-form round of the from-buffers, the from-buffers are unchanged, and the
pointer registers are swapped. -/
theorem round_step (c : Cfg) (hc : c.Ok) (s : Nat) (hs : 1 ≤ s) (hs' : s ≤ 81)
    (R : Regs) (F : Flags) (M : Mem) (hp : Ptrs c R)
    (hSI : R.get .SI = .word (BitVec.ofNat 64 s)) :
    ∃ R' F' M', exN 8209 ⟨5, R, F, M⟩ = some ⟨if s = 1 then 69 else 5, R', F', M'⟩ ∧
      Ptrs c.swap R' ∧ R'.get .SI = .word (BitVec.ofNat 64 (s - 1)) ∧
      M'.get c.fL = M.get c.fL ∧ M'.get c.fH = M.get c.fH ∧
      M'.get c.tL = (roundW (M.get c.fL, M.get c.fH)).1 ∧
      M'.get c.tH = (roundW (M.get c.fL, M.get c.fH)).2 := by
  obtain ⟨R1, F1, M1, hex1, hp1, a5, a6, a7, a8, a9, a10, a11, a12, a13⟩ := head c hc R F M hp
  have inv0 : InnerInv c (M.get c.fL) (M.get c.fH) (.word (BitVec.ofNat 64 s)) 0 R1 M1 := by
    refine ⟨hp1, a5.trans hSI, a6, a7, a8, a9, a10, a11, ?_, ?_⟩
    · rw [a12]; exact walk0 (fun _ => rdW_roundW_fst _ _) _
    · rw [a13]; exact walk0 (fun _ => rdW_roundW_snd _ _) _
  obtain ⟨R2, F2, M2, hex2, inv2⟩ := inner_loop c hc _ _ _ 182 (Nat.le_refl _) R1 F1 M1 inv0
  rw [if_neg (by omega)] at hex2
  obtain ⟨hp2, bSI, -, -, -, -, bfl, bfh, btl, bth⟩ := inv2
  obtain ⟨R3, F3, hex3, hp3, c5⟩ := epilogue c R2 F2 M2 s hp2 bSI hs hs'
  exact ⟨R3, F3, M2, exN_trans (exN_trans hex1 hex2) hex3, hp3, c5, bfl, bfh,
    plane_ext fun j hj => btl j (by omega), plane_ext fun j hj => bth j (by omega)⟩

end Iota.Proofs.AsmCurl
