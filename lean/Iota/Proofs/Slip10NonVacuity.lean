/-
Non-vacuity for C02 / C08: a toy curve (the group ℤ/7 generated by 1, so `n = 7`) and a toy HMAC whose I_L
is often NOT a valid key, run through `masterLoop`, `childLoop`, `deriveChild` by evaluation.  Retries are
taken for each reason SLIP-0010 names — I_L ≥ n, I_L = 0 (master), I_L + k_par ≡ 0 (private child),
point(I_L) + K_par = ∞ (public child) — on the private and on the public side, and the hypotheses of the
commutation theorem are met by such a run.
-/
import Iota.Model.Common
import Iota.Proofs.Slip10Spec
import Iota.Proofs.Slip10Commute
import Mathlib.Data.ZMod.Basic

namespace Iota.Proofs.Slip10NonVacuity
open Iota.Slip10 Iota.Proofs.Slip10Shift Iota.Proofs.Slip10Commute

deriving instance DecidableEq for WKey
deriving instance DecidableEq for ExtKey

/-- ℤ/7, base point 1; `serP(p)` is the one byte `p`. -/
def toyW : WCurve (ZMod 7) where
  n := 7
  baseMul := fun k => ((beNat k : Nat) : ZMod 7)
  add := fun a b => a + b
  isInfinity := fun a => decide (a = 0)
  compress := fun p => [UInt8.ofNat p.val]

theorem toyW_lawful : LawfulW toyW (1 : ZMod 7) where
  add_eq := fun _ _ => rfl
  baseMul_eq := fun k => by simp [toyW]
  inf_iff := fun a => by simp [toyW]
  order := by simp [toyW, ZMod.addOrderOf_one]
  n_pos := by decide

/-- 64 bytes: I_L = 31 zero bytes, then (sum of all key and data bytes) mod 8 — so I_L ranges over 0..7, of
which 0 and 7 are not in [1, n-1]; I_R = 31 zero bytes, then (3·sum) mod 251. -/
def toyHmac (key data : Bytes) : Bytes :=
  let s := (key ++ data).foldl (fun acc x => acc + x.toNat) 0
  List.replicate 31 0 ++ [UInt8.ofNat (s % 8)] ++ List.replicate 31 0 ++ [UInt8.ofNat (s * 3 % 251)]

abbrev c : Curve (WKey (ZMod 7)) := wCurve toyW [1]

def cc (x : UInt8) : Bytes := List.replicate 31 0 ++ [x]

/-! ### master key: one retry because I_L = 7 ≥ n, one because I_L = 0 -/

example : beNat ((toyHmac c.hmacKey [6]).take 32) = 7 := by decide +kernel
example : masterLoop toyHmac c 1 [6] = .error .outOfFuel := by decide +kernel
theorem master6 : masterLoop toyHmac c 2 [6] = .ok { chainCode := cc 87, key := .priv 5, parent := none } := by
  decide +kernel

example : beNat ((toyHmac c.hmacKey [7]).take 32) = 0 := by decide +kernel
example : masterLoop toyHmac c 1 [7] = .error .outOfFuel := by decide +kernel
example : masterLoop toyHmac c 2 [7] = .ok { chainCode := cc 75, key := .priv 1, parent := none } := by
  decide +kernel

/-- the spec relation holds of this run, with the key found at candidate number 1 (not 0). -/
example : Spec.Slip10.MasterAt toyHmac (Slip10Spec.ecOf toyW 1 [1]) [6] 1 5 (cc 87) := by
  obtain ⟨j, k, c', hj, hm, he⟩ := (Slip10Spec.newMasterKey_w_ok_iff toyHmac toyW 1 [1] 2 [6] _).1 master6
  have h0 : ¬ Spec.Slip10.validMaster (Slip10Spec.ecOf toyW 1 [1]) (Spec.Slip10.masterI toyHmac [1] [6] 0) := by
    show ¬ (1 ≤ Spec.Slip10.parse256 _ ∧ Spec.Slip10.parse256 _ < 7)
    rw [Slip10Spec.parse256_eq_beNat]
    decide +kernel
  have hj1 : j = 1 := by
    rcases Nat.lt_or_ge j 1 with h | h
    · have : j = 0 := by omega
      subst this; exact absurd hm.1.1 h0
    · omega
  subst hj1
  injection he with h1 h2 h3
  injection h2 with h2
  subst h1 h2
  exact hm

/-! ### child of `m6 = (k = 5, c = …87)` at the non-hardened index 6: the first candidate has I_L = 2 < n but
2 + 5 ≡ 0 (mod 7), so it is rejected on the private side (`sc = 0`) and on the public side (point at
infinity); the second candidate, I_L = 1, gives k = 6 and K = point(6) -/

def m6 : ExtKey (WKey (ZMod 7)) := { chainCode := cc 87, key := .priv 5, parent := none }

def I0 : Bytes := toyHmac m6.chainCode (c.bytes (c.pub m6.key) ++ ser32 6)

example : beNat (I0.take 32) = 2 := by decide +kernel
example : c.shift (.priv 5) (I0.take 32) = .error .invalidKey := by decide +kernel
example : c.shift (c.pub (.priv 5)) (I0.take 32) = .error .invalidKey := by decide +kernel
example : c.pub (.priv 5) = .pub 5 := by decide +kernel

example : deriveChild toyHmac c 1 m6 6 = .error .outOfFuel := by decide +kernel
example : deriveChild toyHmac c 1 (ExtKey.public c m6) 6 = .error .outOfFuel := by decide +kernel
theorem child6_priv :
    deriveChild toyHmac c 2 m6 6 = .ok { chainCode := cc 160, key := .priv 6, parent := some (.priv 5) } := by
  decide +kernel
theorem child6_pub :
    deriveChild toyHmac c 2 (ExtKey.public c m6) 6 =
      .ok { chainCode := cc 160, key := .pub 6, parent := some (.pub 5) } := by
  decide +kernel

/-! ### index 11: the first candidate has I_L = 7 ≥ n; rejected on both sides for that reason -/

example : beNat ((toyHmac m6.chainCode (c.bytes (c.pub m6.key) ++ ser32 11)).take 32) = 7 := by decide +kernel
example : deriveChild toyHmac c 1 m6 11 = .error .outOfFuel := by decide +kernel
example : deriveChild toyHmac c 1 (ExtKey.public c m6) 11 = .error .outOfFuel := by decide +kernel
example : deriveChild toyHmac c 2 m6 11 =
    .ok { chainCode := cc 220, key := .priv 3, parent := some (.priv 5) } := by decide +kernel
example : deriveChild toyHmac c 2 (ExtKey.public c m6) 11 =
    .ok { chainCode := cc 220, key := .pub 3, parent := some (.pub 5) } := by decide +kernel

/-! ### the commutation theorem applies to the run with a retry, and says what the evaluation shows -/

theorem toy_commutes (fuel : Nat) :
    (deriveChild toyHmac c fuel m6 6).map (pubView c) = deriveChild toyHmac c fuel (ExtKey.public c m6) 6 :=
  deriveChild_public_commutes toyHmac toyW 1 toyW_lawful [1] m6 5 rfl (by decide) (by decide) 6 (by decide) fuel

example : (deriveChild toyHmac c 2 m6 6).map (pubView c) =
    .ok { chainCode := cc 160, key := .pub 6, parent := some (.pub 5) } := by
  rw [toy_commutes, child6_pub]

example (hash160 : Bytes → Bytes) :
    (deriveChild toyHmac c 2 m6 6).map (fun a => observe c hash160 (ExtKey.public c a)) =
      .ok (.pub 6, [6], cc 160, (hash160 [5]).take 4) := by
  rw [child6_priv]; rfl

example (hash160 : Bytes → Bytes) :
    (deriveChild toyHmac c 2 (ExtKey.public c m6) 6).map (observe c hash160) =
      .ok (.pub 6, [6], cc 160, (hash160 [5]).take 4) := by
  rw [child6_pub]; rfl

/-- the literal `ExtKey.public` on the left does NOT give equal records: `Public` keeps the parent's private
key in the unexported `parent` field, `DeriveChild` on the public parent stores its public key. -/
example : (deriveChild toyHmac c 2 m6 6).map (ExtKey.public c) ≠
    deriveChild toyHmac c 2 (ExtKey.public c m6) 6 := by
  rw [child6_priv, child6_pub]
  decide +kernel

end Iota.Proofs.Slip10NonVacuity
