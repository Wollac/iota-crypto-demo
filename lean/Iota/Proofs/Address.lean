/-
C19 address round trips.  `Iota.Proofs.Address`: `ParseBech32 ∘ Bech32 = id` on every prefix and address kind
(`parse_bech32`) and the shape of every accepted string (`parse_ok`), from the Bech32 round trip of Proofs/Bech32.
`Iota.Proofs.Migration`: the same pair for the migration (tryte) address form, `decode_encode` / `encode_of_decode`.
-/
import Iota.Model.Address
import Iota.Proofs.Bech32
import Iota.Proofs.B1T6

namespace Iota.Proofs.Address
open Iota.Address Iota.Bech32 Iota.Spec.Bip173 Iota.Proofs.Bech32

theorem hrp_facts : ∀ p, p < 4 →
    (hrpStrings.getD p []).length ≤ 4 ∧ hrpStrings.getD p [] ≠ [] ∧
    (∀ c ∈ hrpStrings.getD p [], 33 ≤ c.toNat ∧ c.toNat ≤ 126) ∧
    (∀ c ∈ hrpStrings.getD p [], isUpperAscii c = false) ∧
    parsePrefix (hrpStrings.getD p []) = some p := by decide +kernel

theorem parsePrefix_some (hrp : Str) (p : Nat) (h : parsePrefix hrp = some p) :
    p < 4 ∧ hrpStrings.getD p [] = hrp := by
  unfold parsePrefix at h
  have h1 := List.idxOf?_eq_some_iff.mp h
  obtain ⟨hlt, hget, _⟩ := h1
  refine ⟨by simpa [hrpStrings] using hlt, ?_⟩
  rw [List.getD_eq_getElem?_getD, List.getElem?_eq_getElem hlt]
  simpa using hget

theorem symCount_mono {a b : Nat} (h : a ≤ b) : symCount a ≤ symCount b := by
  unfold symCount; omega

theorem encPre_addr (p : Nat) (hp : p < 4) (a : Addr) (hl : a.hash.length = a.kind.hashLen) :
    EncPre (hrpStrings.getD p []) a.bytes := by
  obtain ⟨h1, h2, h3, h4, _⟩ := hrp_facts p hp
  refine ⟨?_, h2, h3, ?_⟩
  · have : a.bytes.length ≤ 33 := by
      simp only [Addr.bytes, List.length_cons, hl]
      cases a.kind <;> simp [Kind.hashLen]
    have := symCount_mono this
    have e : symCount 33 = 53 := by decide
    omega
  · rintro ⟨⟨c, hc, hu⟩, _⟩
    rw [h4 c hc] at hu; simp at hu

/-- C19: `ParseBech32 ∘ Bech32 = id` for every prefix and every address of the three kinds. -/
theorem parse_bech32 (p : Nat) (hp : p < 4) (a : Addr) (hl : a.hash.length = a.kind.hashLen) :
    ∃ s, bech32 p a = .ok s ∧ parseBech32 s = .ok (p, a) := by
  have hpre := encPre_addr p hp a hl
  obtain ⟨_, _, _, h4, h5⟩ := hrp_facts p hp
  refine ⟨encSpec (hrpStrings.getD p []) a.bytes, (encode_ok_iff _ _ _).mpr ⟨hpre, rfl⟩, ?_⟩
  have hdec := decode_encode _ _ _ ((encode_ok_iff _ _ _).mpr ⟨hpre, rfl⟩)
  have hlow : lower (hrpStrings.getD p []) = hrpStrings.getD p [] := (lower_eq_self_iff _).mpr h4
  unfold parseBech32
  rw [hdec, hlow]
  simp only [h5, Addr.bytes]
  obtain ⟨k, hash⟩ := a
  -- the version byte of `k` selects its own branch, whose length test is `hl`
  cases k
  · exact (if_pos rfl).trans (if_neg (not_not_intro hl))
  · exact (if_neg (by decide : ¬ (8 : UInt8) = 0)).trans ((if_pos rfl).trans (if_neg (not_not_intro hl)))
  · exact (if_neg (by decide : ¬ (16 : UInt8) = 0)).trans ((if_neg (by decide : ¬ (16 : UInt8) = 8)).trans
      ((if_pos rfl).trans (if_neg (not_not_intro hl))))

/-- C19: what an accepted string must look like. -/
theorem parse_ok (s : Str) (p : Nat) (a : Addr) (h : parseBech32 s = .ok (p, a)) :
    p < 4 ∧ Valid s (hrpStrings.getD p []) a.bytes ∧ a.hash.length = a.kind.hashLen ∧
    bech32 p a = .ok (lower s) := by
  unfold parseBech32 at h
  split at h
  · simp at h
  · rename_i hrp addrData hdec
    split at h
    · simp at h
    · rename_i pfx hpfx
      obtain ⟨hlt, hget⟩ := parsePrefix_some hrp pfx hpfx
      split at h
      · simp at h
      · rename_i version rest
        have key : ∀ (k : Kind), version = k.version → rest.length = k.hashLen →
            (Except.ok (pfx, (⟨k, rest⟩ : Addr)) : Except ParseErr (Nat × Addr)) = .ok (p, a) →
            p < 4 ∧ Valid s (hrpStrings.getD p []) a.bytes ∧ a.hash.length = a.kind.hashLen ∧
              bech32 p a = .ok (lower s) := by
          intro k hv hlen heq
          simp only [Except.ok.injEq, Prod.mk.injEq] at heq
          obtain ⟨rfl, rfl⟩ := heq
          have hb : (⟨k, rest⟩ : Addr).bytes = version :: rest := by simp [Addr.bytes, hv]
          refine ⟨hlt, ?_, hlen, ?_⟩
          · rw [hget, hb]; exact (decode_ok_iff_valid _ _ _).mp hdec
          · unfold bech32; rw [hget, hb]; exact reencode _ _ _ hdec
        split at h
        · rename_i hv
          split at h
          · simp at h
          · rename_i hlen
            exact key .ed25519 hv (by simpa [Kind.hashLen] using hlen) h
        · split at h
          · rename_i hv
            split at h
            · simp at h
            · rename_i hlen
              exact key .alias hv (by simpa [Kind.hashLen] using hlen) h
          · split at h
            · rename_i hv
              split at h
              · simp at h
              · rename_i hlen
                exact key .nft hv (by simpa [Kind.hashLen] using hlen) h
            · simp at h

end Iota.Proofs.Address

namespace Iota.Proofs.Migration
open Iota.Migration Iota.B1T6 Iota.Proofs.B1T6

theorem encodeToTrytes_append (a b : Bytes) : encodeToTrytes (a ++ b) = encodeToTrytes a ++ encodeToTrytes b := by
  simp [encodeToTrytes]

theorem encodeToTrytes_length (a : Bytes) : (encodeToTrytes a).length = 2 * a.length := by
  induction a with
  | nil => rfl
  | cons b bs ih =>
    obtain ⟨c1, c2, he, _⟩ := encodeByteTrytes_shape b
    rw [encodeToTrytes_cons, he]; simp [ih]; omega

theorem encodeToTrytes_chars (a : Bytes) : ∀ c ∈ encodeToTrytes a, isTryteChar c = true := by
  induction a with
  | nil => intro c hc; simp [encodeToTrytes] at hc
  | cons b bs ih =>
    obtain ⟨c1, c2, he, h1, h2, _⟩ := encodeByteTrytes_shape b
    rw [encodeToTrytes_cons, he]
    intro c hc
    simp only [List.cons_append, List.nil_append, List.mem_cons] at hc
    rcases hc with rfl | rfl | hc
    · exact h1
    · exact h2
    · exact ih c hc

theorem pfx_sfx_chars : (∀ c ∈ pfx, isTryteChar c = true) ∧ (∀ c ∈ sfx, isTryteChar c = true) := by
  decide

/-- C19: the migration form of every 32-byte address decodes to that address. -/
theorem decode_encode (H : Bytes → Bytes) (hH : ∀ x, 4 ≤ (H x).length) (a : Bytes) (ha : a.length = 32) :
    Migration.decode H (Migration.encode H a) = .ok a := by
  have hcs : ((H a).take checksumSize).length = 4 := by
    rw [List.length_take]; unfold checksumSize; have := hH a; omega
  have henc : (encodeToTrytes (a ++ (H a).take checksumSize)).length = 72 := by
    rw [encodeToTrytes_length, List.length_append, ha, hcs]
  have hea : (encodeToTrytes a).length = 64 := by rw [encodeToTrytes_length, ha]
  unfold Migration.decode Migration.encode
  have hguard : isTrytesOfExactLength
      (pfx ++ encodeToTrytes (a ++ (H a).take checksumSize) ++ sfx) hashTrytesSize = true := by
    unfold isTrytesOfExactLength hashTrytesSize
    simp only [List.length_append, henc, Bool.and_eq_true, List.all_eq_true]
    refine ⟨⟨by decide, by decide⟩, ?_⟩
    intro c hc
    rcases List.mem_append.mp hc with hc | hc
    · rcases List.mem_append.mp hc with hc | hc
      · exact pfx_sfx_chars.1 c hc
      · exact encodeToTrytes_chars _ c hc
    · exact pfx_sfx_chars.2 c hc
  rw [hguard]
  simp only [Bool.not_true, Bool.false_eq_true, if_false]
  have htake : (pfx ++ encodeToTrytes (a ++ (H a).take checksumSize) ++ sfx).take pfx.length = pfx := by
    rw [List.append_assoc]; simp
  rw [if_neg (by rw [htake]; simp)]
  have hdrop : (pfx ++ encodeToTrytes (a ++ (H a).take checksumSize) ++ sfx).drop pfx.length =
      encodeToTrytes (a ++ (H a).take checksumSize) ++ sfx := by
    rw [List.append_assoc]; simp
  simp only [hdrop]
  have hl1 : (encodeToTrytes (a ++ (H a).take checksumSize) ++ sfx).length - sfx.length = 72 := by
    simp [henc, sfx]
  rw [hl1]
  have hd2 : (encodeToTrytes (a ++ (H a).take checksumSize) ++ sfx).drop 72 = sfx := by
    rw [← henc]; simp
  have ht2 : (encodeToTrytes (a ++ (H a).take checksumSize) ++ sfx).take 72 =
      encodeToTrytes (a ++ (H a).take checksumSize) := by
    rw [← henc]; simp
  rw [if_neg (by rw [hd2]; simp), ht2, encodeToTrytes_append]
  have e64 : 6 * addressSize / 3 = (encodeToTrytes a).length := by rw [hea]; decide
  rw [e64]
  simp only [List.take_left', List.drop_left', decodeTrytes_encode]
  rw [if_neg (by rw [hcs]; simp [checksumSize])]

/-- C19: the migration decoder accepts only what the encoder produces. -/
theorem encode_of_decode (H : Bytes → Bytes) (t a : Bytes) (h : Migration.decode H t = .ok a) :
    t = Migration.encode H a ∧ a.length = 32 := by
  unfold Migration.decode at h
  split at h
  · simp at h
  · rename_i hg
    simp only [Bool.not_eq_true', Bool.not_eq_false] at hg
    unfold isTrytesOfExactLength hashTrytesSize at hg
    simp only [Bool.and_eq_true, beq_iff_eq, List.all_eq_true] at hg
    obtain ⟨⟨hlen, _⟩, hchars⟩ := hg
    split at h
    · simp at h
    · rename_i hp
      simp only [ne_eq, Classical.not_not] at hp
      simp only at h
      split at h
      · simp at h
      · rename_i hs
        simp only [ne_eq, Classical.not_not] at hs
        have hpl : pfx.length = 8 := rfl
        have hsl : sfx.length = 1 := rfl
        have hl1 : (t.drop pfx.length).length = 73 := by rw [List.length_drop, hlen, hpl]
        rw [hl1, hsl] at hs h
        simp only [show 73 - 1 = 72 from rfl, show 6 * addressSize / 3 = 64 from rfl] at hs h
        have hc2 : ∀ c ∈ (t.drop pfx.length).take 72, isTryteChar c = true :=
          fun c hc => hchars c (List.mem_of_mem_drop (List.mem_of_mem_take hc))
        split at h
        · simp at h
        · rename_i addrBytes hab
          split at h
          · simp at h
          · rename_i csBytes hcb
            split at h
            · simp at h
            · rename_i hcs
              simp only [ne_eq, Classical.not_not] at hcs
              simp only [Except.ok.injEq] at h
              subst h
              have e1 := (decodeTrytes_ok_iff _ (fun c hc => hc2 c (List.mem_of_mem_take hc)) _).mp hab
              have e2 := (decodeTrytes_ok_iff _ (fun c hc => hc2 c (List.mem_of_mem_drop hc)) _).mp hcb
              have l1 : (((t.drop pfx.length).take 72).take 64).length = 64 := by
                simp [List.length_take, hl1]
              have l2 : (((t.drop pfx.length).take 72).drop 64).length = 8 := by
                simp [List.length_take, List.length_drop, hl1]
              have la : addrBytes.length = 32 := by
                have := congrArg List.length e1
                rw [l1, encodeToTrytes_length] at this; omega
              have lc : csBytes.length = 4 := by
                have := congrArg List.length e2
                rw [l2, encodeToTrytes_length] at this; omega
              refine ⟨?_, la⟩
              unfold Migration.encode
              rw [encodeToTrytes_append, checksumSize, ← lc, ← hcs, ← e1, ← e2, List.take_append_drop,
                ← hs, List.append_assoc, List.take_append_drop]
              conv => lhs; rw [← List.take_append_drop pfx.length t, hp]

end Iota.Proofs.Migration
