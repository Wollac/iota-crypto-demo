/-
Little-endian byte strings (`leNat`, `leBytes` of Iota/Model/Edwards.lean) and the few numeric facts
about the group order `L` and the field prime `p` that the Ed25519 / VRF proofs use.
-/
import Mathlib.Tactic.Ring
import Mathlib.Tactic.NormNum
import Iota.Model.Vrf

namespace Iota.Proofs.Ed
open Iota.Edwards (Bytes leNat leBytes L)

/-! ### numeric facts -/

theorem L_eq : L = 7237005577332262213973186563042994240857116359379907606001950938285454250989 := by
  norm_num [L]

theorem p_eq : Iota.Edwards.p =
    57896044618658097711785492504343953926634992332820282019728792003956564819949 := by
  norm_num [Iota.Edwards.p]

theorem L_pos : 0 < L := by rw [L_eq]; norm_num
theorem L_lt_253 : L < 2 ^ 253 := by rw [L_eq]; norm_num
theorem L_lt_256 : L < 2 ^ 256 := by rw [L_eq]; norm_num
theorem L_gt_252 : 2 ^ 252 < L := by rw [L_eq]; norm_num

/-! ### `leNat` -/

@[simp] theorem leNat_nil : leNat [] = 0 := rfl

theorem leNat_cons (x : UInt8) (xs : Bytes) : leNat (x :: xs) = x.toNat + 256 * leNat xs := rfl

theorem leNat_append (a b : Bytes) : leNat (a ++ b) = leNat a + 256 ^ a.length * leNat b := by
  induction a with
  | nil => simp
  | cons x xs ih =>
    simp only [List.cons_append, leNat_cons, ih, List.length_cons, pow_succ]; ring

theorem leNat_lt (b : Bytes) : leNat b < 256 ^ b.length := by
  induction b with
  | nil => simp
  | cons x xs ih =>
    have := x.toNat_lt
    simp only [leNat_cons, List.length_cons, pow_succ]; omega

theorem leNat_take_add_drop (b : Bytes) (n : Nat) (hn : n ≤ b.length) :
    leNat b = leNat (b.take n) + 256 ^ n * leNat (b.drop n) := by
  conv_lhs => rw [← List.take_append_drop n b]
  rw [leNat_append, List.length_take, Nat.min_eq_left hn]

theorem uint8_eq_255_iff (x : UInt8) : x = 255 ↔ x.toNat = 255 := by
  constructor
  · rintro rfl; rfl
  · intro h; exact UInt8.toNat_inj.mp (by simpa using h)

/-- the value of a byte string all of whose bytes are `255` is the maximum, and conversely. -/
theorem leNat_eq_max_iff (b : Bytes) : leNat b = 256 ^ b.length - 1 ↔ ∀ x ∈ b, x = 255 := by
  induction b with
  | nil => simp
  | cons x xs ih =>
    have hx := x.toNat_lt
    have hlt := leNat_lt xs
    have hpos : 0 < 256 ^ xs.length := Nat.pow_pos (by norm_num)
    simp only [leNat_cons, List.length_cons, pow_succ, List.mem_cons, forall_eq_or_imp]
    rw [← ih, uint8_eq_255_iff]
    omega

/-! ### `leBytes` -/

@[simp] theorem leBytes_length (n len : Nat) : (leBytes n len).length = len := by simp [leBytes]

theorem leBytes_zero (n : Nat) : leBytes n 0 = [] := by simp [leBytes]

theorem leBytes_succ (n len : Nat) :
    leBytes n (len + 1) = UInt8.ofNat (n % 256) :: leBytes (n / 256) len := by
  simp only [leBytes, List.range_succ_eq_map, List.map_cons, List.map_map]
  simp only [Nat.mul_zero, Nat.shiftRight_zero, List.cons.injEq, true_and]
  · apply List.map_congr_left
    intro i _
    simp only [Function.comp, Nat.shiftRight_eq_div_pow]
    rw [Nat.succ_eq_add_one, Nat.mul_add, Nat.pow_add, Nat.mul_comm (2 ^ (8 * i)), ← Nat.div_div_eq_div_mul]

theorem leNat_leBytes (n len : Nat) : leNat (leBytes n len) = n % 256 ^ len := by
  induction len generalizing n with
  | zero => simp [leBytes_zero, Nat.mod_one]
  | succ len ih =>
    rw [leBytes_succ, leNat_cons, ih, UInt8.toNat_ofNat']
    have : n % 256 % 2 ^ 8 = n % 256 := by omega
    rw [this, pow_succ, Nat.mul_comm (256 ^ len), Nat.mod_mul]

theorem leNat_leBytes_of_lt (n len : Nat) (h : n < 256 ^ len) : leNat (leBytes n len) = n := by
  rw [leNat_leBytes, Nat.mod_eq_of_lt h]

theorem pow_256_32 : (256 : ℕ) ^ 32 = 2 ^ 256 := by norm_num

/-- a scalar below `L` survives the 32-byte encoding. -/
theorem leNat_leBytes_of_lt_L {S : ℕ} (h : S < L) : leNat (leBytes S 32) = S :=
  leNat_leBytes_of_lt S 32 (by rw [pow_256_32]; exact h.trans L_lt_256)

theorem leBytes_leNat (b : Bytes) : leBytes (leNat b) b.length = b := by
  induction b with
  | nil => simp [leBytes_zero]
  | cons x xs ih =>
    have hx := x.toNat_lt
    rw [List.length_cons, leBytes_succ, leNat_cons]
    have h1 : (x.toNat + 256 * leNat xs) % 256 = x.toNat := by omega
    have h2 : (x.toNat + 256 * leNat xs) / 256 = leNat xs := by omega
    rw [h1, h2, ih, UInt8.ofNat_toNat]

theorem leBytes_take (n len k : Nat) : (leBytes n len).take k = leBytes n (min k len) := by
  simp only [leBytes, ← List.map_take, List.take_range]

theorem eq_leBytes_of_length (b : Bytes) (len : Nat) (h : b.length = len) : leBytes (leNat b) len = b := by
  subst h; exact leBytes_leNat b

end Iota.Proofs.Ed
