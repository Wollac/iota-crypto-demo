/-
Non-vacuity, second part.

`Witness.lean` shows that the hypotheses `Lawful`, `Cofactor`, `OrderExact`, `EncodeCanonical`,
`EncodeDecode` are jointly satisfiable.  Joint satisfiability alone does not witness the theorems whose
hypotheses mention an accepted VRF proof or a torsion point: try-and-increment has to find a point (it cannot
under a constant hash), and `ZMod L` has no non-zero 8-torsion.  This file provides both:

  A. on `witnessLibH` = `ZMod L` with a NON-constant hash whose first 32 bytes always encode a non-zero
     group element, `encodeToCurve` succeeds for every input, and for every
     32-byte seed and every alpha the honest VRF proof exists and is accepted (so the hypotheses of
     C18 `complete`, `verify_iff`, `hash_routes_agree`, `unique_partial` are met by actual data); the
     same for Ed25519 sign-then-verify.
  B. `torsLibL` = `ZMod (8·L)` with base point `8` (order `L`) and torsion point `T = L ≠ 0`,
     `8•T = 0`: `Lawful` and `Cofactor` hold (`EncodeCanonical` does not and is not needed for C01), and
     honest signatures for a key `A` are ZIP-215-accepted for `A + T` although the cofactorless equation
     fails for `A + T` — at the level of the group equation and at the level of `verify` / `stdVerify`.

As in Witness.lean everything is proved for a variable modulus `n` and specialised to `n = L` last.
-/
import Mathlib.Data.ZMod.Basic
import Iota.Proofs.Ed
import Iota.Proofs.Primes

namespace Iota.Proofs.Ed
open Iota.Edwards (Bytes leNat leBytes L)
open Iota.Ed25519 (EdLib uniformScalar newKeyFromSeed sign)
open Iota

theorem L_gt_300 : 300 < L := Nat.lt_trans (by norm_num) L_gt_252

/-! ## A. a lawful library on which the VRF runs -/

section
variable {n : ℕ}

theorem hashNat_pos (m : Bytes) : 0 < hashNat n m := Nat.succ_pos _

theorem hashNat_lt (hn : 2 ≤ n) (m : Bytes) : hashNat n m < n := by
  unfold hashNat
  have := Nat.mod_lt (m.foldl (fun a b => a * 31 + b.toNat) 7) (show 0 < n - 1 by omega)
  omega

theorem zmodLibH_sha512_nonconst (hn : 300 < n) :
    (zmodLibH n).sha512 [] ≠ (zmodLibH n).sha512 [0] := by
  intro heq
  have h1 : hashNat n [] = 8 := by
    unfold hashNat
    rw [List.foldl_nil, Nat.mod_eq_of_lt (by omega)]
  have h2 : hashNat n [0] = 218 := by
    unfold hashNat
    rw [List.foldl_cons, List.foldl_nil, show 7 * 31 + (0 : UInt8).toNat = 217 from rfl,
      Nat.mod_eq_of_lt (by omega)]
  rw [zmodLibH_sha512, zmodLibH_sha512, h1, h2] at heq
  have := congrArg (fun l => leNat (l.take 32)) heq
  simp only [List.take_left' (leBytes_length _ 32)] at this
  rw [leNat_leBytes_of_lt _ _ (by norm_num), leNat_leBytes_of_lt _ _ (by norm_num)] at this
  exact absurd this (by decide)

/-- the first 32 bytes of every hash are the encoding of the residue `hashNat n m`. -/
theorem zmodLibH_sha512_take (hn : 2 ≤ n) (m : Bytes) :
    ((zmodLibH n).sha512 m).take Vrf.ptLen = (zmodLibH n).encode ((hashNat n m : ℕ) : ZMod n) := by
  rw [zmodLibH_sha512, show Vrf.ptLen = 32 from rfl, List.take_left' (leBytes_length _ 32)]
  show _ = leBytes (((hashNat n m : ℕ) : ZMod n)).val 32
  rw [ZMod.val_natCast_of_lt (hashNat_lt hn m)]

/-- eight times a non-zero residue is non-zero (prime modulus above 8). -/
theorem zmod_eight_nsmul_ne_zero (hp : n.Prime) (h8 : 8 < n) (x : ℕ) (h0 : 0 < x) (hx : x < n) :
    (8 : ℕ) • ((x : ℕ) : ZMod n) ≠ 0 := by
  rw [nsmul_eq_mul, ← Nat.cast_mul, Ne, ZMod.natCast_eq_zero_iff, hp.dvd_mul]
  rintro (h | h)
  · exact absurd (Nat.le_of_dvd (by norm_num) h) (by omega)
  · exact absurd (Nat.le_of_dvd h0 h) (by omega)

/-- **try-and-increment succeeds** on `zmodLibH n` for every salt and alpha (already at counter 0). -/
theorem zmodLibH_encodeToCurve (h : Lawful (zmodLibH n)) (hcan : EncodeCanonical (zmodLibH n)) (hp : n.Prime)
    (h8 : 8 < n) (salt alpha : Bytes) : ∃ H, Vrf.encodeToCurve (zmodLibH n) salt alpha = some H := by
  rw [← Option.isSome_iff_exists]
  unfold Vrf.encodeToCurve
  rw [List.findSome?_isSome_iff]
  refine ⟨0, by simp, ?_⟩
  simp only
  rw [zmodLibH_sha512_take (by omega), pointFromCanonicalBytes_encode h hcan]
  simp only
  rw [if_neg]
  · rfl
  · rw [h.eq_zero_iff, h.smul_eq]
    exact zmod_eight_nsmul_ne_zero hp h8 _ (hashNat_pos _) (hashNat_lt (by omega) _)

end

/-! ## B. a lawful library with non-trivial 8-torsion -/

/-- the cyclic group `ZMod (8·n)` with base point `8` (of order `n`), permissive decoding of any
32-byte representative below `8·n`, and a toy hash that sees only the length of its input (an odd
number below 256, as 64 little-endian bytes) — so that two different keys of the same length give the
same hash scalar, which is what the hypothesis of `torsion_verdicts` asks. -/
def torsLib (n : ℕ) : EdLib (ZMod (8 * n)) :=
  cycLib (8 * n) ((8 : ℕ) : ZMod (8 * n)) fun m => leBytes (2 * (m.length % 128) + 1) 64

section
variable {n : ℕ}

theorem torsLib_sha512 (m : Bytes) :
    (torsLib n).sha512 m = leBytes (2 * (m.length % 128) + 1) 64 := rfl

theorem torsLib_lawful [NeZero n] (hn : 8 * n < 2 ^ 256) (hL : n = L) : Lawful (torsLib n) :=
  haveI : NeZero (8 * n) := ⟨Nat.mul_ne_zero (by norm_num) (NeZero.ne n)⟩
  cycLib_lawful (by rw [pow_256_32]; exact hn)
    (by rw [← hL, nsmul_eq_mul, ← Nat.cast_mul, ZMod.natCast_eq_zero_iff, Nat.mul_comm])
    fun _ => leBytes_length _ _

theorem torsLib_cofactor (hL : n = L) : Cofactor (torsLib n) := cycLib_cofactor (hL ▸ dvd_rfl)

/-- the torsion point `T = n`: `k•T = 0` only for `8 ∣ k` … -/
theorem torsLib_smul_torsion_ne (hn : 0 < n) (k : ℕ) (hk : k % 8 ≠ 0) :
    k • ((n : ℕ) : ZMod (8 * n)) ≠ 0 := by
  rw [nsmul_eq_mul, ← Nat.cast_mul, Ne, ZMod.natCast_eq_zero_iff]
  intro h
  exact hk (Nat.mod_eq_zero_of_dvd (Nat.dvd_of_mul_dvd_mul_right hn h))

/-- … so `8•T = 0` and `T ≠ 0`. -/
theorem torsLib_torsion (hn : 0 < n) :
    (8 : ℕ) • ((n : ℕ) : ZMod (8 * n)) = 0 ∧ ((n : ℕ) : ZMod (8 * n)) ≠ 0 :=
  ⟨by rw [nsmul_eq_mul, ← Nat.cast_mul, ZMod.natCast_self],
    fun h => torsLib_smul_torsion_ne hn 1 (by decide) (by rw [one_smul]; exact h)⟩

end

/-! ### any lawful library with a torsion point: the cofactorless check is strictly stronger -/

section
variable {G : Type} [AddCommGroup G] {lib : EdLib G}

/-- **the ZIP-215 equation is strictly weaker than the cofactorless one** wherever there is torsion: for a
point `T` with `8•T = 0`, the key `A = a•B`, commitment `R = r•B`, a scalar `k` with `k•T ≠ 0` and the honest
response `S = r + k·a`, the cofactored equation holds for `A` AND for the shifted key `A + T`; the cofactorless
equation holds for `A` and FAILS for `A + T`. -/
theorem zip215_strict {T : G} (hT : (8 : ℕ) • T = 0) (a r k : ℕ) (hkT : k • T ≠ 0) :
    let A := a • lib.base
    let R := r • lib.base
    let S := r + k * a
    Zip215Eq lib S k A R ∧ Zip215Eq lib S k (A + T) R ∧
    S • lib.base = R + k • A ∧ S • lib.base ≠ R + k • (A + T) := by
  intro A R S
  have hstd : S • lib.base = R + k • A := by
    show (r + k * a) • lib.base = r • lib.base + k • (a • lib.base)
    rw [add_smul, mul_smul]
  have hA : Zip215Eq lib S k A R := by
    unfold Zip215Eq; rw [hstd, smul_add]
  refine ⟨hA, (zip215Eq_congr S k (nsmul_add_torsion hT A) rfl).mpr hA, hstd, ?_⟩
  intro hbad
  rw [smul_add, ← add_assoc, ← hstd] at hbad
  exact hkT (left_eq_add.mp hbad)

/-- `Point.Bytes` is injective (it has the left inverse `decode`). -/
theorem encode_injective (h : Lawful lib) {a b : G} (hab : lib.encode a = lib.encode b) : a = b := by
  have ha := h.decode_encode a
  rw [hab, h.decode_encode b] at ha
  exact (Option.some.inj ha).symm

/-- a signature that passes the cofactorless check for the key `A` fails it for a key `A + T` with the
same hash scalar `k` as soon as `k•T ≠ 0`. -/
theorem stdVerify_torsion_false (h : Lawful lib) (pk pk' msg sig : Bytes) (A T : G)
    (hA : lib.decode pk = some A) (hA' : lib.decode pk' = some (A + T))
    (hk : hramScalar lib pk msg sig = hramScalar lib pk' msg sig)
    (hkT : hramScalar lib pk msg sig • T ≠ 0) (hstd : stdVerify lib pk msg sig = true) :
    stdVerify lib pk' msg sig = false := by
  rw [← Bool.not_eq_true]
  intro hstd'
  obtain ⟨_, _, _, A1, hA1, he1⟩ := (stdVerify_iff h pk msg sig).mp hstd
  obtain ⟨_, _, _, A2, hA2, he2⟩ := (stdVerify_iff h pk' msg sig).mp hstd'
  rw [hA] at hA1; cases hA1
  rw [hA'] at hA2; cases hA2
  rw [← hk] at he2
  have heq := encode_injective h (he1.trans he2.symm)
  rw [smul_add] at heq
  exact hkT (left_eq_add.mp (sub_right_inj.mp heq))

/-- the cofactorless check determines the `R` half from the rest: two signatures it accepts for the same key
and message, with the same `S` half and the same hash scalar, have the same first 32 bytes. -/
theorem stdVerify_take_eq (h : Lawful lib) {pk msg sig sig' : Bytes} (hSS : sig.drop 32 = sig'.drop 32)
    (hk : hramScalar lib pk msg sig = hramScalar lib pk msg sig')
    (hs : stdVerify lib pk msg sig = true) (hs' : stdVerify lib pk msg sig' = true) :
    sig.take 32 = sig'.take 32 := by
  obtain ⟨_, _, _, A1, hA1, he1⟩ := (stdVerify_iff h pk msg sig).mp hs
  obtain ⟨_, _, _, A2, hA2, he2⟩ := (stdVerify_iff h pk msg sig').mp hs'
  rw [hA1] at hA2; cases hA2
  rw [← hSS, ← hk, he1] at he2
  exact he2

end

/-! ### verdict level on `torsLib`: `verify` accepts for `A` and `A + T`, the cofactorless check only for `A` -/

section
variable {n : ℕ}

/-- the toy hash sees only the length, so keys of equal length and `R` halves of equal length give the same
hash scalar … -/
theorem torsLib_hram_eq (pk pk' msg sig sig' : Bytes) (hpk : pk.length = pk'.length)
    (hsig : (sig.take 32).length = (sig'.take 32).length) :
    hramScalar (torsLib n) pk msg sig = hramScalar (torsLib n) pk' msg sig' := by
  unfold hramScalar
  rw [torsLib_sha512, torsLib_sha512]
  simp only [List.length_append, hpk, hsig]

/-- … and that scalar is odd (so it does not kill the torsion point). -/
theorem torsLib_hram_mod8 (pk msg sig : Bytes) : hramScalar (torsLib n) pk msg sig % 8 ≠ 0 := by
  unfold hramScalar uniformScalar
  rw [torsLib_sha512]
  have hv := Nat.mod_lt (sig.take 32 ++ pk ++ msg).length (show 0 < 128 by norm_num)
  generalize (sig.take 32 ++ pk ++ msg).length % 128 = v at hv ⊢
  have h256 : 2 * v + 1 < 256 := by omega
  rw [leNat_leBytes_of_lt _ _ (Nat.lt_of_lt_of_le h256 (by norm_num)),
    Nat.mod_eq_of_lt (Nat.lt_trans (Nat.lt_trans h256 (by norm_num)) L_gt_300)]
  omega

/-- **verdicts**: for the honest key `A = x•B`, its torsion-shifted companion `A + T` (a different
32-byte key), any message and the honest signature under `A`:
`verify` accepts under both keys, the cofactorless `stdVerify` accepts under `A` and rejects under
`A + T`.  (All hypotheses of `torsion_verdicts`, first part, hold here; `T ≠ 0` by `torsLib_torsion`.) -/
theorem torsLib_verify_strict [NeZero n] (hn8 : 8 * n < 2 ^ 256) (hL : n = L) (x r : ℕ) (msg : Bytes) :
    let lib := torsLib n
    let T : ZMod (8 * n) := ((n : ℕ) : ZMod (8 * n))
    let A := x • lib.base
    let pk := lib.encode A
    let pk' := lib.encode (A + T)
    let Renc := lib.encode (r • lib.base)
    let sig := Renc ++ leBytes ((uniformScalar (lib.sha512 (Renc ++ pk ++ msg)) * (x % L) + r) % L) 32
    pk.length = 32 ∧ pk'.length = 32 ∧ pk ≠ pk' ∧
    lib.decode pk = some A ∧ lib.decode pk' = some (A + T) ∧
    hramScalar lib pk msg sig = hramScalar lib pk' msg sig ∧
    Ed25519.verify lib pk msg sig = some true ∧ Ed25519.verify lib pk' msg sig = some true ∧
    stdVerify lib pk msg sig = true ∧ stdVerify lib pk' msg sig = false := by
  intro lib T A pk pk' Renc sig
  have h : Lawful lib := torsLib_lawful hn8 hL
  have hn : 0 < n := Nat.pos_of_ne_zero (NeZero.ne n)
  obtain ⟨hT, hT0⟩ := torsLib_torsion hn
  have hpk : pk.length = 32 := h.encode_length _
  have hpk' : pk'.length = 32 := h.encode_length _
  have hA : lib.decode pk = some A := h.decode_encode _
  have hA' : lib.decode pk' = some (A + T) := h.decode_encode _
  have hk : hramScalar lib pk msg sig = hramScalar lib pk' msg sig :=
    torsLib_hram_eq pk pk' msg sig sig (hpk.trans hpk'.symm) rfl
  have hv : Ed25519.verify lib pk msg sig = some true := verify_constructed h x r msg
  have hs : stdVerify lib pk msg sig = true := stdVerify_constructed h x r msg
  exact ⟨hpk, hpk', fun heq => hT0 (left_eq_add.mp (encode_injective h heq)), hA, hA', hk, hv,
    (verify_torsion_key h pk pk' msg sig hpk hpk' A T hA hA' hT hk).mp hv, hs,
    stdVerify_torsion_false h pk pk' msg sig A T hA hA' hk
      (torsLib_smul_torsion_ne hn _ (torsLib_hram_mod8 pk msg sig)) hs⟩

/-- the same for the `R` half (second part of `torsion_verdicts`): replacing the commitment encoding of
`R` by that of `R + T` keeps `verify` accepting and makes the cofactorless check reject. -/
theorem torsLib_verify_strict_R [NeZero n] (hn8 : 8 * n < 2 ^ 256) (hL : n = L) (x r : ℕ) (msg : Bytes) :
    let lib := torsLib n
    let T : ZMod (8 * n) := ((n : ℕ) : ZMod (8 * n))
    let pk := lib.encode (x • lib.base)
    let R := r • lib.base
    let Sb := leBytes ((uniformScalar (lib.sha512 (lib.encode R ++ pk ++ msg)) * (x % L) + r) % L) 32
    let sig := lib.encode R ++ Sb
    let sig' := lib.encode (R + T) ++ Sb
    pk.length = 32 ∧ lib.decode pk = some (x • lib.base) ∧
    sig.length = 64 ∧ sig'.length = 64 ∧ sig ≠ sig' ∧ sig.drop 32 = sig'.drop 32 ∧
    lib.decode (sig.take 32) = some R ∧ lib.decode (sig'.take 32) = some (R + T) ∧
    hramScalar lib pk msg sig = hramScalar lib pk msg sig' ∧
    Ed25519.verify lib pk msg sig = some true ∧ Ed25519.verify lib pk msg sig' = some true ∧
    stdVerify lib pk msg sig = true ∧ stdVerify lib pk msg sig' = false := by
  intro lib T pk R Sb sig sig'
  have h : Lawful lib := torsLib_lawful hn8 hL
  obtain ⟨hT, hT0⟩ := torsLib_torsion (Nat.pos_of_ne_zero (NeZero.ne n))
  have hpk : pk.length = 32 := h.encode_length _
  have hR : (lib.encode R).length = 32 := h.encode_length _
  have hR' : (lib.encode (R + T)).length = 32 := h.encode_length _
  have hlen : sig.length = 64 := List.length_append.trans (by rw [hR, leBytes_length])
  have hlen' : sig'.length = 64 := List.length_append.trans (by rw [hR', leBytes_length])
  have htake : sig.take 32 = lib.encode R := List.take_left' hR
  have htake' : sig'.take 32 = lib.encode (R + T) := List.take_left' hR'
  have hdrop : sig.drop 32 = sig'.drop 32 := (List.drop_left' hR).trans (List.drop_left' hR').symm
  have hdR : lib.decode (sig.take 32) = some R := htake ▸ h.decode_encode R
  have hdR' : lib.decode (sig'.take 32) = some (R + T) := htake' ▸ h.decode_encode (R + T)
  have hk : hramScalar lib pk msg sig = hramScalar lib pk msg sig' :=
    torsLib_hram_eq pk pk msg sig sig' rfl (by rw [htake, htake', hR, hR'])
  have hv : Ed25519.verify lib pk msg sig = some true := verify_constructed h x r msg
  have hs : stdVerify lib pk msg sig = true := stdVerify_constructed h x r msg
  -- the two signatures differ already in their first 32 bytes, the encodings of `R` and `R + T`
  have hne : sig.take 32 ≠ sig'.take 32 := fun heq =>
    hT0 (left_eq_add.mp (encode_injective h (htake.symm.trans (heq.trans htake'))))
  refine ⟨hpk, h.decode_encode _, hlen, hlen', fun heq => hne (congrArg (List.take 32) heq), hdrop, hdR, hdR',
    hk, hv, (verify_torsion_R h pk msg sig sig' hpk hlen hlen' hdrop R T hdR hdR' hT hk).mp hv, hs, ?_⟩
  rw [← Bool.not_eq_true]
  exact fun hs' => hne (stdVerify_take_eq h hdrop hk hs hs')

end

/-! ### the witness `n = L` -/

theorem witnessH_sha512_nonconst : witnessLibH.sha512 [] ≠ witnessLibH.sha512 [0] :=
  zmodLibH_sha512_nonconst L_gt_300

/-- **try-and-increment never panics on the witness.** -/
theorem witness_encodeToCurve (salt alpha : Bytes) :
    ∃ H, Vrf.encodeToCurve witnessLibH salt alpha = some H :=
  zmodLibH_encodeToCurve witnessH_lawful witnessH_encodeCanonical Iota.Proofs.Primes.prime_L
    (Nat.lt_trans (by norm_num) L_gt_252) salt alpha

/-- **the VRF runs on the witness**, for EVERY 32-byte seed and EVERY alpha: key, hashed point, proof,
acceptance with the proof's hash, agreement of `proofToHash`, decoding of the proof bytes, and the
small-order hypothesis of `unique_partial` for `x = secretScalar`. -/
theorem witness_vrf_runs (seed alpha : Bytes) (hs : seed.length = 32) :
    ∃ sk H D, newKeyFromSeed witnessLibH seed = some sk ∧ (sk.drop 32).length = 32 ∧
      Vrf.encodeToCurve witnessLibH (sk.drop 32) alpha = some H ∧
      Vrf.prove witnessLibH sk alpha = some D ∧
      Vrf.verify witnessLibH (sk.drop 32) alpha (D.bytes witnessLibH) = some (true, D.hash witnessLibH) ∧
      Vrf.proofToHash witnessLibH (D.bytes witnessLibH) = some (D.hash witnessLibH) ∧
      Vrf.Proof.setBytes witnessLibH (D.bytes witnessLibH) = some D ∧
      (8 : ℕ) • (D.gamma - secretScalar witnessLibH seed • H) = 0 := by
  obtain ⟨H, hH⟩ := witness_encodeToCurve (witnessLibH.encode (publicPoint witnessLibH seed)) alpha
  obtain ⟨sk, D, h1⟩ := vrf_complete_detailed witnessH_lawful witnessH_cofactor witnessH_encodeCanonical
    witnessH_orderExact Iota.Proofs.Primes.prime_L seed alpha hs H hH
  exact ⟨sk, H, D, h1⟩

/-- an actual accepted proof, obtained from the general completeness theorem. -/
theorem witness_vrf_complete :
    ∃ seed alpha sk pr β, newKeyFromSeed witnessLibH seed = some sk ∧
      Vrf.prove witnessLibH sk alpha = some pr ∧
      Vrf.verify witnessLibH (sk.drop 32) alpha (pr.bytes witnessLibH) = some (true, β) := by
  obtain ⟨sk, H, D, h1, _, _, h4, h5, _⟩ :=
    witness_vrf_runs (List.replicate 32 0) [] List.length_replicate
  exact ⟨_, _, sk, D, _, h1, h4, h5⟩

theorem witness_ed_complete :
    ∃ seed msg sk sig, newKeyFromSeed witnessLibH seed = some sk ∧
      sign witnessLibH sk msg = some sig ∧
      Ed25519.verify witnessLibH (sk.drop 32) msg sig = some true := by
  obtain ⟨sk, sig, h1, _, h3, _, h5⟩ :=
    sign_verify witnessH_lawful (List.replicate 32 0) [] List.length_replicate
  exact ⟨_, _, sk, sig, h1, h3, h5⟩

/-! ### the torsion witness `n = L` -/

theorem eight_L_lt : 8 * L < 2 ^ 256 := by
  have h := L_lt_253
  generalize L = l at h
  omega

/-- `ZMod (8·L)` with base point `8` of order `L`. -/
def torsLibL : EdLib (ZMod (8 * L)) := torsLib L

/-- the torsion point: `L` in `ZMod (8·L)` (order 8). -/
def torsT : ZMod (8 * L) := ((L : ℕ) : ZMod (8 * L))

theorem torsL_lawful : Lawful torsLibL := torsLib_lawful eight_L_lt rfl
theorem torsL_cofactor : Cofactor torsLibL := torsLib_cofactor rfl
theorem torsT_torsion : (8 : ℕ) • torsT = 0 ∧ torsT ≠ 0 := torsLib_torsion L_pos

/-- **non-trivial 8-torsion is compatible with `Lawful` and `Cofactor`.** -/
theorem torsion_witness :
    ∃ (G : Type) (_ : AddCommGroup G) (lib : EdLib G) (T : G),
      Lawful lib ∧ Cofactor lib ∧ (8 : ℕ) • T = 0 ∧ T ≠ 0 :=
  ⟨ZMod (8 * L), inferInstance, torsLibL, torsT, torsL_lawful, torsL_cofactor, torsT_torsion⟩

/-- the `R` half of `torsion_verdicts` is witnessed with `T ≠ 0` as well: for every honest key and message, two
different signatures with the same `S` whose `R` halves decode to `R` and `R + T`, with the same hash scalar, both
accepted by `verify`, the first accepted and the second rejected by the cofactorless check. -/
theorem torsion_witness_R :
    ∃ (G : Type) (_ : AddCommGroup G) (lib : EdLib G) (T : G),
      Lawful lib ∧ Cofactor lib ∧ (8 : ℕ) • T = 0 ∧ T ≠ 0 ∧
      (∀ (x r : ℕ) (msg : Bytes), ∃ (pk sig sig' : Bytes),
        pk.length = 32 ∧ lib.decode pk = some (x • lib.base) ∧
        sig.length = 64 ∧ sig'.length = 64 ∧ sig ≠ sig' ∧
        sig.drop 32 = sig'.drop 32 ∧ lib.decode (sig.take 32) = some (r • lib.base) ∧
        lib.decode (sig'.take 32) = some (r • lib.base + T) ∧
        hramScalar lib pk msg sig = hramScalar lib pk msg sig' ∧
        Ed25519.verify lib pk msg sig = some true ∧ Ed25519.verify lib pk msg sig' = some true ∧
        stdVerify lib pk msg sig = true ∧ stdVerify lib pk msg sig' = false) :=
  ⟨ZMod (8 * L), inferInstance, torsLibL, torsT, torsL_lawful, torsL_cofactor, torsT_torsion.1, torsT_torsion.2,
    fun x r msg => ⟨_, _, _, torsLib_verify_strict_R (n := L) eight_L_lt rfl x r msg⟩⟩

end Iota.Proofs.Ed
