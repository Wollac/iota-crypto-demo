/-
E2 (C07): the clamped scalar (non-zero mod `L`), key generation and signing with their lengths and panics,
`signerSign`, and sign-then-verify.
-/
import Iota.Proofs.Ed.Verify

namespace Iota.Proofs.Ed
open Iota.Edwards (Bytes leNat leBytes L)
open Iota.Ed25519

variable {G : Type} [AddCommGroup G] {lib : EdLib G}

/-! ### the clamped scalar -/

theorem clamp_eq (h : Bytes) :
    Edwards.clamp h = leNat (h.take 32) % 2 ^ 254 / 8 * 8 + 2 ^ 254 := rfl

theorem clamp_ge (h : Bytes) : 2 ^ 254 ≤ Edwards.clamp h := by rw [clamp_eq]; omega

theorem clamp_lt (h : Bytes) : Edwards.clamp h < 2 ^ 255 := by rw [clamp_eq]; omega

theorem clamp_mod_8 (h : Bytes) : Edwards.clamp h % 8 = 0 := by rw [clamp_eq]; omega

theorem L_mod_8 : L % 8 = 5 := by rw [L_eq]

/-- the clamped scalar is never a multiple of the group order: it is a multiple of 8 in
`[2^254, 2^255)`, and the multiples of `L` in that range are `4L … 7L`, none divisible by 8. -/
theorem clamp_mod_L_ne_zero (h : Bytes) : Edwards.clamp h % L ≠ 0 := by
  intro h0
  obtain ⟨q, hq⟩ := Nat.dvd_of_mod_eq_zero h0
  have h1 := clamp_ge h
  have h2 := clamp_lt h
  have h3 := clamp_mod_8 h
  have hL := L_gt_252
  have hq8 : q < 8 := by
    by_contra hge
    have : L * 8 ≤ L * q := Nat.mul_le_mul_left _ (by omega)
    omega
  have hq0 : q ≠ 0 := by rintro rfl; omega
  rw [hq, Nat.mul_mod, L_mod_8] at h3
  omega

/-! ### lengths and panics -/

omit [AddCommGroup G] in
theorem newKeyFromSeed_eq_none_iff (seed : Bytes) : newKeyFromSeed lib seed = none ↔ seed.length ≠ 32 := by
  unfold newKeyFromSeed; split <;> simp_all

omit [AddCommGroup G] in
theorem sign_eq_none_iff (sk msg : Bytes) : sign lib sk msg = none ↔ sk.length ≠ 64 := by
  unfold sign; split <;> simp_all

omit [AddCommGroup G] in
theorem newKeyFromSeed_eq (seed : Bytes) (hs : seed.length = 32) :
    newKeyFromSeed lib seed =
      some (seed ++ lib.encode (lib.smul (Edwards.clamp (lib.sha512 seed)) lib.base)) := by
  unfold newKeyFromSeed; rw [if_neg (by simp [hs])]

/-- the secret scalar and the public point of a seed -/
def secretScalar (lib : EdLib G) (seed : Bytes) : ℕ := Edwards.clamp (lib.sha512 seed)
def publicPoint (lib : EdLib G) (seed : Bytes) : G := secretScalar lib seed • lib.base

theorem newKeyFromSeed_eq' (h : Lawful lib) (seed : Bytes) (hs : seed.length = 32) :
    newKeyFromSeed lib seed = some (seed ++ lib.encode (publicPoint lib seed)) := by
  rw [newKeyFromSeed_eq seed hs, h.smul_eq]; rfl

theorem newKeyFromSeed_length (h : Lawful lib) (seed sk : Bytes) (hsk : newKeyFromSeed lib seed = some sk) :
    sk.length = 64 ∧ seed.length = 32 ∧ sk.take 32 = seed ∧ sk.drop 32 = lib.encode (publicPoint lib seed) := by
  have hs : seed.length = 32 := by
    by_contra hne
    rw [(newKeyFromSeed_eq_none_iff seed).mpr hne] at hsk; cases hsk
  rw [newKeyFromSeed_eq' h seed hs] at hsk
  cases hsk
  refine ⟨by simp [hs, h.encode_length], hs, ?_, ?_⟩
  · exact List.take_left' hs
  · exact List.drop_left' hs

omit [AddCommGroup G] in
theorem sign_length_of_encode (hel : ∀ a, (lib.encode a).length = 32) (sk msg sig : Bytes)
    (hsig : sign lib sk msg = some sig) : sig.length = 64 := by
  unfold sign at hsig
  split at hsig
  · cases hsig
  · cases hsig; simp [hel]

/-! ### `signerSign` -/

omit [AddCommGroup G] in
theorem signerSign_zero (sk msg : Bytes) : signerSign lib sk msg 0 = (sign lib sk msg).map .ok := by
  simp [signerSign]

omit [AddCommGroup G] in
theorem signerSign_ne_zero (sk msg : Bytes) (hf : ℕ) (h : hf ≠ 0) :
    signerSign lib sk msg hf = some (.error ()) := by
  simp [signerSign, h]

/-! ### sign then verify -/

/-- the signature computed by `sign` on an honest key, in closed form. -/
theorem sign_honest (h : Lawful lib) (seed msg : Bytes) (hs : seed.length = 32) :
    let pk := lib.encode (publicPoint lib seed)
    let r := uniformScalar (lib.sha512 ((lib.sha512 seed).drop 32 ++ msg))
    let Renc := lib.encode (r • lib.base)
    let k := uniformScalar (lib.sha512 (Renc ++ pk ++ msg))
    sign lib (seed ++ pk) msg = some (Renc ++ leBytes ((k * (secretScalar lib seed % L) + r) % L) 32) := by
  intro pk r Renc k
  have hlen : (seed ++ pk).length = 64 := by simp [pk, hs, h.encode_length]
  have htake : (seed ++ pk).take 32 = seed := List.take_left' hs
  have hdrop : (seed ++ pk).drop 32 = pk := List.drop_left' hs
  unfold sign
  rw [if_neg (by simp [hlen])]
  simp only [htake, hdrop, h.smul_eq]
  rfl

/-- a Schnorr response `S = k·x + r mod L` for the key `x•B` and commitment `r•B` passes the cofactorless check … -/
theorem stdVerify_constructed (h : Lawful lib) (x r : ℕ) (msg : Bytes) :
    stdVerify lib (lib.encode (x • lib.base)) msg
      (lib.encode (r • lib.base) ++
        leBytes ((uniformScalar (lib.sha512 (lib.encode (r • lib.base) ++ lib.encode (x • lib.base) ++ msg))
          * (x % L) + r) % L) 32) = true := by
  generalize hpk : lib.encode (x • lib.base) = pk
  generalize hRenc : lib.encode (r • lib.base) = Renc
  generalize hk : uniformScalar (lib.sha512 (Renc ++ pk ++ msg)) = k
  generalize hS : (k * (x % L) + r) % L = S
  have hpklen : pk.length = 32 := by rw [← hpk]; exact h.encode_length _
  have hRlen : Renc.length = 32 := by rw [← hRenc]; exact h.encode_length _
  have htake : (Renc ++ leBytes S 32).take 32 = Renc := List.take_left' hRlen
  have hdropS : (Renc ++ leBytes S 32).drop 32 = leBytes S 32 := List.drop_left' hRlen
  have hSlt : S < L := by rw [← hS]; exact Nat.mod_lt _ L_pos
  have hSval : leNat (leBytes S 32) = S := leNat_leBytes_of_lt_L hSlt
  rw [stdVerify_iff h]
  refine ⟨hpklen, ?_, ?_, x • lib.base, ?_, ?_⟩
  · rw [List.length_append, hRlen, leBytes_length]
  · rw [hdropS, hSval]; exact hSlt
  · rw [← hpk]; exact h.decode_encode _
  · unfold hramScalar
    rw [hdropS, hSval, htake, hk, ← hS, schnorr_response h.order_base, add_sub_cancel_right, hRenc]

/-- … hence verifies. -/
theorem verify_constructed (h : Lawful lib) (x r : ℕ) (msg : Bytes) :
    verify lib (lib.encode (x • lib.base)) msg
      (lib.encode (r • lib.base) ++
        leBytes ((uniformScalar (lib.sha512 (lib.encode (r • lib.base) ++ lib.encode (x • lib.base) ++ msg))
          * (x % L) + r) % L) 32) = some true :=
  verify_of_stdVerify h _ _ _ (stdVerify_constructed h x r msg)

/-- **E2** for every 32-byte seed and every message: key generation succeeds with a 64-byte key,
signing succeeds with a 64-byte signature, and the signature verifies under the public half. -/
theorem sign_verify (h : Lawful lib) (seed msg : Bytes) (hs : seed.length = 32) :
    ∃ sk sig, newKeyFromSeed lib seed = some sk ∧ sk.length = 64 ∧
      sign lib sk msg = some sig ∧ sig.length = 64 ∧
      verify lib (sk.drop 32) msg sig = some true := by
  have hk := newKeyFromSeed_eq' h seed hs
  obtain ⟨hsklen, _, _, hdrop⟩ := newKeyFromSeed_length h seed _ hk
  have hsig := sign_honest h seed msg hs
  simp only at hsig
  refine ⟨_, _, hk, hsklen, hsig, sign_length_of_encode h.encode_length _ _ _ hsig, ?_⟩
  rw [hdrop]
  exact verify_constructed h (secretScalar lib seed) _ msg

/-- the same statement for keys obtained from `newKeyFromSeed`, in functional form. -/
theorem sign_verify' (h : Lawful lib) (seed msg sk sig : Bytes)
    (hsk : newKeyFromSeed lib seed = some sk) (hsig : sign lib sk msg = some sig) :
    verify lib (sk.drop 32) msg sig = some true := by
  obtain ⟨_, hs, _, _⟩ := newKeyFromSeed_length h seed sk hsk
  obtain ⟨sk', sig', h1, _, h3, _, h5⟩ := sign_verify h seed msg hs
  rw [hsk] at h1; cases h1
  rw [hsig] at h3; cases h3
  exact h5

end Iota.Proofs.Ed
