/-
E3 (C18), part 1: `isCanonicalY` (pkg/vrf/canonical.go) decides `y < p` on the 255-bit `y` field of a
32-byte string.
-/
import Iota.Proofs.Ed.Bytes

namespace Iota.Proofs.Ed
open Iota.Edwards (Bytes leNat leBytes L)
open Iota.Vrf

theorem uint8_or_128 (x : UInt8) : (x ||| 128) = 255 ↔ x.toNat % 128 = 127 := by
  rw [uint8_eq_255_iff, UInt8.toNat_or]
  have : ∀ n < 256, (n ||| 128 = 255 ↔ n % 128 = 127) := by decide +kernel
  exact this _ x.toNat_lt

/-- the middle test of `isCanonicalY` scans bytes 1…30. -/
theorem any_range_getD (b0 : UInt8) (mid tail : Bytes) :
    ((List.range mid.length).map (· + 1)).any (fun i => (b0 :: (mid ++ tail)).getD i 0 != 255) =
      mid.any (· != 255) := by
  rw [Bool.eq_iff_iff]
  simp only [List.any_map, List.any_eq_true, List.mem_range, Function.comp, bne_iff_ne, ne_eq]
  constructor
  · rintro ⟨i, hi, hne⟩
    refine ⟨mid[i], List.getElem_mem hi, ?_⟩
    simpa [List.getD_eq_getElem?_getD, List.getElem?_append_left hi, hi] using hne
  · rintro ⟨b, hb, hne⟩
    obtain ⟨i, hi, rfl⟩ := List.mem_iff_getElem.mp hb
    refine ⟨i, hi, ?_⟩
    simpa [List.getD_eq_getElem?_getD, List.getElem?_append_left hi, hi] using hne

theorem any_ne_255_iff (mid : Bytes) : mid.any (· != 255) = true ↔ leNat mid ≠ 256 ^ mid.length - 1 := by
  rw [ne_eq, leNat_eq_max_iff]
  simp only [List.any_eq_true, bne_iff_ne, ne_eq, not_forall]
  constructor
  · rintro ⟨b, hb, hne⟩; exact ⟨b, hb, hne⟩
  · rintro ⟨b, hb, hne⟩; exact ⟨b, hb, hne⟩

/-- every 32-byte string is `b0 :: (mid ++ [b31])` with 30 bytes in the middle. -/
theorem bytes32_split (x : Bytes) (hx : x.length = 32) :
    ∃ (b0 : UInt8) (mid : Bytes) (b31 : UInt8), mid.length = 30 ∧ x = b0 :: (mid ++ [b31]) := by
  match x, hx with
  | b0 :: rest, hx =>
    have hrest : rest.length = 31 := by simpa using hx
    have hlast : (rest.drop 30).length = 1 := by simp [hrest]
    obtain ⟨b31, hb31⟩ := List.length_eq_one_iff.mp hlast
    refine ⟨b0, rest.take 30, b31, by simp [hrest], ?_⟩
    rw [← hb31, List.take_append_drop]

/-- pure arithmetic behind `isCanonicalY`. -/
theorem canonical_arith (a M t : ℕ) (ha : a < 256) (hM : M < 256 ^ 30) :
    (a + 256 * (M + 2 ^ 240 * t)) % 2 ^ 255 < Iota.Edwards.p ↔
      (a < 237 ∨ M ≠ 256 ^ 30 - 1 ∨ t % 128 ≠ 127) := by
  have e1 : (256 : ℕ) ^ 30 = 2 ^ 240 := by norm_num
  rw [e1] at hM ⊢
  rw [p_eq]
  have h1 : (a + 256 * (M + 2 ^ 240 * t)) % 2 ^ 255 = a + 256 * M + 2 ^ 248 * (t % 128) := by
    have e : a + 256 * (M + 2 ^ 240 * t) = (a + 256 * M + 2 ^ 248 * (t % 128)) + 2 ^ 255 * (t / 128) := by
      omega
    rw [e, Nat.add_mul_mod_self_left, Nat.mod_eq_of_lt]
    omega
  rw [h1]
  omega

/-- **E3** `isCanonicalY` is exactly the test `y < p` on `y = (little-endian value) mod 2^255`. -/
theorem isCanonicalY_iff (x : Bytes) (hx : x.length = 32) :
    isCanonicalY x = true ↔ leNat x % 2 ^ 255 < Iota.Edwards.p := by
  obtain ⟨b0, mid, b31, hmid, rfl⟩ := bytes32_split x hx
  have hany := any_range_getD b0 mid [b31]
  rw [hmid] at hany
  have h31 : (b0 :: (mid ++ [b31])).getD 31 0 = b31 := by
    simp [List.getD_eq_getElem?_getD, hmid]
  have hM := leNat_lt mid
  rw [hmid] at hM
  have hmax := any_ne_255_iff mid
  rw [hmid] at hmax
  have hval : leNat (b0 :: (mid ++ [b31])) = b0.toNat + 256 * (leNat mid + 2 ^ 240 * b31.toNat) := by
    rw [leNat_cons, leNat_append, hmid, leNat_cons, leNat_nil]; norm_num
  rw [hval, canonical_arith b0.toNat (leNat mid) b31.toNat b0.toNat_lt hM]
  unfold isCanonicalY
  rw [hany, h31]
  simp only [List.getD_cons_zero]
  by_cases h0 : b0.toNat < 237
  · simp [h0]
  · rw [if_neg h0]
    by_cases hm : mid.any (· != 255) = true
    · rw [if_pos hm]
      simp only [true_iff]
      exact Or.inr (Or.inl (hmax.mp hm))
    · rw [if_neg hm]
      have hm' : leNat mid = 256 ^ 30 - 1 := by
        by_contra hne; exact hm (hmax.mpr hne)
      simp only [bne_iff_ne, ne_eq, uint8_or_128, h0, hm', not_true_eq_false, false_or]

end Iota.Proofs.Ed
