/-
The hypotheses on the external curve library (`filippo.io/edwards25519` + `crypto/sha512`), collected
in ONE structure `Lawful`, and the group algebra that follows from them.  Nothing about the curve is
proved here: the group law is an assumption, made visible in every theorem that uses it.

Additional hypotheses, stated as explicit arguments where needed:
  `Cofactor lib`         every point is killed by `8·L`
  `OrderExact lib`       the base point has order exactly `L`   (together with `Nat.Prime L`)
  `EncodeCanonical lib`  `Point.Bytes` produces canonical encodings
  `EncodeDecode lib`     a canonical 32-byte encoding is the `Point.Bytes` of what it decodes to
-/
import Mathlib.Algebra.Group.Basic
import Mathlib.Algebra.Module.Basic
import Mathlib.GroupTheory.OrderOfElement
import Mathlib.Tactic.Abel
import Iota.Proofs.Ed.Bytes

namespace Iota.Proofs.Ed
open Iota.Edwards (Bytes leNat leBytes L)
open Iota.Ed25519 (EdLib)

/-- the group laws of the curve library and the length contracts of its codecs. -/
structure Lawful {G : Type} [AddCommGroup G] (lib : EdLib G) : Prop where
  add_eq : ∀ a b, lib.add a b = a + b
  neg_eq : ∀ a, lib.neg a = -a
  zero_eq : lib.zero = 0
  smul_eq : ∀ (k : ℕ) a, lib.smul k a = k • a
  eq_iff : ∀ a b, lib.eq a b = true ↔ a = b
  order_base : (L : ℕ) • lib.base = 0
  decode_encode : ∀ a, lib.decode (lib.encode a) = some a
  encode_length : ∀ a, (lib.encode a).length = 32
  sha512_length : ∀ m, (lib.sha512 m).length = 64

/-- the whole group has exponent dividing `8·L` (cofactor 8). -/
def Cofactor {G : Type} [AddCommGroup G] (_lib : EdLib G) : Prop := ∀ a : G, (8 * L) • a = 0

def OrderExact {G : Type} [AddCommGroup G] (lib : EdLib G) : Prop := addOrderOf lib.base = L

/-- `Point.Bytes` is canonical in the sense of pkg/vrf/canonical.go. -/
def EncodeCanonical {G : Type} (lib : EdLib G) : Prop :=
  ∀ a, Vrf.isCanonicalY (lib.encode a) = true ∧ lib.encode a ∉ Vrf.nonCanonicalSignBytes

/-- canonical encodings are unique: a canonical 32-byte string is the encoding of its decoding. -/
def EncodeDecode {G : Type} (lib : EdLib G) : Prop :=
  ∀ b a, lib.decode b = some a → Vrf.isCanonicalY b = true → b ∉ Vrf.nonCanonicalSignBytes →
    b.length = 32 → lib.encode a = b

section
variable {G : Type} [AddCommGroup G] {lib : EdLib G}

/-- a Schnorr response `(c·x + k) mod L` acts on a point of order dividing `L` as `k + c·x` does. -/
theorem schnorr_response {P : G} (hP : L • P = 0) (c x k : ℕ) :
    ((c * (x % L) + k) % L) • P = k • P + c • (x • P) := by
  rw [← nsmul_eq_mod_nsmul _ hP, add_smul, mul_smul, ← nsmul_eq_mod_nsmul _ hP, add_comm]

/-- adding a point killed by `n` is invisible after multiplication by `n`. -/
theorem nsmul_add_torsion {n : ℕ} {T : G} (hT : n • T = 0) (A : G) : n • (A + T) = n • A := by
  rw [smul_add, hT, add_zero]

/-- scalars acting on a multiple of the base point may be reduced mod `L`. -/
theorem Lawful.mod_L_smul_base (h : Lawful lib) (n m : ℕ) :
    (n % L) • (m • lib.base) = n • (m • lib.base) :=
  (nsmul_eq_mod_nsmul n (by rw [smul_comm, h.order_base, smul_zero])).symm

theorem Lawful.eq_zero_iff (h : Lawful lib) (a : G) : lib.eq a lib.zero = true ↔ a = 0 := by
  rw [h.eq_iff, h.zero_eq]

/-- with cofactor 8, eight times anything has order dividing `L`. -/
theorem Cofactor.L_smul_eight (hc : Cofactor lib) (a : G) : L • ((8 : ℕ) • a) = 0 := by
  rw [← mul_smul, Nat.mul_comm]; exact hc a

theorem Cofactor.mod_L_eight (hc : Cofactor lib) (n : ℕ) (a : G) :
    (n % L) • ((8 : ℕ) • a) = n • ((8 : ℕ) • a) :=
  (nsmul_eq_mod_nsmul n (hc.L_smul_eight a)).symm

theorem Cofactor.eight_mod_L (hc : Cofactor lib) (n : ℕ) (a : G) :
    (8 : ℕ) • ((n % L) • a) = (8 : ℕ) • (n • a) := by
  rw [smul_comm, hc.mod_L_eight, smul_comm]

end

end Iota.Proofs.Ed
