/-
E3 (C18), part 2: the VRF proof codec, completeness of `prove`/`verify`/`proofToHash`, key
validation, and the algebraic half of uniqueness.
-/
import Iota.Proofs.Ed.Sign
import Iota.Proofs.Ed.Canonical

namespace Iota.Proofs.Ed
open Iota.Edwards (Bytes leNat leBytes L)
open Iota.Ed25519 (EdLib uniformScalar newKeyFromSeed)
open Iota.Vrf

variable {G : Type} [AddCommGroup G] {lib : EdLib G}

/-! ### `newPointFromCanonicalBytes` -/

omit [AddCommGroup G] in
theorem pointFromCanonicalBytes_eq_some_iff (x : Bytes) (P : G) :
    pointFromCanonicalBytes lib x = some P ↔
      isCanonicalY x = true ∧ x ∉ nonCanonicalSignBytes ∧ lib.decode x = some P := by
  unfold pointFromCanonicalBytes
  by_cases h1 : isCanonicalY x = true
  · by_cases h2 : x ∈ nonCanonicalSignBytes
    · simp [h1, h2]
    · simp [h1, h2]
  · simp [h1]

omit [AddCommGroup G] in
theorem pointFromCanonicalBytes_eq_none_iff (x : Bytes) :
    pointFromCanonicalBytes lib x = none ↔
      isCanonicalY x = false ∨ x ∈ nonCanonicalSignBytes ∨ lib.decode x = none := by
  unfold pointFromCanonicalBytes
  by_cases h1 : isCanonicalY x = true
  · by_cases h2 : x ∈ nonCanonicalSignBytes
    · simp [h1, h2]
    · simp [h1, h2]
  · simp [h1]

theorem pointFromCanonicalBytes_encode (h : Lawful lib) (hcan : EncodeCanonical lib) (a : G) :
    pointFromCanonicalBytes lib (lib.encode a) = some a :=
  (pointFromCanonicalBytes_eq_some_iff _ _).mpr ⟨(hcan a).1, (hcan a).2, h.decode_encode a⟩

/-! ### the proof codec -/

omit [AddCommGroup G] in
theorem setBytes_eq (b : Bytes) :
    Proof.setBytes lib b =
      if b.length ≠ 80 then none else
      match pointFromCanonicalBytes lib (b.take 32) with
      | none => none
      | some gamma =>
        if leNat (b.drop 48) ≥ L then none
        else some ⟨gamma, leNat ((b.drop 32).take 16), leNat (b.drop 48)⟩ := rfl

omit [AddCommGroup G] in
theorem bytes_eq (pr : Proof G) :
    pr.bytes lib = lib.encode pr.gamma ++ (leBytes pr.c 32).take 16 ++ leBytes pr.s 32 := rfl

theorem pow_256_16 : (256 : ℕ) ^ 16 = 2 ^ 128 := by norm_num

omit [AddCommGroup G] in
/-- **E3 codec, decoding direction**: whatever `Proof.SetBytes` accepts is an 80-byte string with a
canonical scalar `s < L`, a 128-bit `c`, and it is the `Proof.Bytes` of the decoded proof. -/
theorem setBytes_some (hed : EncodeDecode lib) (b : Bytes) (pr : Proof G)
    (hb : Proof.setBytes lib b = some pr) :
    b.length = 80 ∧ pr.s < L ∧ pr.c < 2 ^ 128 ∧ pr.bytes lib = b := by
  rw [setBytes_eq] at hb
  split at hb
  · cases hb
  rename_i hlen
  rw [ne_eq, not_not] at hlen
  split at hb
  · cases hb
  rename_i gamma hg
  split at hb
  · cases hb
  rename_i hs
  cases hb
  obtain ⟨hcy, hncs, hdec⟩ := (pointFromCanonicalBytes_eq_some_iff _ _).mp hg
  have hlen32 : (b.take 32).length = 32 := by simp [hlen]
  have hlen16 : ((b.drop 32).take 16).length = 16 := by simp [hlen]
  have hlenS : (b.drop 48).length = 32 := by simp [hlen]
  refine ⟨hlen, by simpa using hs, ?_, ?_⟩
  · have := leNat_lt ((b.drop 32).take 16)
    rw [hlen16, pow_256_16] at this
    exact this
  · rw [bytes_eq]
    simp only
    rw [hed _ _ hdec hcy hncs hlen32, leBytes_take, show min 16 32 = 16 from rfl,
      eq_leBytes_of_length _ 16 hlen16, eq_leBytes_of_length _ 32 hlenS, List.append_assoc]
    conv_rhs => rw [← List.take_append_drop 32 b, ← List.take_append_drop 16 (b.drop 32)]
    rw [List.drop_drop]

/-- **E3 codec, encoding direction**: `Proof.SetBytes` inverts `Proof.Bytes` on proofs with
`s < L` and `c < 2^128`. -/
theorem setBytes_bytes (h : Lawful lib) (hcan : EncodeCanonical lib) (pr : Proof G)
    (hs : pr.s < L) (hc : pr.c < 2 ^ 128) : Proof.setBytes lib (pr.bytes lib) = some pr := by
  have hE : (lib.encode pr.gamma).length = 32 := h.encode_length _
  have hC : ((leBytes pr.c 32).take 16).length = 16 := by simp
  have hEC : (lib.encode pr.gamma ++ (leBytes pr.c 32).take 16).length = 48 := by simp [hE]
  rw [setBytes_eq, bytes_eq, List.drop_left' hEC, List.append_assoc, List.take_left' hE, List.drop_left' hE,
    List.take_left' hC, if_neg (by simp [hE])]
  rw [pointFromCanonicalBytes_encode h hcan]
  simp only
  have hsval : leNat (leBytes pr.s 32) = pr.s := leNat_leBytes_of_lt_L hs
  have hcval : leNat ((leBytes pr.c 32).take 16) = pr.c := by
    rw [leBytes_take, show min 16 32 = 16 from rfl]
    apply leNat_leBytes_of_lt
    rw [pow_256_16]; exact hc
  rw [hsval, hcval, if_neg (by omega)]

theorem bytes_length (h : Lawful lib) (pr : Proof G) : (pr.bytes lib).length = 80 := by
  rw [bytes_eq]; simp [h.encode_length]

omit [AddCommGroup G] in
theorem challenge_lt (p1 p2 : Bytes) (p3 p4 p5 : G) : challenge lib p1 p2 p3 p4 p5 < 2 ^ 128 := by
  unfold challenge
  simp only
  generalize lib.sha512 _ = cs
  have h1 := leNat_lt (cs.take cLen)
  have h2 : (cs.take cLen).length ≤ 16 := by simp [cLen]
  have h3 : (256 : ℕ) ^ (cs.take cLen).length ≤ 256 ^ 16 := Nat.pow_le_pow_right (by norm_num) h2
  rw [pow_256_16] at h3
  omega

/-! ### `encodeToCurve` -/

/-- whatever `encodeToCurveTryAndIncrement` returns is a non-zero cofactor multiple. -/
theorem encodeToCurve_some (h : Lawful lib) (salt alpha : Bytes) (H : G)
    (hH : encodeToCurve lib salt alpha = some H) : ∃ H', H = (8 : ℕ) • H' ∧ H ≠ 0 := by
  unfold encodeToCurve at hH
  obtain ⟨ctr, _, hctr⟩ := List.exists_of_findSome?_eq_some hH
  simp only at hctr
  split at hctr
  · cases hctr
  rename_i H' _
  split at hctr
  · cases hctr
  rename_i hne
  cases hctr
  rw [h.eq_zero_iff, h.smul_eq] at hne
  exact ⟨H', h.smul_eq _ _, by rw [h.smul_eq]; exact hne⟩

/-- with cofactor 8 the hashed-to point has order dividing `L`. -/
theorem encodeToCurve_order (h : Lawful lib) (hcof : Cofactor lib) (salt alpha : Bytes) (H : G)
    (hH : encodeToCurve lib salt alpha = some H) : L • H = 0 := by
  obtain ⟨H', rfl, _⟩ := encodeToCurve_some h salt alpha H hH
  exact hcof.L_smul_eight H'

/-! ### key validation -/

/-- `validateKey` rejects exactly the points of small order. -/
theorem validateKey_iff (h : Lawful lib) (Y : G) : validateKey lib Y = true ↔ (8 : ℕ) • Y ≠ 0 := by
  unfold validateKey
  rw [Bool.not_eq_true', ← Bool.not_eq_true, h.eq_zero_iff, h.smul_eq]

/-- `validateKey` passes for `x•B` whenever `L ∤ x`, given that `B` has prime order `L`. -/
theorem validateKey_smul_base (h : Lawful lib) (hord : OrderExact lib) (hprime : Nat.Prime L)
    (x : ℕ) (hx : x % L ≠ 0) : validateKey lib (x • lib.base) = true := by
  rw [validateKey_iff h, ne_eq, ← mul_smul, ← addOrderOf_dvd_iff_nsmul_eq_zero, hord, hprime.dvd_mul]
  rintro (h8 | hxx)
  · have := Nat.le_of_dvd (by norm_num) h8
    have := L_gt_252
    omega
  · exact hx (Nat.mod_eq_zero_of_dvd hxx)

/-- **honest keys pass `validateKey`**. -/
theorem validateKey_honest (h : Lawful lib) (hord : OrderExact lib) (hprime : Nat.Prime L)
    (seed : Bytes) : validateKey lib (publicPoint lib seed) = true :=
  validateKey_smul_base h hord hprime _ (clamp_mod_L_ne_zero _)

omit [AddCommGroup G] in
theorem vrf_verify_eq_none_of_length (pk alpha pi : Bytes) (hpk : pk.length ≠ 32) :
    verify lib pk alpha pi = none := by
  unfold verify; rw [if_pos hpk]

omit [AddCommGroup G] in
/-- **key validation (1)**: a key that is not a canonical point encoding is rejected. -/
theorem vrf_verify_bad_key_encoding (pk alpha pi : Bytes) (hpk : pk.length = 32)
    (hbad : isCanonicalY pk = false ∨ pk ∈ nonCanonicalSignBytes ∨ lib.decode pk = none) :
    verify lib pk alpha pi = some (false, []) := by
  unfold verify
  rw [if_neg (by simp [hpk]), (pointFromCanonicalBytes_eq_none_iff pk).mpr hbad]

/-- **key validation (2)**: a key of small order (`8•Y = 0`) is rejected. -/
theorem vrf_verify_small_order_key (h : Lawful lib) (pk alpha pi : Bytes) (hpk : pk.length = 32)
    (Y : G) (hY : pointFromCanonicalBytes lib pk = some Y) (h8 : (8 : ℕ) • Y = 0) :
    verify lib pk alpha pi = some (false, []) := by
  unfold verify
  rw [if_neg (by simp [hpk]), hY]
  have : validateKey lib Y = false := by
    rw [← Bool.not_eq_true, validateKey_iff h, not_not]; exact h8
  simp [this]

/-! ### what `verify` accepts -/

/-- `verify` returns `(true, β)` exactly when key, proof and hashed point decode/validate, the
recomputed challenge matches, and `β` is the proof's hash. -/
theorem vrf_verify_eq_true_iff (h : Lawful lib) (pk alpha pi β : Bytes) (hpk : pk.length = 32) :
    verify lib pk alpha pi = some (true, β) ↔
      ∃ Y D H, pointFromCanonicalBytes lib pk = some Y ∧ (8 : ℕ) • Y ≠ 0 ∧
        Proof.setBytes lib pi = some D ∧ encodeToCurve lib pk alpha = some H ∧
        D.c = challenge lib pk (lib.encode H) D.gamma
          (D.s • lib.base - D.c • Y) (D.s • H - D.c • D.gamma) ∧
        β = D.hash lib := by
  constructor
  · -- every branch but the last returns `false` or panics
    intro hv
    unfold verify at hv
    rw [if_neg (by simp [hpk])] at hv
    split at hv
    · cases hv
    rename_i Y hY
    split at hv
    · cases hv
    rename_i hval
    split at hv
    · cases hv
    rename_i D hD
    split at hv
    · cases hv
    rename_i H hH
    simp only [h.smul_eq, h.add_eq, h.neg_eq, smul_neg, neg_add_eq_sub, ← sub_eq_add_neg] at hv
    split at hv
    · cases hv
    rename_i hc
    cases hv
    exact ⟨Y, D, H, hY, (validateKey_iff h Y).1 (by simpa using hval), hD, hH, not_not.1 hc, rfl⟩
  · rintro ⟨Y, D, H, hY, h8, hD, hH, hc, rfl⟩
    unfold verify
    rw [if_neg (by simp [hpk]), hY]
    simp only
    rw [if_neg (by simp [(validateKey_iff h Y).2 h8]), hD, hH]
    simp only [h.smul_eq, h.add_eq, h.neg_eq, smul_neg, neg_add_eq_sub, ← sub_eq_add_neg]
    rw [if_neg (not_not.2 hc)]

/-! ### completeness -/

/-- the proof `Prove` computes for the key of `seed`, in closed form (`H` = the hashed point). -/
def honestProof (lib : EdLib G) (seed : Bytes) (H : G) : Proof G :=
  let x := secretScalar lib seed
  let k := uniformScalar (lib.sha512 ((lib.sha512 seed).drop 32 ++ lib.encode H))
  let c := challenge lib (lib.encode (publicPoint lib seed)) (lib.encode H) (x • H) (k • lib.base) (k • H)
  ⟨x • H, c, (c * (x % L) + k) % L⟩

theorem prove_honest (h : Lawful lib) (seed alpha : Bytes) (hs : seed.length = 32) (H : G)
    (hH : encodeToCurve lib (lib.encode (publicPoint lib seed)) alpha = some H) :
    prove lib (seed ++ lib.encode (publicPoint lib seed)) alpha = some (honestProof lib seed H) := by
  generalize hpk : lib.encode (publicPoint lib seed) = pk at hH ⊢
  have hpklen : pk.length = 32 := by rw [← hpk]; exact h.encode_length _
  have hlen : (seed ++ pk).length = 64 := by simp [hs, hpklen]
  have htake : (seed ++ pk).take 32 = seed := List.take_left' hs
  have hdrop : (seed ++ pk).drop 32 = pk := List.drop_left' hs
  unfold prove
  rw [if_neg (by simp [hlen])]
  simp only [htake, hdrop, hH, h.smul_eq]
  unfold honestProof secretScalar
  rw [hpk]

/-- a Schnorr/Chaum–Pedersen response for the key `x•B` verifies (abstract over `x` and nonce `k`). -/
theorem vrf_verify_constructed (h : Lawful lib) (hcof : Cofactor lib) (hcan : EncodeCanonical lib)
    (x k : ℕ) (alpha : Bytes) (H : G) (hY : validateKey lib (x • lib.base) = true)
    (hH : encodeToCurve lib (lib.encode (x • lib.base)) alpha = some H) (pr : Proof G)
    (hpr : pr = ⟨x • H,
      challenge lib (lib.encode (x • lib.base)) (lib.encode H) (x • H) (k • lib.base) (k • H),
      (challenge lib (lib.encode (x • lib.base)) (lib.encode H) (x • H) (k • lib.base) (k • H)
        * (x % L) + k) % L⟩) :
    verify lib (lib.encode (x • lib.base)) alpha (pr.bytes lib) = some (true, pr.hash lib) := by
  have hLH : L • H = 0 := encodeToCurve_order h hcof _ _ _ hH
  generalize hc : challenge lib (lib.encode (x • lib.base)) (lib.encode H) (x • H) (k • lib.base) (k • H)
    = c at hpr
  have hclt : c < 2 ^ 128 := by rw [← hc]; exact challenge_lt _ _ _ _ _
  have hslt : (c * (x % L) + k) % L < L := Nat.mod_lt _ L_pos
  rw [vrf_verify_eq_true_iff h _ _ _ _ (h.encode_length _)]
  refine ⟨x • lib.base, pr, H, pointFromCanonicalBytes_encode h hcan _, (validateKey_iff h _).1 hY,
    setBytes_bytes h hcan pr (by rw [hpr]; exact hslt) (by rw [hpr]; exact hclt), hH, ?_, rfl⟩
  rw [hpr]
  simp only
  rw [schnorr_response h.order_base, schnorr_response hLH, add_sub_cancel_right, add_sub_cancel_right]
  exact hc.symm

/-- **E3 completeness**, in detail: for every 32-byte seed and every `alpha` for which try-and-increment finds a
point `H`, the key, the proof `prove` returns (it is `honestProof`), its acceptance, the agreement of
`proofToHash`, its decoding, and the small-order condition of `vrf_unique_algebraic` with
`x = secretScalar lib seed` (here `Γ − x•H = 0`). -/
theorem vrf_complete_detailed (h : Lawful lib) (hcof : Cofactor lib) (hcan : EncodeCanonical lib)
    (hord : OrderExact lib) (hprime : Nat.Prime L) (seed alpha : Bytes) (hs : seed.length = 32) (H : G)
    (hH : encodeToCurve lib (lib.encode (publicPoint lib seed)) alpha = some H) :
    ∃ sk D, newKeyFromSeed lib seed = some sk ∧ (sk.drop 32).length = 32 ∧
      encodeToCurve lib (sk.drop 32) alpha = some H ∧
      prove lib sk alpha = some D ∧
      verify lib (sk.drop 32) alpha (D.bytes lib) = some (true, D.hash lib) ∧
      proofToHash lib (D.bytes lib) = some (D.hash lib) ∧
      Proof.setBytes lib (D.bytes lib) = some D ∧
      (8 : ℕ) • (D.gamma - secretScalar lib seed • H) = 0 := by
  have hset : Proof.setBytes lib ((honestProof lib seed H).bytes lib) = some (honestProof lib seed H) :=
    setBytes_bytes h hcan _ (Nat.mod_lt _ L_pos) (challenge_lt _ _ _ _ _)
  refine ⟨seed ++ lib.encode (publicPoint lib seed), honestProof lib seed H, newKeyFromSeed_eq' h seed hs, ?_⟩
  rw [List.drop_left' hs]
  refine ⟨h.encode_length _, hH, prove_honest h seed alpha hs H hH, ?_, ?_, hset, ?_⟩
  · exact vrf_verify_constructed h hcof hcan (secretScalar lib seed) _ alpha H
      (validateKey_honest h hord hprime seed) hH _ rfl
  · unfold proofToHash
    rw [hset]; rfl
  · show (8 : ℕ) • (secretScalar lib seed • H - secretScalar lib seed • H) = 0
    rw [sub_self, smul_zero]

/-- for whatever key `newKeyFromSeed` returned: the proof made by `prove` is accepted by `verify`, and `verify`,
`proofToHash` and `Proof.hash` give the same output. -/
theorem vrf_complete (h : Lawful lib) (hcof : Cofactor lib) (hcan : EncodeCanonical lib)
    (hord : OrderExact lib) (hprime : Nat.Prime L) (seed alpha sk : Bytes)
    (hsk : newKeyFromSeed lib seed = some sk) (H : G)
    (hH : encodeToCurve lib (sk.drop 32) alpha = some H) :
    ∃ pr, prove lib sk alpha = some pr ∧
      verify lib (sk.drop 32) alpha (pr.bytes lib) = some (true, pr.hash lib) ∧
      proofToHash lib (pr.bytes lib) = some (pr.hash lib) := by
  obtain ⟨_, hs, _, hdrop⟩ := newKeyFromSeed_length h seed sk hsk
  rw [hdrop] at hH
  obtain ⟨sk', D, hsk', _, _, hpr, hv, hph, _⟩ :=
    vrf_complete_detailed h hcof hcan hord hprime seed alpha hs H hH
  rw [hsk] at hsk'; cases hsk'
  exact ⟨D, hpr, hv, hph⟩

/-- `proofToHash` agrees with `verify` on every accepted proof (not only honest ones). -/
theorem proofToHash_of_verify (h : Lawful lib) (pk alpha pi β : Bytes) (hpk : pk.length = 32)
    (hv : verify lib pk alpha pi = some (true, β)) : proofToHash lib pi = some β := by
  obtain ⟨Y, D, H, _, _, hD, _, _, rfl⟩ := (vrf_verify_eq_true_iff h pk alpha pi β hpk).mp hv
  unfold proofToHash; rw [hD]; rfl

/-! ### uniqueness, algebraic half -/

/-- the honest output for secret scalar `x` and hashed point `H`. -/
def honestHash (lib : EdLib G) (x : ℕ) (H : G) : Bytes :=
  lib.sha512 (suiteString ++ [0x03] ++ lib.encode ((8 : ℕ) • (x • H)) ++ [0x00])

theorem honestProof_hash (h : Lawful lib) (seed : Bytes) (H : G) :
    (honestProof lib seed H).hash lib = honestHash lib (secretScalar lib seed) H := by
  unfold Proof.hash honestHash honestProof
  simp only [h.smul_eq]

/-- the hash depends on `Γ` only through `8•Γ`: if `Γ − x•H` has small order the output is the
honest one. -/
theorem hash_eq_honest_of_small_order (h : Lawful lib) (D : Proof G) (x : ℕ) (H : G)
    (hsmall : (8 : ℕ) • (D.gamma - x • H) = 0) : D.hash lib = honestHash lib x H := by
  unfold Proof.hash honestHash
  rw [h.smul_eq]
  have : (8 : ℕ) • D.gamma = (8 : ℕ) • (x • H) := by
    rw [smul_sub, sub_eq_zero] at hsmall; exact hsmall
  rw [this]

/-- **E3 uniqueness, algebraic half**: if `verify` accepts `pi = (Γ, c, s)` under the key `Y = x•B`
and `Γ − x•H` has small order, the output hash is the honest one. -/
theorem vrf_unique_algebraic (h : Lawful lib) (pk alpha pi β : Bytes) (hpk : pk.length = 32)
    (x : ℕ) (D : Proof G) (H : G)
    (hv : verify lib pk alpha pi = some (true, β))
    (hD : Proof.setBytes lib pi = some D) (hH : encodeToCurve lib pk alpha = some H)
    (hsmall : (8 : ℕ) • (D.gamma - x • H) = 0) :
    β = honestHash lib x H := by
  obtain ⟨Y, D', H', _, _, hD', hH', _, rfl⟩ := (vrf_verify_eq_true_iff h pk alpha pi β hpk).mp hv
  rw [hD] at hD'; cases hD'
  rw [hH] at hH'; cases hH'
  exact hash_eq_honest_of_small_order h D x H hsmall

/-- the Chaum–Pedersen relation behind soundness (pure group algebra, no hypothesis): for the key
`Y = x•B` the two recomputed commitments are `U = u•B` and `V = u•H + c•(x•H − Γ)` with the same
integer `u = s − c·x`; so `(U, V)` is a Diffie–Hellman pair for `(B, H)` iff `c•(x•H − Γ) = 0`. -/
theorem vrf_commitments (x c s : ℕ) (B H Γ : G) :
    s • B - c • (x • B) = ((s : ℤ) - c * x) • B ∧
    s • H - c • Γ = ((s : ℤ) - c * x) • H + c • (x • H - Γ) := by
  constructor
  · rw [sub_smul, mul_smul, natCast_zsmul, natCast_zsmul, natCast_zsmul]
  · rw [sub_smul, mul_smul, smul_sub, natCast_zsmul, natCast_zsmul, natCast_zsmul, sub_add_sub_cancel]

end Iota.Proofs.Ed
