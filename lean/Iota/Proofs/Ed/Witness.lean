/-
Non-vacuity of the hypotheses of Iota/Proofs/Ed/Lawful.lean: a concrete group and library satisfying
`Lawful`, `Cofactor`, `OrderExact`, `EncodeCanonical` and `EncodeDecode` simultaneously.

The witnesses are cyclic groups `ZMod m` with a chosen base point, encoded as the 32-byte little-endian
representative below `m`, with a toy hash (`cycLib`).  They are NOT the curve: they only show that the
assumptions are jointly satisfiable, so that the theorems stated under them are not vacuous.  `witnessLibH` is
`ZMod L` with generator `1` and a non-constant hash; Witness2.lean runs the VRF on it and adds `ZMod (8·L)`
for the torsion theorems.

Everything is first proved for a variable modulus (so that the elaborator never unfolds the 253-bit literal
`L`) and then specialised.
-/
import Mathlib.Data.ZMod.Basic
import Iota.Proofs.Ed.Lawful
import Iota.Proofs.Ed.Canonical

namespace Iota.Proofs.Ed
open Iota.Edwards (Bytes leNat leBytes L)
open Iota.Ed25519 (EdLib)

/-! ### a cyclic group `ZMod m` as a curve library -/

/-- the cyclic group `ZMod m` with base point `g`, 32-byte little-endian encoding of the representative below `m`
(decoding accepts exactly those), and `hash` for SHA-512. -/
def cycLib (m : ℕ) (g : ZMod m) (hash : Bytes → Bytes) : EdLib (ZMod m) where
  add a b := a + b
  neg a := -a
  zero := 0
  smul k a := k • a
  base := g
  decode b := if b.length = 32 ∧ leNat b < m then some ((leNat b : ℕ) : ZMod m) else none
  encode a := leBytes a.val 32
  eq a b := decide (a = b)
  sha512 := hash

section
variable {m : ℕ} {g : ZMod m} {hash : Bytes → Bytes}

theorem cycLib_decode (b : Bytes) :
    (cycLib m g hash).decode b =
      if b.length = 32 ∧ leNat b < m then some ((leNat b : ℕ) : ZMod m) else none := rfl

theorem cycLib_encode (a : ZMod m) : (cycLib m g hash).encode a = leBytes a.val 32 := rfl

theorem cycLib_encode_length (a : ZMod m) : ((cycLib m g hash).encode a).length = 32 := leBytes_length _ _

theorem cycLib_leNat_encode [NeZero m] (hm : m < 256 ^ 32) (a : ZMod m) :
    leNat ((cycLib m g hash).encode a) = a.val :=
  leNat_leBytes_of_lt _ _ ((ZMod.val_lt a).trans hm)

theorem cycLib_lawful [NeZero m] (hm : m < 256 ^ 32) (hg : L • g = 0) (hh : ∀ x, (hash x).length = 64) :
    Lawful (cycLib m g hash) where
  add_eq _ _ := rfl
  neg_eq _ := rfl
  zero_eq := rfl
  smul_eq _ _ := rfl
  eq_iff a b := by simp [cycLib]
  order_base := hg
  decode_encode a := by
    have hval := cycLib_leNat_encode (g := g) (hash := hash) hm a
    rw [cycLib_decode, if_pos ⟨cycLib_encode_length a, by rw [hval]; exact ZMod.val_lt a⟩, hval,
      ZMod.natCast_zmod_val]
  encode_length := cycLib_encode_length
  sha512_length := hh

theorem cycLib_cofactor (hm : m ∣ 8 * L) : Cofactor (cycLib m g hash) := by
  intro a
  rw [nsmul_eq_mul, (ZMod.natCast_eq_zero_iff _ _).2 hm, zero_mul]

theorem pow_253_lt_256_32 : 2 ^ 253 < 256 ^ 32 := by decide +kernel
theorem pow_253_lt_255 : 2 ^ 253 < 2 ^ 255 := by decide +kernel
theorem pow_253_lt_p : 2 ^ 253 < Iota.Edwards.p := by rw [p_eq]; decide +kernel

theorem nonCanonicalSignBytes_leNat_ge :
    ∀ x ∈ Vrf.nonCanonicalSignBytes, 2 ^ 255 ≤ leNat x := by decide +kernel

theorem cycLib_encodeCanonical [NeZero m] (hm : m < 2 ^ 253) : EncodeCanonical (cycLib m g hash) := by
  intro a
  have hval := cycLib_leNat_encode (g := g) (hash := hash) (hm.trans pow_253_lt_256_32) a
  have h253 : a.val < 2 ^ 253 := Nat.lt_trans (ZMod.val_lt a) hm
  refine ⟨?_, ?_⟩
  · rw [isCanonicalY_iff _ (cycLib_encode_length a), hval,
      Nat.mod_eq_of_lt (Nat.lt_trans h253 pow_253_lt_255)]
    exact Nat.lt_trans h253 pow_253_lt_p
  · intro hmem
    have hge := nonCanonicalSignBytes_leNat_ge _ hmem
    rw [hval] at hge
    exact Nat.lt_irrefl _ (Nat.lt_of_lt_of_le (Nat.lt_trans h253 pow_253_lt_255) hge)

theorem cycLib_encodeDecode : EncodeDecode (cycLib m g hash) := by
  intro b a hdec _ _ hlen
  rw [cycLib_decode] at hdec
  by_cases hc : b.length = 32 ∧ leNat b < m
  · rw [if_pos hc] at hdec
    have ha : a = ((leNat b : ℕ) : ZMod m) := (Option.some.inj hdec).symm
    rw [cycLib_encode, ha, ZMod.val_natCast, Nat.mod_eq_of_lt hc.2]
    exact eq_leBytes_of_length b 32 hlen
  · rw [if_neg hc] at hdec
    exact absurd hdec (by simp)

end

/-! ### the witness: `ZMod L`, generator `1`, a non-constant hash -/

/-- a toy "hash to a non-zero residue": a polynomial rolling hash of the message folded into
`1 … n-1`. -/
def hashNat (n : ℕ) (m : Bytes) : ℕ := (m.foldl (fun a b => a * 31 + b.toNat) 7) % (n - 1) + 1

/-- `ZMod n` with generator `1` and a non-constant hash: the first 32 bytes of `sha512 m` are the canonical
encoding of the non-zero residue `hashNat n m`, the last 32 bytes are zero. -/
def zmodLibH (n : ℕ) : EdLib (ZMod n) where
  add a b := a + b
  neg a := -a
  zero := 0
  smul k a := k • a
  base := 1
  decode b := if b.length = 32 ∧ leNat b < n then some ((leNat b : ℕ) : ZMod n) else none
  encode a := leBytes a.val 32
  eq a b := decide (a = b)
  sha512 m := leBytes (hashNat n m) 32 ++ List.replicate 32 0

theorem zmodLibH_eq (n : ℕ) :
    zmodLibH n = cycLib n 1 fun m => leBytes (hashNat n m) 32 ++ List.replicate 32 0 := rfl

theorem zmodLibH_sha512 {n : ℕ} (m : Bytes) :
    (zmodLibH n).sha512 m = leBytes (hashNat n m) 32 ++ List.replicate 32 0 := rfl

theorem zmodLibH_sha512_length {n : ℕ} (m : Bytes) : ((zmodLibH n).sha512 m).length = 64 := by
  rw [zmodLibH_sha512, List.length_append, leBytes_length, List.length_replicate]

instance instNeZeroL : NeZero L := ⟨Nat.pos_iff_ne_zero.mp L_pos⟩

/-- the cyclic group of order `L` with generator `1`, canonical encoding, and a non-constant hash into
the non-zero residues. -/
def witnessLibH : EdLib (ZMod L) := zmodLibH L

theorem witnessH_lawful : Lawful witnessLibH :=
  cycLib_lawful (L_lt_253.trans pow_253_lt_256_32)
    (by rw [nsmul_eq_mul, mul_one]; exact ZMod.natCast_self L) zmodLibH_sha512_length

theorem witnessH_cofactor : Cofactor witnessLibH := cycLib_cofactor (Dvd.intro_left 8 rfl)
theorem witnessH_orderExact : OrderExact witnessLibH := ZMod.addOrderOf_one L
theorem witnessH_encodeCanonical : EncodeCanonical witnessLibH := cycLib_encodeCanonical L_lt_253
theorem witnessH_encodeDecode : EncodeDecode witnessLibH := cycLib_encodeDecode

/-- **non-vacuity**: all five hypotheses on the curve library are jointly satisfiable. -/
theorem lawful_witness_full :
    ∃ (G : Type) (_ : AddCommGroup G) (lib : Iota.Ed25519.EdLib G),
      Lawful lib ∧ Cofactor lib ∧ OrderExact lib ∧ EncodeCanonical lib ∧ EncodeDecode lib :=
  ⟨ZMod L, inferInstance, witnessLibH, witnessH_lawful, witnessH_cofactor, witnessH_orderExact,
    witnessH_encodeCanonical, witnessH_encodeDecode⟩

/-- **non-vacuity**: the hypotheses `Lawful` and `Cofactor` are jointly satisfiable. -/
theorem lawful_witness :
    ∃ (G : Type) (_ : AddCommGroup G) (lib : Iota.Ed25519.EdLib G), Lawful lib ∧ Cofactor lib :=
  let ⟨G, i, lib, h, hc, _⟩ := lawful_witness_full
  ⟨G, i, lib, h, hc⟩

end Iota.Proofs.Ed
