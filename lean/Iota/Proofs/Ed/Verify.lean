/-
E1 (C01): `Ed25519.verify` accepts exactly the ZIP-215 set (`verify_eq_true_iff`), and panics only on a key of the
wrong length.  Consequences: `S + j·L` is rejected, the hash may be left unreduced under cofactor 8, the verdict does
not see 8-torsion added to `A` or `R`, and the cofactorless check of `crypto/ed25519.Verify` (`stdVerify`) accepts a subset.
-/
import Iota.Proofs.Ed.Lawful

namespace Iota.Proofs.Ed
open Iota.Edwards (Bytes leNat leBytes L)
open Iota.Ed25519

variable {G : Type} [AddCommGroup G] {lib : EdLib G}

/-- the hash scalar `k = SHA-512(R ‖ A ‖ M) mod L` used by `verify` -/
def hramScalar (lib : EdLib G) (pk msg sig : Bytes) : ℕ :=
  uniformScalar (lib.sha512 (sig.take 32 ++ pk ++ msg))

/-- the unreduced hash integer `SHA-512(R ‖ A ‖ M)` -/
def hramInt (lib : EdLib G) (pk msg sig : Bytes) : ℕ :=
  leNat (lib.sha512 (sig.take 32 ++ pk ++ msg))

/-- the ZIP-215 batch-compatible verification equation `[8][S]B = [8]R + [8][k]A`. -/
def Zip215Eq (lib : EdLib G) (S k : ℕ) (A R : G) : Prop :=
  (8 : ℕ) • (S • lib.base) = (8 : ℕ) • R + (8 : ℕ) • (k • A)

/-- the ZIP-215 acceptance set: 64-byte signature, canonical `S`, both points decodable
(permissively), cofactored equation. -/
def Zip215 (lib : EdLib G) (pk msg sig : Bytes) : Prop :=
  sig.length = 64 ∧ leNat (sig.drop 32) < L ∧
    ∃ A R, lib.decode pk = some A ∧ lib.decode (sig.take 32) = some R ∧
      (8 : ℕ) • (leNat (sig.drop 32) • lib.base) =
        (8 : ℕ) • R + (8 : ℕ) • (uniformScalar (lib.sha512 (sig.take 32 ++ pk ++ msg)) • A)

/-! ### the pre-check on the top three bits of `S` -/

theorem uint8_and_224 (x : UInt8) (h : x.toNat < 32) : x &&& 224 = 0 := by
  apply UInt8.toNat_inj.mp
  rw [UInt8.toNat_and]
  have : ∀ n < 32, n &&& 224 = 0 := by decide
  exact this _ h

theorem uint8_and_224' (x : UInt8) (h : x &&& 224 = 0) : x.toNat < 32 := by
  have h' := congrArg UInt8.toNat h
  rw [UInt8.toNat_and] at h'
  have : ∀ n < 256, n &&& 224 = 0 → n < 32 := by decide +kernel
  exact this _ x.toNat_lt h'

/-- the last byte of a 64-byte signature is the top byte of `S`. -/
theorem leNat_drop32_ge (sig : Bytes) (hlen : sig.length = 64) :
    256 ^ 31 * (sig.getD 63 0).toNat ≤ leNat (sig.drop 32) := by
  have h1 : (sig.drop 32).length = 32 := by simp [hlen]
  rw [leNat_take_add_drop (sig.drop 32) 31 (by omega), List.drop_drop]
  have h2 : sig.drop (32 + 31) = [sig.getD 63 0] := by
    have h63 : 63 < sig.length := by omega
    rw [show 32 + 31 = 63 from rfl, List.drop_eq_getElem_cons h63, List.drop_eq_nil_of_le (by omega)]
    simp [List.getD_eq_getElem?_getD, h63]
  rw [h2, leNat_cons, leNat_nil]
  omega

/-- **pre-check**: `sig[63] & 224 ≠ 0` rejects nothing with canonical `S` (because `L < 2^253`). -/
theorem precheck_of_canonical (sig : Bytes) (hlen : sig.length = 64) (hS : leNat (sig.drop 32) < L) :
    (sig.getD 63 0) &&& 224 = 0 := by
  apply uint8_and_224
  have h1 := leNat_drop32_ge sig hlen
  have h2 := L_lt_253
  omega

/-! ### the group equation -/

/-- the test `[8]([k](−A) + [S]B − R) = 0` performed by the code is the ZIP-215 equation. -/
theorem check_iff (S k : ℕ) (A R : G) :
    (8 : ℕ) • (k • (-A) + S • lib.base + -R) = 0 ↔ Zip215Eq lib S k A R := by
  have : (8 : ℕ) • (k • (-A) + S • lib.base + -R) =
      (8 : ℕ) • (S • lib.base) - ((8 : ℕ) • R + (8 : ℕ) • (k • A)) := by
    simp only [smul_add, smul_neg]; abel
  rw [this, sub_eq_zero, Zip215Eq]

/-- **E1** `verify` returns `some true` exactly on the ZIP-215 set. -/
theorem verify_eq_true_iff (h : Lawful lib) (pk msg sig : Bytes) (hpk : pk.length = 32) :
    verify lib pk msg sig = some true ↔ Zip215 lib pk msg sig := by
  unfold Zip215
  constructor
  · -- every branch but the last returns `false`
    intro hv
    unfold verify at hv
    rw [if_neg (by simp [hpk])] at hv
    split at hv
    · cases hv
    rename_i hpre
    split at hv
    · cases hv
    rename_i A hA
    split at hv
    · cases hv
    rename_i R hR
    simp only at hv
    split at hv
    · cases hv
    rename_i hS
    simp only [Option.some.injEq, h.eq_zero_iff, h.smul_eq, h.add_eq, h.neg_eq] at hv
    exact ⟨not_not.1 fun hl => hpre (Or.inl hl), by omega, A, R, hA, hR, (check_iff _ _ A R).1 hv⟩
  · rintro ⟨hlen, hS, A, R, hA, hR, heq⟩
    unfold verify
    rw [if_neg (by simp [hpk]),
      if_neg (not_or.2 ⟨not_not.2 hlen, not_not.2 (precheck_of_canonical sig hlen hS)⟩), hA]
    simp only
    rw [hR]
    simp only
    rw [if_neg (by omega)]
    simp only [Option.some.injEq, h.eq_zero_iff, h.smul_eq, h.add_eq, h.neg_eq]
    exact (check_iff _ _ A R).2 heq

omit [AddCommGroup G] in
/-- `verify` panics (`none`) exactly on a public key of the wrong length. -/
theorem verify_eq_none_iff (pk msg sig : Bytes) : verify lib pk msg sig = none ↔ pk.length ≠ 32 := by
  unfold verify
  by_cases hpk : pk.length = 32
  · rw [if_neg (by simp [hpk])]
    simp only [hpk, ne_eq, not_true_eq_false, iff_false]
    repeat' split
    all_goals simp
  · simp [hpk]

omit [AddCommGroup G] in
theorem verify_isSome (pk msg sig : Bytes) (hpk : pk.length = 32) :
    ∃ b, verify lib pk msg sig = some b := by
  cases hv : verify lib pk msg sig with
  | none => exact absurd hpk ((verify_eq_none_iff pk msg sig).mp hv)
  | some b => exact ⟨b, rfl⟩

/-- **E1** everything outside the ZIP-215 set is rejected (with `false`, not a panic). -/
theorem verify_eq_false_iff (h : Lawful lib) (pk msg sig : Bytes) (hpk : pk.length = 32) :
    verify lib pk msg sig = some false ↔ ¬ Zip215 lib pk msg sig := by
  rw [← verify_eq_true_iff h pk msg sig hpk]
  obtain ⟨b, hb⟩ := verify_isSome (lib := lib) pk msg sig hpk
  rw [hb]; cases b <;> simp

/-! ### malleability -/

/-- **malleability**: a signature whose second half encodes `S + j·L`, `j ≥ 1`, is rejected. -/
theorem verify_malleable_rejected (h : Lawful lib) (pk msg sig : Bytes) (hpk : pk.length = 32)
    (S j : ℕ) (hj : 1 ≤ j) (hS : leNat (sig.drop 32) = S + j * L) :
    verify lib pk msg sig = some false := by
  rw [verify_eq_false_iff h pk msg sig hpk]
  rintro ⟨_, h2, _⟩
  have : L ≤ j * L := Nat.le_mul_of_pos_left L hj
  omega

/-- so at most one of the signatures `(R, S + j·L)`, `j ≥ 0`, is accepted: the one with `j = 0`. -/
theorem accepted_S_unique (h : Lawful lib) (pk msg sig sig' : Bytes) (hpk : pk.length = 32)
    (h1 : verify lib pk msg sig = some true) (h2 : verify lib pk msg sig' = some true)
    (hmod : leNat (sig.drop 32) % L = leNat (sig'.drop 32) % L) :
    leNat (sig.drop 32) = leNat (sig'.drop 32) := by
  rw [verify_eq_true_iff h _ _ _ hpk] at h1 h2
  rwa [Nat.mod_eq_of_lt h1.2.1, Nat.mod_eq_of_lt h2.2.1] at hmod

/-! ### reduced versus unreduced hash -/

/-- **unreduced hash**: with cofactor 8 the equation may be stated with the 512-bit integer
`SHA-512(R ‖ A ‖ M)` instead of its reduction mod `L`. -/
theorem zip215Eq_unreduced (hc : Cofactor lib) (S n : ℕ) (A R : G) :
    Zip215Eq lib S (n % L) A R ↔ Zip215Eq lib S n A R := by
  unfold Zip215Eq; rw [hc.eight_mod_L]

theorem verify_eq_true_iff_unreduced (h : Lawful lib) (hc : Cofactor lib) (pk msg sig : Bytes)
    (hpk : pk.length = 32) :
    verify lib pk msg sig = some true ↔
      sig.length = 64 ∧ leNat (sig.drop 32) < L ∧
        ∃ A R, lib.decode pk = some A ∧ lib.decode (sig.take 32) = some R ∧
          (8 : ℕ) • (leNat (sig.drop 32) • lib.base) =
            (8 : ℕ) • R + (8 : ℕ) • (leNat (lib.sha512 (sig.take 32 ++ pk ++ msg)) • A) := by
  rw [verify_eq_true_iff h pk msg sig hpk]
  unfold Zip215 uniformScalar
  simp only [hc.eight_mod_L]

/-! ### torsion-insensitivity -/

/-- the equation sees `A` and `R` only through `8•A` and `8•R`. -/
theorem zip215Eq_iff_eight (S k : ℕ) (A R : G) :
    Zip215Eq lib S k A R ↔ (8 : ℕ) • (S • lib.base) = (8 : ℕ) • R + k • ((8 : ℕ) • A) := by
  unfold Zip215Eq; rw [smul_comm 8 k A]

theorem zip215Eq_congr (S k : ℕ) {A A' R R' : G} (hA : (8 : ℕ) • A = (8 : ℕ) • A')
    (hR : (8 : ℕ) • R = (8 : ℕ) • R') : Zip215Eq lib S k A R ↔ Zip215Eq lib S k A' R' := by
  rw [zip215Eq_iff_eight, zip215Eq_iff_eight, hA, hR]

/-- **torsion-insensitivity**: adding 8-torsion points to `A` and to `R` (same `k`) does not change
the equation. -/
theorem zip215Eq_add_torsion (S k : ℕ) (A R T T' : G) (hT : (8 : ℕ) • T = 0) (hT' : (8 : ℕ) • T' = 0) :
    Zip215Eq lib S k (A + T) (R + T') ↔ Zip215Eq lib S k A R :=
  zip215Eq_congr S k (nsmul_add_torsion hT A) (nsmul_add_torsion hT' R)

theorem zip215_iff_of_decode (pk msg sig : Bytes) (A : G) (hA : lib.decode pk = some A) :
    Zip215 lib pk msg sig ↔ sig.length = 64 ∧ leNat (sig.drop 32) < L ∧
      ∃ R, lib.decode (sig.take 32) = some R ∧
        Zip215Eq lib (leNat (sig.drop 32)) (hramScalar lib pk msg sig) A R := by
  unfold Zip215 Zip215Eq hramScalar
  rw [hA]
  simp only [Option.some.injEq, exists_and_left, exists_eq_left']

/-- at the level of `verify`: two keys decoding to `A` and `A + T` with `8•T = 0` get the same verdict
on `(msg, sig)` whenever the hash scalar is the same (it is computed from the key *bytes*). -/
theorem verify_torsion_key (h : Lawful lib) (pk pk' msg sig : Bytes) (hpk : pk.length = 32)
    (hpk' : pk'.length = 32) (A T : G) (hA : lib.decode pk = some A) (hA' : lib.decode pk' = some (A + T))
    (hT : (8 : ℕ) • T = 0) (hk : hramScalar lib pk msg sig = hramScalar lib pk' msg sig) :
    verify lib pk msg sig = some true ↔ verify lib pk' msg sig = some true := by
  rw [verify_eq_true_iff h _ _ _ hpk, verify_eq_true_iff h _ _ _ hpk',
    zip215_iff_of_decode pk msg sig A hA, zip215_iff_of_decode pk' msg sig _ hA', ← hk]
  have key : ∀ R, Zip215Eq lib (leNat (sig.drop 32)) (hramScalar lib pk msg sig) (A + T) R ↔
      Zip215Eq lib (leNat (sig.drop 32)) (hramScalar lib pk msg sig) A R := fun R =>
    zip215Eq_congr _ _ (nsmul_add_torsion hT A) rfl
  simp only [key]

/-- likewise for the `R` half of the signature: `R` and `R + T'` are interchangeable given the same
hash scalar. -/
theorem verify_torsion_R (h : Lawful lib) (pk msg sig sig' : Bytes) (hpk : pk.length = 32)
    (hlen : sig.length = 64) (hlen' : sig'.length = 64) (hSS : sig.drop 32 = sig'.drop 32)
    (R T' : G) (hR : lib.decode (sig.take 32) = some R) (hR' : lib.decode (sig'.take 32) = some (R + T'))
    (hT' : (8 : ℕ) • T' = 0) (hk : hramScalar lib pk msg sig = hramScalar lib pk msg sig') :
    verify lib pk msg sig = some true ↔ verify lib pk msg sig' = some true := by
  rw [verify_eq_true_iff h _ _ _ hpk, verify_eq_true_iff h _ _ _ hpk]
  cases hA : lib.decode pk with
  | none => simp [Zip215, hA]
  | some A =>
    rw [zip215_iff_of_decode pk msg sig A hA, zip215_iff_of_decode pk msg sig' A hA, ← hk, ← hSS, hR, hR']
    simp only [Option.some.injEq, exists_eq_left', hlen, hlen']
    rw [zip215Eq_congr (lib := lib) _ _ (A := A) (A' := A) rfl (nsmul_add_torsion hT' R)]

/-! ### inclusion of the cofactorless (standard-library) check -/

/-- model of `crypto/ed25519.Verify`: decode the key, require canonical `S`, recompute
`R' = [S]B − [k]A` and compare *encodings* with `sig[:32]`. -/
def stdVerify (lib : EdLib G) (pk msg sig : Bytes) : Bool :=
  pk.length == 32 && sig.length == 64 &&
  match lib.decode pk with
  | none => false
  | some A =>
    let k := uniformScalar (lib.sha512 (sig.take 32 ++ pk ++ msg))
    let S := leNat (sig.drop 32)
    decide (S < L) &&
      lib.encode (lib.add (lib.smul k (lib.neg A)) (lib.smul S lib.base)) == sig.take 32

theorem stdVerify_iff (h : Lawful lib) (pk msg sig : Bytes) :
    stdVerify lib pk msg sig = true ↔
      pk.length = 32 ∧ sig.length = 64 ∧ leNat (sig.drop 32) < L ∧ ∃ A, lib.decode pk = some A ∧
        lib.encode (leNat (sig.drop 32) • lib.base - hramScalar lib pk msg sig • A) = sig.take 32 := by
  unfold stdVerify hramScalar
  cases hA : lib.decode pk with
  | none => simp
  | some A =>
    simp only [Bool.and_eq_true, beq_iff_eq, decide_eq_true_eq, h.smul_eq, h.add_eq, h.neg_eq,
      Option.some.injEq, exists_eq_left', and_assoc, smul_neg, neg_add_eq_sub]

/-- **inclusion**: whatever the cofactorless check accepts, `verify` accepts. -/
theorem verify_of_stdVerify (h : Lawful lib) (pk msg sig : Bytes) (hstd : stdVerify lib pk msg sig = true) :
    verify lib pk msg sig = some true := by
  obtain ⟨hpk, hlen, hS, A, hA, henc⟩ := (stdVerify_iff h pk msg sig).mp hstd
  rw [verify_eq_true_iff h pk msg sig hpk]
  refine ⟨hlen, hS, A, leNat (sig.drop 32) • lib.base - hramScalar lib pk msg sig • A, hA, ?_, ?_⟩
  · rw [← henc]; exact h.decode_encode _
  · unfold hramScalar; rw [← smul_add]; congr 1; abel

end Iota.Proofs.Ed
