/-
C04 — Bech32 Decode accepts exactly the valid strings and never panics.
`decode : Str → Except Err (Str × List UInt8)` is total (no panic outcome in the model; a Go panic
would surface in the correspondence run as a `panic` reply that no model reply can equal).
-/
import Iota.Proofs.Bech32

namespace Iota.Props.C04
open Iota.Bech32 Iota.Spec.Bip173

/-- `Decode` succeeds exactly on the valid BIP-173 strings (≤ 90 characters, one case, printable-ASCII
prefix, last '1' as separator, charset data, valid checksum) whose data regroups into whole bytes with
zero padding bits, and returns the lower-cased prefix and those bytes. -/
theorem decode_ok_iff_valid (s hrp : Str) (data : List UInt8) :
    decode s = .ok (hrp, data) ↔ Valid s hrp data :=
  Proofs.Bech32.decode_ok_iff_valid s hrp data

/-- every accepted string re-encodes to its own lower-case form … -/
theorem accepted_reencodes (s hrp : Str) (data : List UInt8) (h : decode s = .ok (hrp, data)) :
    encode hrp data = .ok (lower s) :=
  Proofs.Bech32.reencode s hrp data h

/-- … so a (prefix, data) pair has exactly one accepted spelling up to ASCII case. -/
theorem unique_spelling (s s' hrp : Str) (data : List UInt8)
    (h : decode s = .ok (hrp, data)) (h' : decode s' = .ok (hrp, data)) : lower s = lower s' := by
  have a := accepted_reencodes s hrp data h
  have b := accepted_reencodes s' hrp data h'
  rw [a] at b
  exact Except.ok.inj b

/-- when the error carries a position it lies inside the input. -/
theorem error_offset_in_input (s : Str) (k : ErrKind) (off : Nat)
    (h : decode s = .error (k, some off)) : off < s.length := by
  have := Proofs.Bech32.decode_post s
  rwa [h] at this

/-- the data regrouping of an accepted string is BIP-173's 8→5 conversion with zero padding. -/
theorem base32_is_bip173 (bs : List UInt8) : b32Encode bs = to5 bs :=
  Proofs.Base32.b32Encode_eq_to5 bs

theorem base32_decode_ok_iff (syms bs : List UInt8) (hlt : ∀ s ∈ syms, s.toNat < 32) :
    b32Decode syms = .ok bs ↔ syms = b32Encode bs :=
  ⟨Proofs.Base32.b32_encode_of_decode syms bs hlt, fun h => h ▸ Proofs.Base32.b32_decode_encode bs⟩

/-! ### non-vacuity -/
-- "A12UEL5L" and "a12uel5l" are valid (BIP-173 test vectors), "A12uEL5L" (mixed case) is not
example : decode [65,49,50,85,69,76,53,76] = .ok ([97], []) := by decide +kernel
example : decode [97,49,50,117,101,108,53,108] = .ok ([97], []) := by decide +kernel
example : decode [65,49,50,117,69,76,53,76] = .error (.mixedCase, some 3) := by decide +kernel
-- non-zero padding: "a1qqqqql2szs3" style strings are rejected by the regrouping
example : (decode [97,49,112,50,117,101,108,53,108]).toOption = none := by decide +kernel
example : Valid [97,49,50,117,101,108,53,108] [97] [] :=
  (decode_ok_iff_valid _ _ _).mp (by decide +kernel)

end Iota.Props.C04
