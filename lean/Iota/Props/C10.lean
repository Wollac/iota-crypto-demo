/-
C10 — BIP-32 path text form round-trips and is read as decimal.
Lemmas: Iota/Proofs/Bip32Path.lean; the grammar: Iota/Spec/Bip32Path.lean.  `parsePath : Str → Option (List Nat)` is total, so the model has no
panic outcome; that the Go function has none either is observed by the correspondence run
(a recovered panic is printed as `panic` and can never equal a model reply).
-/
import Iota.Proofs.Bip32Path

namespace Iota.Props.C10
open Iota.Bip32Path Iota.Spec.Bip32Path

/-- the printed form of every path (any length, any 32-bit indices) parses back to it. -/
theorem parse_print (p : List Nat) (h : ∀ i ∈ p, i < 2 ^ 32) : parsePath (printPath p) = some p := by
  unfold printPath
  cases hp : p with
  | nil => simp [parsePath]
  | cons i q =>
    obtain ⟨cs, hcs, hwf, hfm, hidx⟩ := Proofs.Bip32Path.flatMap_printKey p h (by rw [hp]; simp)
    rw [← hp, hfm, ← hidx]
    exact Proofs.Bip32Path.parsePath_of_grammar _ _ (Grammar.rooted cs hcs hwf)

/-- `ParsePath` succeeds exactly on the grammar: "", "m", or optional "m/" then '/'-separated
`digit+ [H']?` components with decimal value < 2^31, and returns value (+2^31 if marked). -/
theorem parse_iff_grammar (s : Str) (p : List Nat) : parsePath s = some p ↔ Grammar s p :=
  ⟨Proofs.Bip32Path.grammar_of_parsePath s p, Proofs.Bip32Path.parsePath_of_grammar s p⟩

/-- the value of an accepted component is its *decimal* reading: leading zeros do not change it. -/
theorem leading_zeros_irrelevant (k : Nat) (ds mk : Str) (hne : ds ≠ [])
    (hd : ∀ d ∈ ds, isDigit d = true) (hm : mk = [] ∨ mk = [chH] ∨ mk = [chApos]) :
    parseKey (List.replicate k 48 ++ ds ++ mk) = parseKey (ds ++ mk) := by
  obtain ⟨o, ho, rfl⟩ := Proofs.Bip32Path.marker_cases hm
  have hz : ∀ d ∈ List.replicate k 48 ++ ds, isDigit d = true := by
    intro d hmem
    rcases List.mem_append.mp hmem with h1 | h1
    · rw [(List.mem_replicate.mp h1).2]; decide
    · exact hd d h1
  rw [Proofs.Bip32Path.parseKey_marked _ o (List.append_ne_nil_of_right_ne_nil _ hne) hz ho,
    Proofs.Bip32Path.parseKey_marked ds o hne hd ho, parseUint31, parseUint31,
    Proofs.Bip32Path.decValue_leading_zeros]

theorem decimal_leading_zeros (k : Nat) (ds : Str) :
    decimal (List.replicate k 48 ++ ds) = decimal ds := by
  rw [← Proofs.Bip32Path.decValue_eq_decimal, ← Proofs.Bip32Path.decValue_eq_decimal]
  exact Proofs.Bip32Path.decValue_leading_zeros k ds

/-- every index the parser returns is a 32-bit value. -/
theorem parsed_indices_32bit (s : Str) (p : List Nat) (h : parsePath s = some p) : ∀ i ∈ p, i < 2 ^ 32 := by
  have g := (parse_iff_grammar s p).mp h
  cases g with
  | empty => simp
  | m => simp
  | bare cs _ hwf | rooted cs _ hwf =>
    intro i hi
    obtain ⟨c, hc, rfl⟩ := List.mem_map.mp hi
    have := (hwf c hc).2.2.1
    unfold Comp.index
    split <;> omega

/-! ### non-vacuity -/
-- "m/44'/0H/010"  ↦ [44+2^31, 2^31, 10]
example : parsePath [109,47,52,52,39,47,48,72,47,48,49,48] = some [44 + 2^31, 2^31, 10] := by decide +kernel
-- "m/2147483648" (2^31) is rejected, "2147483647" accepted without the m/ prefix
example : parsePath [109,47,50,49,52,55,52,56,51,54,52,56] = none := by decide +kernel
example : parsePath [50,49,52,55,52,56,51,54,52,55] = some [2147483647] := by decide +kernel
-- "m/" , "m//0", "m/0x1", "m/1HH" are rejected
example : parsePath [109,47] = none ∧ parsePath [109,47,47,48] = none ∧
    parsePath [109,47,48,120,49] = none ∧ parsePath [109,47,49,72,72] = none := by decide +kernel
example : printPath [44 + 2^31, 0, 4294967295] =
    [109,47,52,52,39,47,48,47,50,49,52,55,52,56,51,54,52,55,39] := by decide +kernel

end Iota.Props.C10
