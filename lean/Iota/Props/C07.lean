/-
C07 — Ed25519 keys and signatures are those of RFC 8032 / crypto/ed25519.

Model: `Iota/Model/Ed25519.lean` (`newKeyFromSeed`, `sign`, `signerSign`, `verify`), written as the RFC 8032
§5.1.5/§5.1.6 steps over the abstract curve library `EdLib G`; proofs: `Iota/Proofs/Ed/{Bytes,Lawful,Sign}.lean`.
What is a theorem: the algebra — for every seed and message the signature the model produces is accepted by
`verify` for the produced key (so the three functions fit together for all inputs), signing is a function
(deterministic), the clamped secret is never ≡ 0 mod L, the Signer wrapper returns the same signature and
refuses pre-hashed input, and the panics are exactly the length checks.
What is NOT a theorem (PARTIAL): byte identity with crypto/ed25519.  The Go standard library is a second
implementation outside the model; identity with it is established by the correspondence run only (the
harness compares pkg/ed25519 with crypto/ed25519 byte for byte, and both with the Lean model instantiated
with a from-scratch curve and SHA-512, for message lengths covering both SHA-512 padding regimes).  The group
law of filippo.io/edwards25519 and SHA-512 are the hypothesis `Lawful lib`.
-/
import Iota.Proofs.Ed
import Iota.Proofs.Ed.Witness2

namespace Iota.Props.C07
open Iota.Proofs.Ed
open Iota.Edwards (Bytes leNat leBytes L)
open Iota.Ed25519 (EdLib newKeyFromSeed sign signerSign)

variable {G : Type} [AddCommGroup G] {lib : EdLib G}

/-- **sign then verify**, every 32-byte seed and every message: key and signature exist, have the RFC
lengths, and `Verify` accepts the signature for its own key and message. -/
theorem sign_then_verify (h : Lawful lib) (seed msg : Bytes) (hs : seed.length = 32) :
    ∃ sk sig, newKeyFromSeed lib seed = some sk ∧ sk.length = 64 ∧
      sign lib sk msg = some sig ∧ sig.length = 64 ∧
      Iota.Ed25519.verify lib (sk.drop 32) msg sig = some true := sign_verify h seed msg hs

/-- the private key is `seed ‖ A` with `A` the encoding of `[s]B`, `s` the clamped hash of the seed. -/
theorem private_key_layout (h : Lawful lib) (seed sk : Bytes) (hsk : newKeyFromSeed lib seed = some sk) :
    sk.length = 64 ∧ seed.length = 32 ∧ sk.take 32 = seed ∧ sk.drop 32 = lib.encode (publicPoint lib seed) :=
  newKeyFromSeed_length h seed sk hsk

/-- clamping: the secret scalar is never a multiple of the group order (the public key is never the identity
for a prime-order base). -/
theorem clamped_scalar_nonzero (hb : Bytes) : Iota.Edwards.clamp hb % L ≠ 0 := clamp_mod_L_ne_zero hb

omit [AddCommGroup G] in
/-- the only failures are the documented panics on wrong lengths. -/
theorem panics_iff (seed sk msg : Bytes) :
    (newKeyFromSeed lib seed = none ↔ seed.length ≠ 32) ∧ (sign lib sk msg = none ↔ sk.length ≠ 64) :=
  ⟨newKeyFromSeed_eq_none_iff seed, sign_eq_none_iff sk msg⟩

omit [AddCommGroup G] in
/-- **crypto.Signer**: the same signature for `crypto.Hash(0)`, an error for any pre-hash option. -/
theorem signer_interface (sk msg : Bytes) (hf : ℕ) :
    signerSign lib sk msg 0 = (sign lib sk msg).map .ok ∧
    (hf ≠ 0 → signerSign lib sk msg hf = some (.error ())) :=
  ⟨signerSign_zero sk msg, signerSign_ne_zero sk msg hf⟩

/-- the 32-byte little-endian scalar encoding is exact below 2^256. -/
theorem scalar_encoding (n : ℕ) (hn : n < 2 ^ 256) : leNat (leBytes n 32) = n ∧ (leBytes n 32).length = 32 :=
  ⟨leNat_leBytes_of_lt n 32 (by rw [pow_256_32]; exact hn), leBytes_length n 32⟩

omit [AddCommGroup G] in
/-- **determinism** is definitional in the model (`sign` is a function of key and message); on the
implementation side the harness signs every input twice. -/
theorem deterministic (sk msg : Bytes) (a b : Bytes) (ha : sign lib sk msg = some a) (hb : sign lib sk msg = some b) :
    a = b := by rw [ha] at hb; exact Option.some.inj hb

/-! ### non-vacuity -/
example : ∃ (G : Type) (_ : AddCommGroup G) (lib : EdLib G), Lawful lib ∧ Cofactor lib := lawful_witness

/-- the hypotheses are not only jointly satisfiable: there is a lawful library with a NON-constant hash on which
try-and-increment succeeds for every input and, for every 32-byte seed, alpha and message, key generation, `Prove`,
`Verify` (accepting, with the proof's hash), `ProofToHash`, the proof codec and Ed25519 sign-then-verify all go through
— so the hypotheses of `sign_then_verify` above, and of C18's `complete`, `verify_iff`, `hash_routes_agree`,
`unique_partial` (with x the secret scalar), are met by actual runs. -/
theorem hypotheses_met_by_runs :
    ∃ (G : Type) (_ : AddCommGroup G) (lib : EdLib G),
      Lawful lib ∧ Cofactor lib ∧ OrderExact lib ∧ EncodeCanonical lib ∧ EncodeDecode lib ∧
      (∃ m m', lib.sha512 m ≠ lib.sha512 m') ∧
      (∀ salt alpha, ∃ H, Iota.Vrf.encodeToCurve lib salt alpha = some H) ∧
      (∀ seed alpha : Bytes, seed.length = 32 →
        ∃ sk H D, Iota.Ed25519.newKeyFromSeed lib seed = some sk ∧ (sk.drop 32).length = 32 ∧
          Iota.Vrf.encodeToCurve lib (sk.drop 32) alpha = some H ∧
          Iota.Vrf.prove lib sk alpha = some D ∧
          Iota.Vrf.verify lib (sk.drop 32) alpha (D.bytes lib) = some (true, D.hash lib) ∧
          Iota.Vrf.proofToHash lib (D.bytes lib) = some (D.hash lib) ∧
          Iota.Vrf.Proof.setBytes lib (D.bytes lib) = some D ∧
          (8 : ℕ) • (D.gamma - secretScalar lib seed • H) = 0) ∧
      (∀ seed msg : Bytes, seed.length = 32 →
        ∃ sk sig, Iota.Ed25519.newKeyFromSeed lib seed = some sk ∧ sk.length = 64 ∧
          Iota.Ed25519.sign lib sk msg = some sig ∧ sig.length = 64 ∧
          Iota.Ed25519.verify lib (sk.drop 32) msg sig = some true) :=
  ⟨ZMod L, inferInstance, witnessLibH, witnessH_lawful, witnessH_cofactor, witnessH_orderExact,
    witnessH_encodeCanonical, witnessH_encodeDecode, ⟨[], [0], witnessH_sha512_nonconst⟩,
    witness_encodeToCurve, witness_vrf_runs, sign_verify witnessH_lawful⟩

end Iota.Props.C07
