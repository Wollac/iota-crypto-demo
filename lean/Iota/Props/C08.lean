/-
C08 — public and private SLIP-10 child derivation commute.  The general theorems assume that the curve
operations are the operations of a cyclic group of order n generated by the base point (`LawfulW`).
For secp256k1 this hypothesis is DISCHARGED (`shift_commutes_secp256k1` below has no assumption): the
repository's own Add/ScalarBaseMult are Mathlib's group law (C17), N is prime and the base point has order
exactly N (`Iota/Proofs/Secp/Order.lean`), so `LawfulW` holds for the curve whose operations run the model
(`Iota/Proofs/Secp/Slip10Instance.lean`).  For NIST P-256 the operations are `crypto/elliptic`'s and the
hypothesis stays (partial).  The byte-level agreement (compressed key, chain code, fingerprint) on both real
curves is exercised by the correspondence run.
-/
import Iota.Proofs.Slip10Shift
import Iota.Proofs.Slip10
import Iota.Proofs.Secp.Slip10Instance
import Iota.Proofs.Slip10Commute
import Iota.Proofs.Slip10NonVacuity
import Mathlib.Data.ZMod.Basic

namespace Iota.Props.C08
open Iota.Slip10 Iota.Proofs.Slip10Shift

variable {Pt : Type} [AddCommGroup Pt]

/-- for every private key 0 < k < n and every shift (including 0, k itself, n − k, values ≥ n): shifting the
private key and shifting its public key either both report an invalid key — exactly when the shift is ≥ n or
k + shift ≡ 0 mod n — or both succeed with matching results. -/
theorem shift_commutes (w : WCurve Pt) (g : Pt) (hw : LawfulW w g) (hk : Bytes) (k : Nat)
    (hk0 : 0 < k) (hkn : k < w.n) (hn : w.n < 256 ^ 40) (buf : Bytes) :
    let c := wCurve w hk
    (beNat buf ≥ w.n ∨ (beNat buf + k) % w.n = 0 →
      c.shift (.priv k) buf = .error .invalidKey ∧ c.shift (c.pub (.priv k)) buf = .error .invalidKey) ∧
    (¬ (beNat buf ≥ w.n ∨ (beNat buf + k) % w.n = 0) →
      ∃ k' q, c.shift (.priv k) buf = .ok (.priv k') ∧ c.shift (c.pub (.priv k)) buf = .ok (.pub q) ∧
        0 < k' ∧ k' < w.n ∧ c.pub (.priv k') = .pub q) :=
  Proofs.Slip10Shift.shift_commutes w g hw hk k (hkn.trans hn) hn buf

/-- **secp256k1, unconditionally**: the same statement for the curve whose `add` / `baseMul` / `isInfinity` run the
model of pkg/slip10/btccurve on canonical coordinates — no hypothesis about the group. -/
theorem shift_commutes_secp256k1 (hk : Bytes) (k : Nat) (hk0 : 0 < k)
    (hkn : k < Iota.Secp256k1.N.toNat) (buf : Bytes) :
    let c := wCurve Iota.Proofs.Secp.secpW hk
    (beNat buf ≥ Iota.Proofs.Secp.secpW.n ∨ (beNat buf + k) % Iota.Proofs.Secp.secpW.n = 0 →
      c.shift (.priv k) buf = .error .invalidKey ∧ c.shift (c.pub (.priv k)) buf = .error .invalidKey) ∧
    (¬ (beNat buf ≥ Iota.Proofs.Secp.secpW.n ∨ (beNat buf + k) % Iota.Proofs.Secp.secpW.n = 0) →
      ∃ k' q, c.shift (.priv k) buf = .ok (.priv k') ∧ c.shift (c.pub (.priv k)) buf = .ok (.pub q) ∧
        0 < k' ∧ k' < Iota.Proofs.Secp.secpW.n ∧ c.pub (.priv k') = .pub q) :=
  Iota.Proofs.Secp.shift_commutes_secp256k1 hk k hk0 hkn buf

/-- the hypothesis `LawfulW` holds for that curve. -/
theorem secp256k1_is_lawful : LawfulW Iota.Proofs.Secp.secpW (Iota.Proofs.Secp.G Iota.Proofs.Secp.Fp) :=
  Iota.Proofs.Secp.secpW_lawful

/-- **the API-level statement**: for a private parent with 0 < k < n and a non-hardened index, deriving the child and
then taking its public version gives the same observable result as deriving from the public version of the parent —
the same key, serialized key bytes, chain code and fingerprint (`observe`), or the SAME error, including running out
of fuel after the same number of retries: the two retry loops stay in lock-step because both sides reject exactly the
same candidates (`shift_commutes` at every candidate).  (The unexported `parent` field differs — Go's `Public()`
keeps the parent's private key there, `DeriveChild` on a public parent stores its public key — but it is read only
through `parent.Public().Bytes()` in `Fingerprint`; `pubView`/`observe` make that precise.) -/
theorem public_of_child_eq_child_of_public (hmac : Bytes → Bytes → Bytes) (w : WCurve Pt) (g : Pt) (hw : LawfulW w g)
    (hk : Bytes) (hash160 : Bytes → Bytes) (e : ExtKey (WKey Pt)) (k : Nat) (hek : e.key = .priv k) (hk0 : 0 < k)
    (hkn : k < w.n) (hn : w.n < 256 ^ 40) (i : Nat) (hi : i < hardened) (fuel : Nat) :
    (deriveChild hmac (wCurve w hk) fuel e i).map
        (fun a => Iota.Proofs.Slip10Commute.observe (wCurve w hk) hash160 (ExtKey.public (wCurve w hk) a)) =
      (deriveChild hmac (wCurve w hk) fuel (ExtKey.public (wCurve w hk) e) i).map
        (Iota.Proofs.Slip10Commute.observe (wCurve w hk) hash160) :=
  Iota.Proofs.Slip10Commute.deriveChild_public_commutes_observable hmac w g hw hk hash160 e k hek (hkn.trans hn) hn i hi
    fuel

/-- **secp256k1, unconditionally**, with the real SEC1 compressed serialisation of the public key (`secpW'`):
no hypothesis about the group. -/
theorem public_of_child_eq_child_of_public_secp256k1 (hmac : Bytes → Bytes → Bytes) (hk : Bytes)
    (hash160 : Bytes → Bytes) (e : ExtKey (WKey Iota.Proofs.Secp.Curve.Point)) (k : Nat) (hek : e.key = .priv k)
    (hk0 : 0 < k) (hkn : k < Iota.Secp256k1.N.toNat) (i : Nat) (hi : i < hardened) (fuel : Nat) :
    (deriveChild hmac (wCurve Iota.Proofs.Slip10Commute.secpW' hk) fuel e i).map
        (fun a => Iota.Proofs.Slip10Commute.observe (wCurve Iota.Proofs.Slip10Commute.secpW' hk) hash160
          (ExtKey.public (wCurve Iota.Proofs.Slip10Commute.secpW' hk) a)) =
      (deriveChild hmac (wCurve Iota.Proofs.Slip10Commute.secpW' hk) fuel
          (ExtKey.public (wCurve Iota.Proofs.Slip10Commute.secpW' hk) e) i).map
        (Iota.Proofs.Slip10Commute.observe (wCurve Iota.Proofs.Slip10Commute.secpW' hk) hash160) :=
  Iota.Proofs.Slip10Commute.deriveChild_public_commutes_observable hmac _ _ Iota.Proofs.Slip10Commute.secpW'_lawful hk
    hash160 e k hek (hkn.trans Iota.Proofs.Secp.secpW_n_lt) Iota.Proofs.Secp.secpW_n_lt i hi fuel

/-- both sides feed the same HMAC input for a non-hardened index (the parent's public key bytes), whatever
the curve: the candidate sequence I, I', … is the same on the private and on the public side. -/
theorem same_hmac_input {κ : Type} (hmac : Bytes → Bytes → Bytes) (c : Curve κ) (hpp : ∀ k, c.pub (c.pub k) = c.pub k)
    (fuel : Nat) (e : ExtKey κ) (i : Nat) (hi : i < hardened)
    (hh : c.hardenedOnly e.key = false) (hh' : c.hardenedOnly (c.pub e.key) = false) :
    ∃ inter, deriveChild hmac c fuel e i = childLoop hmac c e i fuel inter ∧
      deriveChild hmac c fuel (ExtKey.public c e) i = childLoop hmac c (ExtKey.public c e) i fuel inter := by
  refine ⟨hmac e.chainCode (c.bytes (c.pub e.key) ++ ser32 i), ?_, ?_⟩
  · exact Proofs.Slip10.deriveChild_normal hmac c fuel e i hi hh
  · have := Proofs.Slip10.deriveChild_normal hmac c fuel (ExtKey.public c e) i hi hh'
    simpa [ExtKey.public, hpp] using this

/-- the fingerprint of a child is the same on both sides (it only depends on the parent's public key). -/
theorem same_fingerprint {κ : Type} (c : Curve κ) (hpp : ∀ k, c.pub (c.pub k) = c.pub k) (hash160 : Bytes → Bytes)
    (cc cc' : Bytes) (k k' parent : κ) :
    fingerprint c hash160 { chainCode := cc, key := k, parent := some parent } =
    fingerprint c hash160 { chainCode := cc', key := k', parent := some (c.pub parent) } := by
  simp [fingerprint, hpp]

/-! ### non-vacuity: ℤ/7 with generator 1 satisfies `LawfulW` -/
def toyW : WCurve (ZMod 7) where
  n := 7
  baseMul := fun k => (beNat k) • (1 : ZMod 7)
  add := (· + ·)
  isInfinity := fun a => decide (a = 0)
  compress := fun _ => []

example : LawfulW toyW (1 : ZMod 7) where
  add_eq := fun _ _ => rfl
  baseMul_eq := fun _ => rfl
  inf_iff := fun a => by simp [toyW]
  order := by simp [toyW, ZMod.addOrderOf_one]
  n_pos := by decide

end Iota.Props.C08
