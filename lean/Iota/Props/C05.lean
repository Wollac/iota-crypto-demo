/- C05 — Bech32 Encode is BIP-173 conformant and Decode inverts it. -/
import Iota.Proofs.Bech32

namespace Iota.Props.C05
open Iota.Bech32 Iota.Spec.Bip173 Iota.Proofs.Bech32

/-- `Encode` succeeds exactly for a non-empty, single-case, printable-ASCII prefix that fits together with
the data in 90 characters, and then returns exactly the BIP-173 string `encSpec`: bytes regrouped into
5-bit symbols with zero padding (`to5`), six checksum symbols over the lower-cased prefix, the whole
string in the prefix's case. -/
theorem encode_ok_iff (hrp : Str) (src : List UInt8) (r : Str) :
    encode hrp src = .ok r ↔ EncPre hrp src ∧ r = encSpec hrp src :=
  Proofs.Bech32.encode_ok_iff hrp src r

/-- the six checksum symbols are the unique ones that make the BIP-173 checksum verify. -/
theorem checksum_verifies (hrp : Str) (data : List UInt8) :
    polymod (hrpExpand hrp ++ (data ++ createChecksum hrp data)) = 1 := by
  have := verify_create hrp data
  unfold verifyChecksum at this
  simpa using this

theorem checksum_is_unique (hrp : Str) (data cs : List UInt8) (hlen : cs.length = 6)
    (hlt : ∀ c ∈ cs, c.toNat < 32) (hv : polymod (hrpExpand hrp ++ (data ++ cs)) = 1) :
    cs = createChecksum hrp data :=
  checksum_unique hrp data cs hlen hlt (by unfold verifyChecksum; rw [hv]; rfl)

/-- `Decode` of the result returns the lower-cased prefix and the original bytes. -/
theorem decode_encode (hrp : Str) (src : List UInt8) (r : Str) (h : encode hrp src = .ok r) :
    decode r = .ok (lower hrp, src) :=
  Proofs.Bech32.decode_encode hrp src r h

/-- an empty, mixed-case, non-printable or over-long input yields an error and never a string. -/
theorem encode_error_otherwise (hrp : Str) (src : List UInt8) (h : ¬ EncPre hrp src) :
    ∃ e, encode hrp src = .error e := by
  cases he : encode hrp src with
  | error e => exact ⟨e, rfl⟩
  | ok r => exact absurd ((encode_ok_iff hrp src r).mp he).1 h

theorem encode_empty_hrp (src : List UInt8) : ∃ e, encode [] src = .error e :=
  encode_error_otherwise [] src (fun h => h.2.1 rfl)

theorem encode_too_long (hrp : Str) (src : List UInt8) (h : 90 < hrp.length + symCount src.length + 7) :
    ∃ e, encode hrp src = .error e :=
  encode_error_otherwise hrp src (fun hp => by have := hp.1; omega)

theorem encode_mixed_case (hrp : Str) (src : List UInt8) (h : hasUpper hrp ∧ hasLower hrp) :
    ∃ e, encode hrp src = .error e :=
  encode_error_otherwise hrp src (fun hp => hp.2.2.2 h)

theorem encode_non_printable (hrp : Str) (src : List UInt8) (c : UInt8) (hc : c ∈ hrp)
    (h : c.toNat < 33 ∨ 126 < c.toNat) : ∃ e, encode hrp src = .error e :=
  encode_error_otherwise hrp src (fun hp => by have := hp.2.2.1 c hc; omega)

/-! ### non-vacuity -/
-- Encode("a", []) = "a12uel5l", Encode("A", []) = "A12UEL5L"
example : encode [97] [] = .ok [97,49,50,117,101,108,53,108] := by decide +kernel
example : encode [65] [] = .ok [65,49,50,85,69,76,53,76] := by decide +kernel
example : EncPre [97] [] := ⟨by decide, by decide, by decide, by
  rintro ⟨⟨c, hc, hu⟩, _⟩; simp at hc; subst hc; revert hu; decide⟩
-- one byte: two symbols, the second carries two zero padding bits
example : to5 [0xff] = [31, 28] := by decide +kernel

end Iota.Props.C05
