/-
C11 — PoW (v1) nonces returned by Mine meet the requested score.  *Partial by construction*:
the score is the IEEE-754 value `math.Pow(3, z) / float64(len)`; Lean's `Float` is opaque to the
kernel, so the float enters as an abstract ordered type with a monotone score function
(`sc : Nat → F`).  Monotonicity of the real expression is checked exhaustively (z = 0…243) by the
correspondence run for every length it uses.  What is proved: the bit-plane lane test is exact,
and mining with the least sufficient zero count (which is what `Mine` computes, with the
same expression as Score) returns only nonces whose score meets the target and never passes one over.
-/
import Iota.Proofs.Pow
import Iota.Proofs.PowScore

namespace Iota.Props.C11
open Iota.Pow Iota.Proofs.Pow

/-- the lane test returns the first lane with at least n trailing zero trits, for all bit planes. -/
theorem lane_test_exact (l h : Planes) (n i : Nat) (hn : n ≤ 243) (hc : checkV1 l h n = i) :
    i ≤ 64 ∧
    (i < 64 → trailingZeros (laneTrits l h i) ≥ n ∧ ∀ j, j < i → ¬ trailingZeros (laneTrits l h j) ≥ n) ∧
    (i = 64 → ∀ j, j < 64 → ¬ trailingZeros (laneTrits l h j) ≥ n) :=
  hc ▸ checkV1_spec l h n hn

/-- soundness of the returned nonce, for any monotone score. -/
theorem returned_nonce_meets_target {F : Type} [LE F] (le_trans : ∀ a b c : F, a ≤ b → b ≤ c → a ≤ c)
    (sc : Nat → F) (mono : ∀ a b, a ≤ b → sc a ≤ sc b) (target : F) (req : Nat) (hreq : req ≤ 243)
    (hsat : target ≤ sc req) (l h : Planes) (hacc : checkV1 l h req < 64) :
    target ≤ sc (trailingZeros (laneTrits l h (checkV1 l h req))) :=
  checkV1_mine_sound le_trans sc mono target req hreq hsat l h hacc

/-- single worker, with `req` the least zero count whose score reaches the target (0 for every target
that any nonce satisfies — so trivially low targets are served by the very first nonce). -/
theorem single_worker_mining {F : Type} [LE F] (le_trans : ∀ a b c : F, a ≤ b → b ≤ c → a ≤ c)
    (sc : Nat → F) (mono : ∀ a b, a ≤ b → sc a ≤ sc b) (target : F) (req : Nat) (hreq : req ≤ 243)
    (hsat : target ≤ sc req) (hleast : ∀ z, z < req → ¬ target ≤ sc z)
    (planes : Nat → Planes × Planes) (fuel k b i : Nat)
    (hm : mineSeq (fun l h => checkV1 l h req) planes fuel k = some (b, i)) :
    k ≤ b ∧ i < 64 ∧ target ≤ sc (trailingZeros (laneTrits (planes b).1 (planes b).2 i)) ∧
    ∀ b', k ≤ b' → b' < b → ∀ j, j < 64 → ¬ target ≤ sc (trailingZeros (laneTrits (planes b').1 (planes b').2 j)) :=
  mineSeq_v1 le_trans sc mono target req hreq hsat hleast planes fuel k b i hm

/-- with zero required zeros every lane qualifies: lane 0 of the first block is returned (no crash, no search). -/
theorem trivially_low_target (l h : Planes) : checkV1 l h 0 = 0 :=
  checkV1_eq_zero (Nat.zero_le _) (Nat.zero_le _)

/-! ### up to `Score(data ‖ nonce)` (see the corresponding section of Props/C12.lean for the modelling and the one
hypothesis `BctFaithful` about the external batched sponge) -/
open Iota.PowScore Iota.Proofs.PowScore in
/-- a nonce returned by a v1 worker started anywhere is the FIRST nonce in its scan order whose hash has at least z
trailing zero trits … -/
theorem worker_returns_first_qualifying (slice : (Fin 64 → List Int) → Planes × Planes) (hslice : BctFaithful slice)
    (digest : List UInt8) (start fuel z n : Nat) (hz : z ≤ 243)
    (hw : worker slice (testV1 z) digest start fuel = some n) :
    ∃ k, k < 64 * fuel ∧ n = (start + k) % 2 ^ 64 ∧ z ≤ trailingZeros (hashTrits digest n) ∧
      ∀ k', k' < k → ¬ z ≤ trailingZeros (hashTrits digest ((start + k') % 2 ^ 64)) :=
  worker_v1 slice hslice digest start fuel z n hz hw

open Iota.PowScore Iota.Proofs.PowScore in
/-- … hence, for any monotone score (the abstraction of `math.Pow(3, z)/len`), `Score(data ‖ nonce) ≥ target` whenever the
required zero count z satisfies `target ≤ sc z` (which is how `Mine` chooses z). -/
theorem returned_nonce_scores {F : Type} [LE F] (le_trans : ∀ a b c : F, a ≤ b → b ≤ c → a ≤ c)
    (sc : Nat → Nat → F) (mono : ∀ len a b, a ≤ b → sc len a ≤ sc len b)
    (slice : (Fin 64 → List Int) → Planes × Planes) (hslice : BctFaithful slice)
    (H : List UInt8 → List UInt8) (data : List UInt8) (target : F) (z start fuel n : Nat) (hz : z ≤ 243)
    (hsat : target ≤ sc (data.length + 8) z)
    (hw : worker slice (testV1 z) (H data) start fuel = some n) :
    target ≤ ScoreV1 sc H data n ∧ target ≤ ScoreMsgV1 sc H (data ++ nonceBytes n) :=
  mine_v1_score le_trans sc mono slice hslice H data target z start fuel n hz hsat hw

/-! ### non-vacuity -/
example : trailingZeros [1, 0, -1, 0, 0] = 2 ∧ trailingZeros [0, 0] = 2 ∧ trailingZeros [0, 1] = 0 := by decide
example : checkV1 (Vector.replicate 243 allOnes) (Vector.replicate 243 allOnes) 243 = 0 := checkV1_same _ _

end Iota.Props.C11
