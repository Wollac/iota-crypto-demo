/-
C06 — batched Curl equals independent Curl-P-81 sponges, lane by lane.
Model: Iota/Model/Curl.lean (the Go code, with every array access bounds-checked);
specification: Iota/Spec/CurlP.lean (trit-level Curl-P-81, single lane).
Proofs: Iota/Proofs/Curl/*.  `Clone` is the identity on the model's immutable values (Go copies
the two arrays by value: `clone_continues_identically`); that clones do not alias is observed by the
correspondence run (clone scenarios) and by the pinned text of `Clone`.
-/
import Iota.Proofs.Curl

namespace Iota.Props.C06
open Iota.Curl Iota.Spec.CurlP Iota.Spec.CurlW Iota.Proofs.Curl

/-- the Go permutation loop never indexes out of range and equals 81 applications of the closed-form
round `new[i] = sBox(old[364·i mod 729], old[364·(i+1) mod 729])` (64 lanes at once). -/
theorem transformGeneric_closed_form (b : Bufs) :
    transformGeneric b = some
      { lto := (roundsW 81 (b.lfrom, b.hfrom)).1, hto := (roundsW 81 (b.lfrom, b.hfrom)).2,
        lfrom := (roundsW 80 (b.lfrom, b.hfrom)).1, hfrom := (roundsW 80 (b.lfrom, b.hfrom)).2 } :=
  transformGeneric_eq b

/-- on valid encodings every lane of `transform` is the Curl-P-81 permutation of that lane alone,
and validity is preserved. -/
theorem transform_lane_by_lane (c : Curl) (hv : ValidEnc c.l c.h) :
    ∃ c', c.transform = some c' ∧ c'.direction = c.direction ∧ ValidEnc c'.l c'.h ∧
      ∀ j, j < 64 → laneState c'.l c'.h j = Spec.CurlP.transform (laneState c.l c.h j) :=
  transform_lanes c hv

/-- the bit-sliced s-box is the Curl-P truth table on the three valid encodings of a trit. -/
theorem sbox_is_truth_table (a b : Bool × Bool) (ha : validPair a) (hb : validPair b) :
    validPair (fPair a b) ∧ tritOf (fPair a b) = f (tritOf a) (tritOf b) :=
  fPair_valid a b ha hb

/-- **every history**: from a fresh instance, any sequence of Absorb / Squeeze / Reset calls that
respects the documented preconditions produces exactly the observations (squeezed trits, returned
errors) of 64 independent specification sponges fed the lanes' own inputs — and never panics. -/
theorem history_simulation (ops : List Op) (hwf : WF false ops) :
    run Curl.init ops = specRun (fun _ => Spec.CurlP.Sponge.init) ops ∧ Ev.panic ∉ run Curl.init ops :=
  ⟨run_init_eq ops hwf, by rw [run_init_eq ops hwf]; exact specRun_no_panic ops _⟩

/-- lane `j`'s outputs are those of the single-lane Curl-P-81 sponge applied to lane `j`'s input alone
(zero blocks where the batch was shorter) … -/
theorem lane_equals_single_sponge (ops : List Op) (hwf : WF false ops) (j : Nat) :
    laneOuts j (run Curl.init ops) = laneRun Spec.CurlP.Sponge.init (ops.map (proj j)) := by
  rw [run_init_eq ops hwf, specRun_lane]

/-- … so no lane influences another. -/
theorem no_lane_influences_another (ops ops' : List Op) (hwf : WF false ops) (hwf' : WF false ops') (j : Nat)
    (hagree : ops.map (proj j) = ops'.map (proj j)) :
    laneOuts j (run Curl.init ops) = laneOuts j (run Curl.init ops') := by
  rw [lane_equals_single_sponge ops hwf, lane_equals_single_sponge ops' hwf', hagree]

/-- calls rejected with an error leave the state untouched: an `.err` outcome carries no new state and
`run` continues from the old one; these are exactly the rejected calls. -/
theorem absorb_rejects_batch (c : Curl) (src : List (List Int)) (n : Nat) (h : src.length < 1 ∨ src.length > 64) :
    c.absorb src n = .err .invalidBatchSize := absorb_err_batch c src n h
theorem squeeze_rejects_batch (c : Curl) (lanes n : Nat) (h : lanes < 1 ∨ lanes > 64) :
    c.squeeze lanes n = .err .invalidBatchSize := squeeze_err_batch c lanes n h

/-- `Squeeze` never panics, in any state (`Absorb` does: after a squeeze, or on a lane shorter than `tritsCount`;
see `Curl.absorb` in Iota/Model/Curl.lean). -/
theorem squeeze_never_panics (c : Curl) (lanes n : Nat) : c.squeeze lanes n ≠ .panic := by
  unfold Curl.squeeze
  split
  · exact nofun
  · split
    · exact nofun
    · split
      · exact nofun
      · next h => exact absurd h (squeezeBlocks_ne_none _ _ _ _)

/-- `Reset` returns the instance to its initial state (`run` restarts from `Curl.init`), which simulates
64 fresh sponges. -/
theorem reset_is_init : Sim Curl.init (fun _ => Spec.CurlP.Sponge.init) := sim_init

/-- `Clone` copies all three fields, so the clone IS the original as a value: every continuation of the clone
produces what the same continuation of the original produces, and (values being immutable) nothing done to the one
is visible on the other.  What this theorem cannot see is aliasing in the Go struct copy; arrays are values in Go,
the text of `Clone` is pinned (Tie/Curl) and clone-and-continue histories run in the correspondence. -/
theorem clone_continues_identically (c : Curl) (ops : List Op) :
    c.clone = c ∧ run c.clone ops = run c ops ∧ c.copyState = (c.l, c.h) := ⟨rfl, rfl, rfl⟩

/-! ### non-vacuity -/
example : WF false [.absorb [[1, 0, -1]] 0, .squeeze 2 486, .reset, .squeeze 65 243, .squeeze 1 243] := by
  refine ⟨rfl, ?_, trivial⟩
  intro lane hl; exact Nat.zero_le _
example : validPair (true, true) ∧ tritOf (true, true) = 0 ∧ tritOf (false, true) = 1 ∧ tritOf (true, false) = -1 := by
  decide

end Iota.Props.C06
