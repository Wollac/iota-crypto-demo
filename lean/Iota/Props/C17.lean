/-
C17 — the secp256k1 curve implements the group law for all points and scalars.
Model: Iota/Model/Secp256k1.lean (the Go `math/big` code on `Int`, with every `Mod`, conditional `+P`
and the special cases of the addition, which the Go code has since fix F6).  Specification: Mathlib's group of nonsingular points of
the Weierstrass curve y² = x³ + 7 over `ZMod P` (`WeierstrassCurve.Affine.Point`, an `AddCommGroup`).
There is NO assumption: that P = 2^256 − 2^32 − 977 is prime — which makes `ZMod P` a field — is itself proved
(`Iota/Proofs/Primes.lean`: Pratt certificates through Mathlib's `lucas_primality`, every numeric side condition
evaluated by the kernel), and so are the primality of the group order N and that the base point has order
exactly N (`Iota/Proofs/Secp/Order.lean`: `[N]G = 0` by kernel evaluation of the model's own double-and-add).
Proofs: Iota/Proofs/Secp/* (modular inverse, ring-hom layer, Jacobian formulas incl. all special cases, API).
-/
import Iota.Proofs.Secp
import Iota.Proofs.Primes
import Iota.Proofs.Secp.Order

namespace Iota.Props.C17
open Iota.Secp256k1 Iota.Proofs.Secp WeierstrassCurve.Affine

-- `Fact (Nat.Prime P.toNat)` is the global instance of Iota/Proofs/Primes.lean: none of the theorems below has a hypothesis about P.

/-- the points the API talks about: `(0,0)` is the identity (as crypto/elliptic prescribes); otherwise
coordinates in `[0, P)` on the curve. -/
theorem representable_iff (x y : Int) :
    (∃ Q, toPoint (x, y) = some Q) ↔
      (x = 0 ∧ y = 0) ∨ ((0 ≤ x ∧ x < P) ∧ (0 ≤ y ∧ y < P) ∧ isOnCurve x y = true) :=
  (Iota.Proofs.Secp.representable_iff (F := Fp) x y).symm

/-- `Add` returns the group sum for ALL points P, Q — including P = Q, P = −Q and the identity —
without panicking (`some`), with a representable result. -/
theorem add_is_group_add {x1 y1 x2 y2 : Int} {Q1 Q2 : Curve.Point}
    (h1 : toPoint (x1, y1) = some Q1) (h2 : toPoint (x2, y2) = some Q2) :
    ∃ x3 y3, add x1 y1 x2 y2 = some (x3, y3) ∧ toPoint (x3, y3) = some (Q1 + Q2) :=
  add_correct h1 h2

theorem double_is_group_double {x y : Int} {Q : Curve.Point} (h : toPoint (x, y) = some Q) :
    ∃ x3 y3, double x y = some (x3, y3) ∧ toPoint (x3, y3) = some (Q + Q) :=
  double_correct h

/-- `ScalarMult` returns the corresponding multiple for EVERY scalar byte string (zero, values at or above
the group order, any length, leading zeros) and every base point including the identity. -/
theorem scalarMult_is_nsmul {x y : Int} {Q : Curve.Point} (h : toPoint (x, y) = some Q) (k : List UInt8) :
    ∃ x' y', scalarMult x y k = some (x', y') ∧ toPoint (x', y') = some (beNat k • Q) :=
  scalarMult_correct h k

theorem scalarBaseMult_is_nsmul (k : List UInt8) :
    ∃ x' y', scalarBaseMult k = some (x', y') ∧ toPoint (x', y') = some (beNat k • G Fp) :=
  scalarBaseMult_correct k

/-- the identity is returned as `(0,0)` and only the identity is. -/
theorem identity_is_zero_zero (x y : Int) : toPoint (x, y) = some 0 ↔ x = 0 ∧ y = 0 :=
  toPoint_eq_zero_iff x y

/-- results are determined by the group element and have coordinates in `[0, P)`. -/
theorem results_canonical {x y x' y' : Int} {Q : Curve.Point} (h : toPoint (x, y) = some Q)
    (h' : toPoint (x', y') = some Q) : x = x' ∧ y = y' := toPoint_inj h h'

theorem results_reduced {x y : Int} {Q : Curve.Point} (h : toPoint (x, y) = some Q) :
    (0 ≤ x ∧ x < P) ∧ (0 ≤ y ∧ y < P) := by
  rw [toPoint, toPoint?_eq_some_iff] at h; exact h.red

/-- for all integers — hence for coordinates in `[0, p)` — `IsOnCurve` holds exactly for the affine
solutions of y² = x³ + 7; `(0,0)` is not one. -/
theorem isOnCurve_iff (x y : Int) : isOnCurve x y = true ↔ (y : Fp) ^ 2 = (x : Fp) ^ 3 + 7 :=
  Iota.Proofs.Secp.isOnCurve_iff x y

/-- the modular inverse used by the conversion back to affine coordinates never fails on a nonzero z. -/
theorem mod_inverse_total (g : Int) (hg : g % P ≠ 0) :
    ∃ zi, modInverse g P = some zi ∧ 0 ≤ zi ∧ zi < P ∧ (zi * g) % P = 1 :=
  modInverse_prime P_pos P_lt Fact.out hg

/-- P and N are prime, and the base point generates a group of order exactly N. -/
theorem constants_prime : Nat.Prime P.toNat ∧ Nat.Prime N.toNat := ⟨Iota.Proofs.Primes.prime_P, Iota.Proofs.Primes.prime_N⟩

theorem base_point_order : N.toNat • G Fp = 0 ∧ G Fp ≠ 0 ∧ addOrderOf (G Fp) = N.toNat :=
  ⟨N_smul_G, G_ne_zero, addOrderOf_G⟩

/-! ### non-vacuity -/
example : isOnCurve Gx Gy = true ∧ isOnCurve 0 0 = false := by decide +kernel
example : toPoint (Gx, Gy) = some (G Fp) := toPoint_G

end Iota.Props.C17
