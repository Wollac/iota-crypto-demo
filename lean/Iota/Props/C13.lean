/-
C13 — PoW `Mine` terminates, honours cancellation and is race- and leak-free.

Model: `Iota/Model/Mine.lean`, the transition system of one `Mine` call (both PoW versions share it,
`Iota/Tie/C13.lean`), for an arbitrary worker count `W ≥ 1` (`New` forces `numWorkers ≥ 1`).  A state
is reachable if some sequence of labelled steps leads to it from `init W`: every interleaving of the
caller, the watcher, the `W` workers and the environment's `cancel`, every batch outcome (any worker
may or may not find a nonce in any batch), every cancellation instant (before the call: `cancel` first).
Proofs: `Iota/Proofs/Mine/*` (inductive invariant `Inv`, ranking function `measure`).

What the theorems carry: safety for all schedules, absence of deadlock, bounded drain after the flag is
set, the cancellation path staying enabled until taken, and nothing left running at return.
What they cannot exhibit (runtime, see DESIGN.md): the Go scheduler's fairness and real time ("a short
bounded time" is a bounded number of steps here: at most one batch per worker plus `5W+9` steps), and
the Go memory model itself — race freedom is carried as "every shared access is one atomic step of the
model" plus the tie that the only shared variables are the atomics, the channels and the WaitGroup.
-/
import Iota.Proofs.Mine

namespace Iota.Props.C13
open Iota.Mine Iota.Proofs.Mine

/-- **outcome**: whatever `Mine` returns, under every schedule: the cancellation error only if the
context was cancelled; a nonce only if some worker's lane test returned it (that such a nonce meets
the target is C11 / C12). -/
theorem outcome {W : Nat} (hW : 1 ≤ W) {s : State} (h : Reachable W s) :
    (s.main = .returned none → s.ctx = true) ∧
    (∀ n, s.main = .returned (some n) → n ∈ s.founds) :=
  ⟨(Inv_of_reachable hW h).ret_none, (Inv_of_reachable hW h).ret_founds⟩

/-- **a finder never blocks**: whenever a worker is about to send its nonce the channel has room and
is still open, so the send is enabled (all `W` workers may find at once). -/
theorem finder_never_blocks {W : Nat} (hW : 1 ≤ W) {s : State} (h : Reachable W s) {i n : Nat} (hi : i < W)
    (hw : s.workers.getD i .idle = .send n) :
    (s.results.length < W ∧ s.resultsClosed = false) ∧ ∀ o, ∃ s', step W s (.worker i o) = some s' :=
  ⟨(Inv_of_reachable hW h).send_free hi hw, (Inv_of_reachable hW h).send_enabled hi hw⟩

/-- **no deadlock**: in every reachable state in which `Mine` has not returned, some thread of the
call itself (not the environment) can take a step. -/
theorem no_deadlock {W : Nat} (hW : 1 ≤ W) {s : State} (h : Reachable W s) (hr : ∀ r, s.main ≠ .returned r) :
    ∃ l s', l ≠ .cancel ∧ step W s l = some s' :=
  (Inv_of_reachable hW h).progress hr

/-- **termination once the flag is set or the join is passed**: every step of the call strictly
decreases `measure ≤ 5W + 9`; hence any continuation consists of at most `5W + 9` steps, and by
`no_deadlock` it can only stop in `returned`.  (Before that, a worker that has read `done = 0` hashes one
more batch: at most one batch per worker separates setting the flag from this bound.) -/
theorem bounded_drain {W : Nat} (hW : 1 ≤ W) {s : State} (h : Reachable W s) :
    (s.done = true → ∀ l s', l ≠ .cancel → step W s l = some s' → measure W s' < measure W s) ∧
    (s.main = .closeResults ∨ s.main = .closeClosing ∨ s.main = .recv →
      ∀ l s', l ≠ .cancel → step W s l = some s' → measure W s' < measure W s) ∧
    measure W s ≤ 5 * W + 9 ∧
    (s.done = true ∨ pastWait s.main = true → ∀ ls s', run W s ls = some s' →
      (ls.filter (fun l => l ≠ .cancel)).length + measure W s' ≤ measure W s) :=
  have hI := Inv_of_reachable hW h
  ⟨fun hd _ _ hl hs => hI.measure_decreases (Or.inl hd) hl hs,
   fun hm _ _ hl hs => hI.measure_decreases (Or.inr (by rcases hm with hm | hm | hm <;> rw [hm] <;> rfl)) hl hs,
   hI.measure_le, fun hd ls _ hr => M6e_run_bound hW ls h hd hr⟩

theorem reachable_run {W : Nat} {s s' : State} (h : Reachable W s) (ls : List Label)
    (hr : run W s ls = some s') : Reachable W s' := by
  obtain ⟨l0, h0⟩ := h
  exact ⟨l0 ++ ls, by rw [run_append, h0]; exact hr⟩

/-- **termination, put together**: from any reachable state with the flag set (a nonce was found or the
watcher saw the cancellation) or with the join passed, EVERY continuation — whatever the scheduler does —
consists of at most `5W + 9` steps of the call's own threads, and a continuation that cannot be extended
by any such step has ended in `Mine` having returned. So under any scheduler that keeps running enabled
goroutines, `Mine` returns after a bounded number of steps; no fairness between particular goroutines is
needed in this phase. -/
theorem terminates_once_draining {W : Nat} (hW : 1 ≤ W) {s : State} (h : Reachable W s)
    (hd : s.done = true ∨ pastWait s.main = true) (ls : List Label) (s' : State)
    (hr : run W s ls = some s') :
    (ls.filter (fun l => l ≠ .cancel)).length ≤ 5 * W + 9 ∧
    ((∀ l s'', l ≠ .cancel → step W s' l ≠ some s'') → ∃ r, s'.main = .returned r) := by
  constructor
  · have := M6e_run_bound hW ls h hd hr
    have := (Inv_of_reachable hW h).measure_le
    omega
  · intro hstuck
    have hreach := reachable_run h ls hr
    apply Classical.byContradiction
    intro hne
    have hnr : ∀ r, s'.main ≠ .returned r := fun r hr' => hne ⟨r, hr'⟩
    obtain ⟨l, s'', hl, hs⟩ := (Inv_of_reachable hW hreach).progress hnr
    exact hstuck l s'' hl hs

/-- **cancellation is honoured**: in every reachable state with the context cancelled, the flag not yet
set and `Mine` not returned, the watcher's next step towards setting the flag is enabled (or the watcher
is about to be started, or the call is already past the join and about to return). -/
theorem cancellation_honoured {W : Nat} (hW : 1 ≤ W) {s : State} (h : Reachable W s)
    (hc : s.ctx = true) (hd : s.done = false) (hr : ∀ r, s.main ≠ .returned r) :
    (s.watcher = .select ∧ ∃ s', step W s .watcherCtx = some s' ∧ s'.watcher = .store) ∨
    (s.watcher = .store ∧ ∃ s', step W s .watcherStore = some s' ∧ s'.done = true) ∨
    (s.main = .start ∧ ∃ s', step W s .main = some s' ∧ s'.watcher = .select) ∨
    (s.main = .recv ∧ s.watcher = .exited ∧ s.closingClosed = true) :=
  (Inv_of_reachable hW h).cancel_honoured hc hd hr

/-- **nothing is left behind**: when `Mine` has returned every worker goroutine has exited, the
WaitGroup is at zero, and the watcher has exited or its one remaining step is enabled (the `closing`
channel is closed) and ends it. -/
theorem nothing_left_behind {W : Nat} (hW : 1 ≤ W) {s : State} (h : Reachable W s) {r : Option Nat}
    (hm : s.main = .returned r) :
    (∀ i, i < W → ∃ b, s.workers.getD i .idle = .exited b) ∧ s.wg = 0 ∧ s.closingClosed = true ∧
    (s.watcher = .exited ∨
      (s.watcher = .select ∧ ∃ s', step W s .watcherClosing = some s' ∧ s'.watcher = .exited) ∨
      (s.watcher = .store ∧ ∃ s', step W s .watcherStore = some s' ∧ s'.watcher = .exited)) :=
  (Inv_of_reachable hW h).nothing_left_behind hm

/-- **the invariant** behind all of the above is inductive (so it also covers every intermediate state
the trace validator of the correspondence run visits). -/
theorem invariant {W : Nat} (hW : 1 ≤ W) :
    Inv W (init W) ∧ (∀ s l s', Inv W s → step W s l = some s' → Inv W s') ∧
    (∀ s, Reachable W s → Inv W s) :=
  ⟨Inv_init W, fun _ _ _ hI h => Inv_step hW hI h, fun _ h => Inv_of_reachable hW h⟩

/-- **before the protocol**: a call that does not enter the protocol has started no goroutine; it returns the
cancellation error only once the context is cancelled (a target no hash can reach, v1), nonce 0 for the zero target
(v2), or panics in the caller for a target that overflows (v2, documented) — and a call with an attainable, valid
target enters the protocol the theorems above are about. -/
theorem preamble (ctx : Bool) :
    (∀ p, preambleResult ctx p = some (some none) → ctx = true) ∧
    preambleResult ctx (preambleV1 false) = (if ctx then some (some none) else none) ∧
    preambleV1 true = .protocol ∧
    preambleV2 true true = .trivial 0 ∧ preambleV2 false true = .protocol ∧
    preambleResult ctx (preambleV2 false false) = some none := by
  refine ⟨?_, ?_, rfl, rfl, rfl, rfl⟩
  · intro p h
    cases p <;> simp [preambleResult] at h
    exact h
  · simp [preambleV1, preambleResult]

/-! ### non-vacuity: complete runs for two workers -/
open Iota.Mine.Label in
example : (run 2 (init 2) runFound).map (·.main) = some (.returned (some 42)) ∧
    (run 2 (init 2) runCancelled).map (·.main) = some (.returned none) ∧
    (run 2 (init 2) runBothFind).map (fun s => (s.main, s.results)) = some (.returned (some 9), [7]) ∧
    (run 2 (init 2) runBothFindPrefix).map (·.workers) = some [.send 7, .send 9] := by decide
/-- the hypotheses of `cancellation_honoured` are met by a reachable state -/
example : ∃ s, run 2 (init 2) [.main, .main, .cancel] = some s ∧ s.ctx = true ∧ s.done = false ∧
    s.watcher = .select := by decide
/-- `W ≥ 1` is needed: without workers `Mine` would return the cancellation error uncancelled. -/
example : (run 0 (init 0) [.main, .main, .main, .main, .main, .main]).map (fun s => (s.main, s.ctx)) =
    some (.returned none, false) := by decide

end Iota.Props.C13
