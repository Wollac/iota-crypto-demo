/-
C03 — BIP-39 entropy and mnemonic sentences are exact inverses.
For every hash `H` with 32-byte output (SHA-256 in the code) and every list `W` of 2048 distinct
words — in particular the official English and Japanese lists (Iota/Spec/Bip39Words.lean).
-/
import Iota.Proofs.Bip39
import Iota.Proofs.WordLists

namespace Iota.Props.C03
open Iota.Bip39 Iota.Proofs.Bip39 Iota.Proofs.Digits

section
variable (H : Bytes → Bytes) (W : List Word)

/-- BIP-39 rule, positionally: the sentence consists of the words whose indices are the 3·ENT/32
base-2^11 digits (most significant first) of  entropy·2^(ENT/32) + (first ENT/32 bits of H(entropy)),
i.e. of the bit string "entropy followed by the checksum bits" cut into 11-bit groups. -/
theorem encode_is_bip39 (hH : ∀ x, (H x).length = 32) (e : Bytes) (hv : ValidLen e.length) :
    entropyToMnemonic H W e = .ok
      ((digs 2048 (3 * (e.length * 8) / 32)
          (setBytes e * 2 ^ (e.length * 8 / 32) + setBytes (H e) / 2 ^ (256 - e.length * 8 / 32))).map
        fun i => W.getD i []) := by
  have := encode_eq H hH W e hv
  unfold bigOf computeChecksum entropyBitsToWordCount at this
  rw [Nat.shiftRight_eq_div_pow] at this
  exact this

/-- … and `MnemonicToEntropy` of that sentence returns the same entropy. -/
theorem decode_encode (hH : ∀ x, (H x).length = 32) (hW : W.length = 2048) (hN : W.Nodup) (e : Bytes) (hv : ValidLen e.length) (ws : List Word)
    (henc : entropyToMnemonic H W e = .ok ws) : mnemonicToEntropy H W ws = .ok e :=
  Proofs.Bip39.decode_encode H hH W hW hN e hv ws henc

/-- every accepted sentence re-encodes to itself: acceptance ⇔ "is the encoding of its entropy". -/
theorem encode_decode (hH : ∀ x, (H x).length = 32) (hW : W.length = 2048) (hN : W.Nodup) (ws : List Word) (e : Bytes) (hdec : mnemonicToEntropy H W ws = .ok e) :
    entropyToMnemonic H W e = .ok ws :=
  Proofs.Bip39.encode_decode H hH W hW ws e hdec

/-- `MnemonicToEntropy` accepts a word sequence exactly when its length is 12…48 in steps of 3, every
word is in the list and the embedded checksum matches the checksum of the decoded entropy. -/
theorem decode_ok_iff (hH : ∀ x, (H x).length = 32) (hW : W.length = 2048) (hN : W.Nodup) (ws : List Word) (e : Bytes) :
    mnemonicToEntropy H W ws = .ok e ↔
      (ValidCount ws.length ∧ (∀ w ∈ ws, w ∈ W) ∧ ValidLen e.length ∧ entropyToMnemonic H W e = .ok ws) := by
  constructor
  · intro h
    have henc := encode_decode H W hH hW hN ws e h
    obtain ⟨hc, hm, _, _⟩ := decode_ok H W hW ws e h
    refine ⟨hc, hm, ?_, henc⟩
    exact Classical.byContradiction fun hv => by
      rw [encode_err H W e hv] at henc; simp at henc
  · rintro ⟨_, _, hv, henc⟩
    exact decode_encode H W hH hW hN e hv ws henc

/-- other entropy sizes are rejected with ErrInvalidEntropySize. -/
theorem encode_bad_size (e : Bytes) (hv : ¬ ValidLen e.length) :
    entropyToMnemonic H W e = .error .invalidEntropySize :=
  encode_err H W e hv

/-- wrong word counts and unknown words are rejected with ErrInvalidMnemonic (before any checksum work). -/
theorem decode_bad_count (ws : List Word) (h : ¬ ValidCount ws.length) :
    mnemonicToEntropy H W ws = .error .invalidMnemonic := by
  unfold mnemonicToEntropy
  simp only
  rw [if_pos (Classical.byContradiction fun hc => h ((validCount_iff ws.length).mp hc))]

theorem decode_unknown_word (ws : List Word) (hc : ValidCount ws.length) (w : Word) (hw : w ∈ ws) (hnot : w ∉ W) :
    mnemonicToEntropy H W ws = .error .invalidMnemonic := by
  unfold mnemonicToEntropy
  simp only
  rw [if_neg ((validCount_iff ws.length).mpr hc)]
  have : (!ws.all fun w => W.contains w) = true := by
    simp only [Bool.not_eq_true', List.all_eq_false, List.contains_iff_mem]
    exact ⟨w, hw, by simpa using hnot⟩
  rw [this]; rfl

/-- the third documented error: a sentence of valid length whose words are all in the list but which is not the
encoding of any entropy (i.e. its embedded checksum does not match) is rejected with ErrInvalidChecksum — so the
three outcomes `invalidMnemonic` / `invalidChecksum` / accepted are exactly: bad count or unknown word / checksum
mismatch / encoding of its entropy. -/
theorem decode_bad_checksum (ws : List Word) (hc : ValidCount ws.length) (hall : ∀ w ∈ ws, w ∈ W)
    (hne : ∀ e, mnemonicToEntropy H W ws ≠ .ok e) :
    mnemonicToEntropy H W ws = .error .invalidChecksum := by
  unfold mnemonicToEntropy at hne ⊢
  simp only at hne ⊢
  rw [if_neg ((validCount_iff ws.length).mpr hc)] at hne ⊢
  have hallb : (!ws.all fun w => W.contains w) = false := by
    simp only [Bool.not_eq_false', List.all_eq_true, List.contains_iff_mem]
    exact hall
  rw [hallb] at hne ⊢
  simp only [Bool.false_eq_true, if_false] at hne ⊢
  split
  · rfl
  · rename_i h
    exact absurd (if_neg h) (hne _)

end

/-- the two built-in lists satisfy the hypotheses (2048 pairwise distinct words each). -/
theorem builtin_lists_ok :
    Spec.Bip39Words.english.length = 2048 ∧ Spec.Bip39Words.english.Nodup ∧
    Spec.Bip39Words.japanese.length = 2048 ∧ Spec.Bip39Words.japanese.Nodup :=
  ⟨Proofs.WordLists.english_length, Proofs.WordLists.english_nodup,
   Proofs.WordLists.japanese_length, Proofs.WordLists.japanese_nodup⟩

/-! ### non-vacuity -/
example : ValidLen 16 ∧ ValidLen 64 ∧ ¬ ValidLen 18 ∧ ValidCount 12 ∧ ValidCount 48 ∧ ¬ ValidCount 13 := by
  unfold ValidLen ValidCount; omega
-- with H = thirty-two zero bytes, entropy = sixteen zero bytes gives index 0 twelve times: "abandon …"
example : entropyToMnemonic (fun _ => List.replicate 32 0) Spec.Bip39Words.english (List.replicate 16 0)
    = .ok (List.replicate 12 [97,98,97,110,100,111,110]) := by decide +kernel

end Iota.Props.C03
