/-
C12 — PoW v2 Mine is sound and never passes over a clearly qualifying nonce.
Model: Iota/Model/Pow.lean (integer and bit-plane logic of pkg/pow/v2); proofs: Iota/Proofs/Pow/*.
The hash of each lane is data here (the planes `CopyState` leaves behind); that those planes hold the
Curl-P-81 hashes of the 64 nonces is the business of iota.go's curl/bct (external; see Tie/Pow and the
correspondence run, which re-scores every returned nonce through an independent Lean pipeline).
-/
import Iota.Proofs.Pow
import Iota.Proofs.PowScore

namespace Iota.Props.C12
open Iota.Pow Iota.Proofs.Pow

/-- the big constants are what the comments say. -/
theorem constants : maxHash = 3 ^ 243 ∧ uint64Radix = 3 ^ 40 := ⟨maxHash_eq, uint64Radix_eq⟩

/-- `toInt` reads the hash as a little-endian base-3 number (digit 2 for trit −1) plus one; no `uint64`
in the 40-trit chunk loop overflows. -/
theorem toInt_is_base3_plus_one (trits : List Int) (hlen : trits.length = 243)
    (hv : ∀ t ∈ trits, t = -1 ∨ t = 0 ∨ t = 1) :
    toInt trits = digitsVal trits + 1 ∧ 1 ≤ toInt trits ∧ toInt trits ≤ 3 ^ 243 ∧
    (∀ i, chunkValue ((trits.drop (i * 40)).take 40) + 1 ≤ 3 ^ 40) ∧ 3 ^ 40 < 2 ^ 64 :=
  ⟨toInt_eq trits hlen, toInt_pos trits hlen, toInt_le trits hlen hv,
    fun i => (toInt_chunks_no_overflow trits hv i).1, three_pow_40_lt⟩

/-- Score = ⌊d / length⌋ saturated at 2^64 − 1, with d = ⌊3^243 / h⌋. -/
theorem score_formula (trits : List Int) (msgLen : Nat) (h : 1 ≤ msgLen) :
    score trits msgLen = min (maxHash / toInt trits / msgLen) (2 ^ 64 - 1) := score_eq' trits msgLen h

/-- `sufficientTrailingZeros` is the least s with 3^s ≥ len·t, computed without `uint64` overflow. -/
theorem sufficient_is_least (lx : Nat) (h1 : 1 ≤ lx) (hlx : lx < 2 ^ 64) :
    let s := sufficientTrailingZeros lx
    3 ^ s ≥ lx ∧ (∀ s', s' < s → 3 ^ s' < lx) ∧ s ≤ 41 ∧ (lx ≥ 8 → s ≥ 2) ∧
    (∀ s', s' ≤ 40 → 3 ^ s' ≤ 3 ^ 40) ∧ 3 ^ 40 < 2 ^ 64 ∧ sufficientLoopU64 lx 41 0 1 = s := by
  have _ := h1 -- not needed: all of this is true of `lx = 0` as well
  exact ⟨sufficientTrailingZeros_ge lx hlx, sufficientTrailingZeros_least lx hlx,
    sufficientTrailingZeros_le lx hlx, sufficientTrailingZeros_ge_two lx,
    fun s' h => (sufficient_compared_lt s' h).1, three_pow_40_lt, sufficientTrailingZerosU64_eq lx⟩

/-- the lane test, for ALL 64-lane bit-plane states (valid encodings or not), message lengths and
targets with 8 ≤ len·t < 2^64: a returned lane qualifies (soundness) and a lane whose difficulty
strictly exceeds len·t is never passed over. -/
theorem lane_test (l h : Planes) (lx : Nat) (h8 : 8 ≤ lx) (hlx : lx < 2 ^ 64) :
    let hLane := stateToInt l h
    let i := checkV2 l h (sufficientTrailingZeros lx) (targetHash lx)
    (∀ j, 1 ≤ hLane j ∧ hLane j ≤ 3 ^ 243) ∧ i ≤ 64 ∧
    (i < 64 → maxHash / hLane i ≥ lx) ∧
    ((∃ j, j < 64 ∧ maxHash / hLane j > lx) → i < 64) ∧
    (∀ len t, 1 ≤ len → lx = len * t → i < 64 → score (laneTrits l h i) len ≥ t) :=
  ⟨fun j => ⟨stateToInt_pos l h j, stateToInt_le l h j⟩, checkV2_le l h _ _, checkV2_sound l h lx h8 hlx,
    checkV2_no_passover l h lx h8 hlx, fun len t h1 h2 h3 => checkV2_score l h lx h8 hlx len t h1 h2 h3⟩

/-- single worker: the nonce returned lies in the first block whose lane test succeeds; its score meets
the target and no earlier block of 64 nonces holds a nonce whose difficulty strictly exceeds len·t. -/
theorem single_worker_mining (planes : Nat → Planes × Planes) (lx len t : Nat) (h8 : 8 ≤ lx) (hlx : lx < 2 ^ 64)
    (hlen : 1 ≤ len) (hlt : lx = len * t) (fuel k b i : Nat)
    (hm : mineSeq (fun l h => checkV2 l h (sufficientTrailingZeros lx) (targetHash lx)) planes fuel k = some (b, i)) :
    k ≤ b ∧ i < 64 ∧ t ≤ score (laneTrits (planes b).1 (planes b).2 i) len ∧
    lx ≤ maxHash / stateToInt (planes b).1 (planes b).2 i ∧
    ∀ b', k ≤ b' → b' < b → ∀ j, j < 64 → maxHash / stateToInt (planes b').1 (planes b').2 j ≤ lx :=
  mineSeq_v2 planes lx len t h8 hlx hlen hlt fuel k b i hm

/-! ### up to `Score(data ‖ nonce)`
`Iota/Model/PowScore.lean` models what the integer core above abstracts from: the nonce of lane i in batch b of a worker
started at `start` is `(start + 64·b + i) mod 2^64`; the hashed block is b1t6(digest) ‖ b1t6(nonce, 8 bytes little-endian)
‖ 000; the hash is one absorb and one squeeze of the single-lane Curl-P-81 specification; `ScoreV2`/`ScoreMsgV2` is
`Score` on data ‖ nonce.  The ONE hypothesis about iota.go's batched sponge `curl/bct` (external) is `BctFaithful slice`:
the planes it leaves are the bit-slicing of the 64 lane hashes — satisfiable (`sliceOf_faithful`).  (That `Score` itself
hashes with iota.go's single-lane `curl`, read here as the Curl-P-81 specification, is the second reliance on iota.go.)
`Mine` returns a nonce some worker returned (`Iota.Props.C13.outcome`), and worker i starts at i·⌊(2^64−1)/W⌋: hence an
arbitrary `start`. Proofs: `Iota/Proofs/PowScore.lean`. -/
open Iota.PowScore Iota.Proofs.PowScore in
/-- **soundness at Score level, any worker**: a nonce returned by a worker's loop scores at least t. -/
theorem returned_nonce_scores (slice : (Fin 64 → List Int) → Planes × Planes) (hslice : BctFaithful slice)
    (H : List UInt8 → List UInt8) (data : List UInt8) (t start fuel n : Nat)
    (ht : 1 ≤ t) (hlx : (data.length + 8) * t < 2 ^ 64)
    (hw : worker slice (testV2 ((data.length + 8) * t)) (H data) start fuel = some n) :
    t ≤ ScoreV2 H data n ∧ t ≤ ScoreMsgV2 H (data ++ nonceBytes n) :=
  mine_v2_score slice hslice H data t start fuel n ht hlx hw

open Iota.PowScore Iota.Proofs.PowScore in
/-- **no pass-over at nonce level, single worker** (start 0): no nonce of an earlier 64-block has difficulty above len·t. -/
theorem single_worker_no_passover (slice : (Fin 64 → List Int) → Planes × Planes) (hslice : BctFaithful slice)
    (digest : List UInt8) (fuel lx len t n : Nat) (hfuel : fuel ≤ 2 ^ 58) (h8 : 8 ≤ lx) (hlx : lx < 2 ^ 64)
    (hlen : 1 ≤ len) (hlt : lx = len * t)
    (hw : worker slice (testV2 lx) digest 0 fuel = some n) :
    n < 64 * fuel ∧ t ≤ score (hashTrits digest n) len ∧
      ∀ m, m / 64 < n / 64 → difficulty (hashTrits digest m) ≤ lx :=
  worker_v2_first slice hslice digest fuel lx len t n hfuel h8 hlx hlen hlt hw

open Iota.PowScore Iota.Proofs.PowScore in
theorem bct_hypothesis_satisfiable : BctFaithful sliceOf := sliceOf_faithful

/-! ### non-vacuity -/
example : sufficientTrailingZeros 8 = 2 ∧ sufficientTrailingZeros 9 = 2 ∧ sufficientTrailingZeros 10 = 3 ∧
    sufficientTrailingZeros (2^64 - 1) = 41 := by decide +kernel
example : toInt (List.replicate 243 0) = 1 ∧ toInt (List.replicate 243 (-1)) = 3 ^ 243 := by decide +kernel
-- all-zero hashes in every lane: lane 0 is returned
example : checkV2 (Vector.replicate 243 allOnes) (Vector.replicate 243 allOnes) 2 (targetHash 8) = 0 := by
  decide +kernel

end Iota.Props.C12
