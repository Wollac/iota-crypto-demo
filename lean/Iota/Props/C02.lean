/-
C02 — SLIP-0010 derivation matches the specification.  Proof of the repository's own logic
(pkg/slip10/slip10.go) for EVERY curve value — so also for pluggable curves whose validity predicate
rejects most candidates — with HMAC-SHA512, HASH160 and the curve operations as parameters.
The concrete primitives are exercised by the correspondence run (Lean HMAC-SHA512 / SHA-256 /
RIPEMD-160 / secp256k1 model / P-256 and Ed25519 oracles against the real packages).
-/
import Iota.Proofs.Slip10
import Iota.Proofs.Slip10Spec
import Iota.Proofs.Slip10NonVacuity

namespace Iota.Props.C02
open Iota.Slip10 Iota.Proofs.Slip10

variable {κ : Type} (hmac : Bytes → Bytes → Bytes) (c : Curve κ)

/-- master key: the first valid candidate of I₀ = HMAC(curve key, S), Iₙ₊₁ = HMAC(curve key, Iₙ);
private key from I_L, chain code I_R — "the prescribed retry when an intermediate value is not a valid key". -/
theorem master_key_is_first_valid (fuel : Nat) (seed : Bytes) (e : ExtKey κ) :
    masterLoop hmac c fuel seed = .ok e ↔
      ∃ n, n < fuel ∧ (∀ m, m < n → c.newPrivateKey ((masterSeq hmac c seed m).take 32) = .error .invalidKey) ∧
        c.newPrivateKey ((masterSeq hmac c seed n).take 32) = .ok e.key ∧
        e.chainCode = (masterSeq hmac c seed n).drop 32 ∧ e.parent = none := by
  simp only [Iota.Proofs.Slip10Spec.masterSeq_eq]
  exact Iota.Proofs.Slip10Spec.masterLoop_ok_iff hmac c fuel seed e

/-- CKD inputs: hardened ↦ 0x00 ‖ ser256(k_par) ‖ ser32(i); normal ↦ serP(point(k_par)) ‖ ser32(i). -/
theorem ckd_hardened (fuel : Nat) (e : ExtKey κ) (i : Nat) (hi : hardened ≤ i) (hp : c.isPrivate e.key = true) :
    deriveChild hmac c fuel e i =
      childLoop hmac c e i fuel (hmac e.chainCode (0x00 :: (c.bytes e.key ++ ser32 i))) :=
  deriveChild_hardened hmac c fuel e i hi hp

theorem ckd_normal (fuel : Nat) (e : ExtKey κ) (i : Nat) (hi : i < hardened) (hh : c.hardenedOnly e.key = false) :
    deriveChild hmac c fuel e i =
      childLoop hmac c e i fuel (hmac e.chainCode (c.bytes (c.pub e.key) ++ ser32 i)) :=
  deriveChild_normal hmac c fuel e i hi hh

/-- child: key = Shift(parent, I_L), chain code = I_R, parent remembered for the fingerprint … -/
theorem child_accept (e : ExtKey κ) (index fuel : Nat) (inter : Bytes) (k : κ)
    (h : c.shift e.key (inter.take 32) = .ok k) :
    childLoop hmac c e index (fuel + 1) inter = .ok { chainCode := inter.drop 32, key := k, parent := some e.key } := by
  simp only [childLoop, h]

/-- … with the retry I ← HMAC(chain, 0x01 ‖ I_R ‖ ser32(i)) on ErrInvalidKey only. -/
theorem child_retry (e : ExtKey κ) (index fuel : Nat) (inter : Bytes)
    (h : c.shift e.key (inter.take 32) = .error .invalidKey) :
    childLoop hmac c e index (fuel + 1) inter =
      childLoop hmac c e index fuel (hmac e.chainCode (0x01 :: (inter.drop 32 ++ ser32 index))) := by
  simp only [childLoop, h]

/-- a curve error other than invalid-key is returned to the caller rather than retried — in both loops. -/
theorem permanent_error_master (fuel : Nat) (seed : Bytes) (x : Nat)
    (h : c.newPrivateKey ((hmac c.hmacKey seed).take 32) = .error (.other x)) :
    masterLoop hmac c (fuel + 1) seed = .error (.curve x) := by
  simp only [masterLoop, h]

theorem permanent_error_child (e : ExtKey κ) (index fuel : Nat) (inter : Bytes) (x : Nat)
    (h : c.shift e.key (inter.take 32) = .error (.other x)) :
    childLoop hmac c e index (fuel + 1) inter = .error (.curve x) := by
  simp only [childLoop, h]

/-- deriving along p then i equals deriving along p followed by i. -/
theorem path_concatenation (fuel : Nat) (seed : Bytes) (p : List Nat) (i : Nat) :
    deriveKeyFromPath hmac c fuel seed (p ++ [i]) =
      match deriveKeyFromPath hmac c fuel seed p with
      | .ok e => deriveChild hmac c fuel e i
      | .error x => .error x := by
  unfold deriveKeyFromPath
  cases newMasterKey hmac c fuel seed with
  | error x => rfl
  | ok m =>
    simp only []
    rw [deriveFrom_append]
    cases deriveFrom hmac c fuel m p with
    | error x => rfl
    | ok e =>
      simp only [deriveFrom]
      cases deriveChild hmac c fuel e i <;> rfl

/-- derivations SLIP-0010 does not define fail with an error. -/
theorem hardened_child_of_public_key_fails (fuel : Nat) (e : ExtKey κ) (i : Nat) (hi : hardened ≤ i)
    (hp : c.isPrivate e.key = false) : deriveChild hmac c fuel e i = .error .hardenedChildPublicKey :=
  hardened_child_of_public hmac c fuel e i hi hp

theorem non_hardened_child_on_ed25519_fails (edPublic : Bytes → Bytes) (fuel : Nat) (e : ExtKey EdKey) (i : Nat)
    (hi : i < hardened) : deriveChild hmac (edCurve edPublic) fuel e i = .error .notHardened :=
  non_hardened_on_hardened_only hmac (edCurve edPublic) fuel e i hi rfl

/-- fingerprint = first 4 bytes of HASH160(parent public key), zero for the master key. -/
theorem fingerprint_spec (hash160 : Bytes → Bytes) (e : ExtKey κ) :
    fingerprint c hash160 e = match e.parent with
      | none => [0, 0, 0, 0]
      | some p => (hash160 (c.bytes (c.pub p))).take 4 := by
  unfold fingerprint; cases e.parent <;> rfl

/-! ### against SLIP-0010 written the way the standard is written (`Iota/Spec/Slip10.lean`)
The specification has its own serialisations (`parse256`, `ser32`, `ser256`, `serP`), the candidate sequences
`masterI`, `childI` as functions of the retry number, "first valid candidate" (`IsFirst`), the validity
predicates of the standard, and path derivation as an inductive relation; it does not import the model.
Proofs: `Iota/Proofs/Slip10Spec.lean`. -/
section Spec
open Iota.Spec.Slip10 (IL IR masterI childI XPriv PathKeyWithin edPathKey)
open Iota.Proofs.Slip10Spec

/-- **the child retry loop returns exactly the first valid candidate** of the sequence
I_0 = HMAC(c_par, data), I_{n+1} = HMAC(c_par, 0x01 ‖ I_R(n) ‖ ser32 i) — for every curve value and all fuel. -/
theorem child_is_first_valid (e : ExtKey κ) (i fuel : Nat) (data : Bytes) (e' : ExtKey κ) :
    childLoop hmac c e i fuel (hmac e.chainCode data) = .ok e' ↔
      ∃ j, j < fuel ∧
        (∀ m, m < j → c.shift e.key (IL (childI hmac e.chainCode data i m)) = .error .invalidKey) ∧
        c.shift e.key (IL (childI hmac e.chainCode data i j)) = .ok e'.key ∧
        e'.chainCode = IR (childI hmac e.chainCode data i j) ∧ e'.parent = some e.key :=
  childLoop_ok_iff hmac c e i fuel data e'

/-- a curve error other than ErrInvalidKey is returned exactly when it is the verdict on a candidate all of whose
predecessors were rejected with ErrInvalidKey (at ANY retry, not only the first); same for the master loop. -/
theorem permanent_error_at_any_candidate (e : ExtKey κ) (i fuel : Nat) (data S : Bytes) (x : Nat) :
    (childLoop hmac c e i fuel (hmac e.chainCode data) = .error (.curve x) ↔
      ∃ j, j < fuel ∧
        (∀ m, m < j → c.shift e.key (IL (childI hmac e.chainCode data i m)) = .error .invalidKey) ∧
        c.shift e.key (IL (childI hmac e.chainCode data i j)) = .error (.other x)) ∧
    (masterLoop hmac c fuel S = .error (.curve x) ↔
      ∃ j, j < fuel ∧
        (∀ m, m < j → c.newPrivateKey (IL (masterI hmac c.hmacKey S m)) = .error .invalidKey) ∧
        c.newPrivateKey (IL (masterI hmac c.hmacKey S j)) = .error (.other x)) :=
  ⟨childLoop_curve_iff hmac c e i fuel data x, masterLoop_curve_iff hmac c fuel S x⟩

end Spec

/-- **secp256k1 / P-256 (the `elliptic` package over a lawful curve): `DeriveKeyFromPath` = the specification's
path derivation** — private key, chain code, fingerprint (and, through `Repr.bytes`, the serialisations
ser256(k) and serP(point k)) are the ones SLIP-0010 prescribes, with every key found within `fuel` candidates. -/
theorem derive_matches_spec_weierstrass {Pt : Type} [AddCommGroup Pt] (hmac : Bytes → Bytes → Bytes)
    (w : WCurve Pt) (g : Pt) (hk : Bytes) (hw : Iota.Proofs.Slip10Shift.LawfulW w g) (hn : w.n < 256 ^ 40)
    (hash160 : Bytes → Bytes) (fuel : Nat) (S : Bytes) (path : List Nat) (z : Iota.Spec.Slip10.XPriv) :
    (∃ e, deriveKeyFromPath hmac (wCurve w hk) fuel S path = .ok e ∧ Iota.Proofs.Slip10Spec.Repr w hk hash160 e z) ↔
      Iota.Spec.Slip10.PathKeyWithin hmac (Iota.Proofs.Slip10Spec.ecOf w g hk) hash160 fuel S path z := by
  unfold Iota.Spec.Slip10.PathKeyWithin
  simp only [Iota.Proofs.Slip10Spec.deriveKeyFromPath_ok_iff, Iota.Proofs.Slip10Spec.newMasterKey_w_ok_iff hmac w g hk]
  have hrepr : ∀ k c, Iota.Proofs.Slip10Spec.Repr w hk hash160 { chainCode := c, key := .priv k, parent := none }
      ⟨k, c, [0, 0, 0, 0]⟩ :=
    fun k c => ⟨rfl, rfl, rfl⟩
  -- from the master key `(k, c)` on, both sides follow the path
  have hpath := fun k c => Iota.Proofs.Slip10Spec.deriveFrom_w_iff hmac w g hk hw hn hash160 fuel path _ _ (hrepr k c)
  constructor
  · rintro ⟨e, ⟨_, ⟨j, k, c, hj, hmas, rfl⟩, he⟩, hz⟩
    exact ⟨j, k, c, hj, hmas, (hpath k c hmas.lt z).1 ⟨e, he, hz⟩⟩
  · rintro ⟨j, k, c, hj, hmas, hd⟩
    obtain ⟨e, he, hz⟩ := (hpath k c hmas.lt z).2 hd
    exact ⟨e, ⟨_, ⟨j, k, c, hj, hmas, rfl⟩, he⟩, hz⟩

/-- **ed25519**: on all-hardened paths the model returns the specification's key, chain code and fingerprint; as soon as
an index is not hardened it returns ErrNotHardened. -/
theorem derive_matches_spec_ed25519 (hmac : Bytes → Bytes → Bytes) (edPublic : Bytes → Bytes)
    (hpub : ∀ s, (edPublic s).length = 32) (hash160 : Bytes → Bytes) (fuel : Nat) (S : Bytes) (path : List Nat) :
    match Iota.Spec.Slip10.edPathKey hmac edPublic hash160 S path with
    | some (k, c, fp) => ∃ e, deriveKeyFromPath hmac (edCurve edPublic) (fuel + 1) S path = .ok e ∧
        e.key = .seed k ∧ e.chainCode = c ∧ fingerprint (edCurve edPublic) hash160 e = fp
    | none => deriveKeyFromPath hmac (edCurve edPublic) (fuel + 1) S path = .error .notHardened := by
  unfold deriveKeyFromPath Iota.Spec.Slip10.edPathKey
  rw [Iota.Proofs.Slip10Spec.ed_newMasterKey]
  exact Iota.Proofs.Slip10Spec.ed_deriveFrom hmac edPublic hpub hash160 fuel path
    ⟨(Iota.Spec.Slip10.edMaster hmac S).2, .seed (Iota.Spec.Slip10.edMaster hmac S).1, none⟩ _ rfl

/-! ### non-vacuity (see also `Iota/Proofs/Slip10NonVacuity.lean`: a toy curve on ℤ/7 whose validity predicate rejects
candidates, run through both loops by `decide`: master and child keys found at candidate 1 after a rejection at 0) -/
example : ser32 (2 ^ 31 + 44) = [0x80, 0, 0, 44] := by decide
example : hardened = 2147483648 := rfl

end Iota.Props.C02
