/-
C14 — b1t6 and b1t8 are exact, strict byte/trit codecs.
Helper lemmas: Iota/Proofs/B1T6.lean, Iota/Proofs/B1T8.lean.
-/
import Iota.Proofs.B1T6
import Iota.Proofs.B1T8

namespace Iota.Props.C14
open Iota Iota.B1T6

/-- (a) every byte is written as the 6 balanced little-endian trits of its signed value. -/
theorem b1t6_encodeByte_spec (b : UInt8) :
    (encodeByte b).length = 6 ∧ ValidTrits (encodeByte b) ∧
    Spec.balValue (encodeByte b) = int8OfByte b :=
  Proofs.B1T6.encodeByte_spec b

/-- the balanced representation is unique, so (a) pins the code word down. -/
theorem balanced_unique (xs ys : List Int) (hl : xs.length = ys.length)
    (hx : ValidTrits xs) (hy : ValidTrits ys) (h : Spec.balValue xs = Spec.balValue ys) : xs = ys := by
  induction xs generalizing ys with
  | nil => cases ys with
    | nil => rfl
    | cons => simp at hl
  | cons x xs ih => cases ys with
    | nil => simp at hl
    | cons y ys =>
      have hx0 : ValidTrit x := hx x (by simp)
      have hy0 : ValidTrit y := hy y (by simp)
      simp only [Spec.balValue] at h
      -- the lowest trit is the value mod 3
      have hxy : x = y := by
        unfold ValidTrit at hx0 hy0
        omega
      subst hxy
      rw [ih ys (by simpa using hl) (fun t ht => hx t (List.mem_cons_of_mem _ ht))
        (fun t ht => hy t (List.mem_cons_of_mem _ ht)) (by omega)]

/-- (a, lifted) `Encode` of any byte string is the concatenation of the code words. -/
theorem b1t6_encode_length (bs : List UInt8) : (encode bs).length = 6 * bs.length :=
  Proofs.B1T6.encode_length bs

theorem b1t6_encode_valid (bs : List UInt8) : ValidTrits (encode bs) :=
  Proofs.B1T6.encode_valid bs

/-- (b) the tryte form equals the trit form. -/
theorem b1t6_trytes_eq_trits (bs : List UInt8) :
    tritsToTrytes (encode bs) = encodeToTrytes bs := by
  induction bs with
  | nil => rfl
  | cons b bs ih =>
    obtain ⟨_, _, _, _, _, _, _, _, he, he', _, _, _, ht, _⟩ := Proofs.B1T6.byte_facts b
    rw [Proofs.B1T6.encode_cons, Proofs.B1T6.encodeToTrytes_cons, he, he', ← ht]
    simp only [List.cons_append, List.nil_append, tritsToTrytes, ih]

/-- (c) decoding an encoding returns the original bytes, for every byte string. -/
theorem b1t6_decode_encode (bs : List UInt8) : decode (encode bs) = (bs, none) :=
  Proofs.B1T6.decode_encode bs

theorem b1t6_decodeTrytes_encode (bs : List UInt8) :
    decodeTrytes (encodeToTrytes bs) = .ok bs :=
  Proofs.B1T6.decodeTrytes_encode bs

/-- (d) acceptance is exactly "is an encoding": every accepted input re-encodes to itself. -/
theorem b1t6_decode_ok_iff (ts : List Int) (hv : ValidTrits ts) (bs : List UInt8) :
    decode ts = (bs, none) ↔ ts = encode bs :=
  ⟨Proofs.B1T6.decode_ok_imp ts hv bs, fun h => h ▸ Proofs.B1T6.decode_encode bs⟩

theorem b1t6_decodeTrytes_ok_iff (cs : List UInt8) (hv : ∀ c ∈ cs, isTryteChar c = true)
    (bs : List UInt8) :
    decodeTrytes cs = .ok bs ↔ cs = encodeToTrytes bs :=
  Proofs.B1T6.decodeTrytes_ok_iff cs hv bs

/-- (e) error order and count: with `k` whole valid groups `encode pre` in front,
an invalid group is reported with `n = k`, whatever follows (even a bad length). -/
theorem b1t6_decode_invalid_group (pre : List UInt8) (g rest : List Int)
    (hg : g.length = 6) (hgv : ValidTrits g) (hbad : ∀ b, g ≠ encodeByte b) :
    decode (encode pre ++ g ++ rest) = (pre, some .invalidTrits) := by
  rw [List.append_assoc, Proofs.B1T6.decode_encode_append]
  match g, hg with
  | [t0,t1,t2,t3,t4,t5], _ =>
    simp only [List.cons_append, List.nil_append, decode]
    split
    · simp
    · rename_i b hd
      exact absurd (Proofs.B1T6.group_sound hgv hd).symm (hbad b)

/-- (e) otherwise a trailing partial group gives invalid length with `n` = whole groups. -/
theorem b1t6_decode_invalid_length (pre : List UInt8) (r : List Int)
    (h0 : 0 < r.length) (h6 : r.length < 6) :
    decode (encode pre ++ r) = (pre, some .invalidLength) := by
  rw [Proofs.B1T6.decode_encode_append]
  fun_cases decode r with
  | case1 | case2 => simp only [List.length_cons] at h6; omega
  | case3 => cases h0
  | case4 => simp

/-- (e) the same order for `DecodeTrytes` (which returns no bytes on error, only the error): the first tryte pair that
is not a code word gives ErrInvalidTrits whatever follows — even an odd length —, and otherwise an odd length gives
ErrInvalidLength. -/
theorem b1t6_decodeTrytes_invalid_group (pre : List UInt8) (c1 c2 : UInt8) (rest : List UInt8)
    (hbad : decodeGroup (tryteValue c1) (tryteValue c2) = none) :
    decodeTrytes (encodeToTrytes pre ++ c1 :: c2 :: rest) = .error .invalidTrits := by
  unfold decodeTrytes
  rw [Proofs.B1T6.decodeTrytesAux_encode_append, Proofs.B1T6.decodeTrytesAux_cons2, hbad]

theorem b1t6_decodeTrytes_invalid_length (pre : List UInt8) (c : UInt8) :
    decodeTrytes (encodeToTrytes pre ++ [c]) = .error .invalidLength := by
  unfold decodeTrytes
  rw [Proofs.B1T6.decodeTrytesAux_encode_append, Proofs.B1T6.decodeTrytesAux_one]

/-- exactly 256 of the 729 groups are code words (so 473 are rejected). -/
theorem b1t6_codeword_count :
    ((Proofs.B1T6.allGroups).filter (fun g => (decode g).2 == none)).length = 256 := by
  decide +kernel

/-! ### b1t8 -/

theorem b1t8_encodeByte_spec (b : UInt8) :
    B1T8.encodeByte b = (List.range 8).map (fun i => (((b.toNat >>> i) % 2 : Nat) : Int)) :=
  (Proofs.B1T8.byte_facts b).2

theorem b1t8_decode_encode (bs : List UInt8) : B1T8.decode (B1T8.encode bs) = (bs, none) :=
  Proofs.B1T8.decode_encode bs

/-- acceptance ↔ encoding, over *all* int8 values (no validity hypothesis). -/
theorem b1t8_decode_ok_iff (ts : List Int) (bs : List UInt8) :
    B1T8.decode ts = (bs, none) ↔ ts = B1T8.encode bs :=
  ⟨Proofs.B1T8.decode_ok_imp ts bs, fun h => h ▸ Proofs.B1T8.decode_encode bs⟩

theorem b1t8_decode_invalid_group (pre : List UInt8) (g rest : List Int)
    (hg : g.length = 8) (hbad : g.any B1T8.badTrit = true) :
    B1T8.decode (B1T8.encode pre ++ g ++ rest) = (pre, some .invalidTrit) := by
  rw [List.append_assoc, Proofs.B1T8.decode_encode_append, Proofs.B1T8.decode_group_append g rest hg,
    (Proofs.B1T8.packByte_none_iff g).mpr hbad, List.append_nil]

/-- remainder scan: a bad trit in the trailing partial group wins over the bad length. -/
theorem b1t8_decode_remainder (pre : List UInt8) (r : List Int)
    (h0 : 0 < r.length) (h8 : r.length < 8) :
    B1T8.decode (B1T8.encode pre ++ r) =
      (pre, some (if r.any B1T8.badTrit then .invalidTrit else .invalidLength)) := by
  rw [Proofs.B1T8.decode_encode_append]
  fun_cases B1T8.decode r with
  | case1 | case2 => simp only [List.length_cons] at h8; omega
  | case3 => cases h0
  | case4 _ _ _ hb => rw [if_pos hb, List.append_nil]
  | case5 _ _ _ hb => rw [if_neg hb, List.append_nil]

/-! ### non-vacuity -/
example : decode (encode [0x00, 0x7f, 0x80, 0xff]) = ([0x00, 0x7f, 0x80, 0xff], none) := by decide
example : encode [0x01] = [1,0,0,0,0,0] ∧ encode [0xff] = [-1,0,0,0,0,0] ∧
    encode [0x80] = [1,-1,1,1,1,-1] := by decide
example : decode [1,1,1,1,1,1] = ([], some .invalidTrits) := by decide
example : decode ([1,0,0,0,0,0] ++ [0,0,0]) = ([1], some .invalidLength) := by decide
example : B1T8.decode [1,0,0,0,0,0,0,0, 0,2] = ([1], some .invalidTrit) := by decide

end Iota.Props.C14
