/-
C18 — ECVRF proofs are RFC 9381 conformant, complete, canonical and unique.

Model: `Iota/Model/Vrf.lean` (ECVRF-EDWARDS25519-SHA512-TAI as pkg/vrf performs it: try-and-increment,
nonce generation, challenge generation, `Prove`, `Verify`, `ProofToHash`, the 80-byte codec, canonical point
decoding, key validation) over the abstract curve library; proofs: `Iota/Proofs/Ed/{Canonical,Vrf}.lean`.
Theorems: completeness for every seed and alpha, the codec round trips / canonicity, key validation,
agreement of the three hash routes, and the algebraic half of uniqueness.
PARTIAL, stated in the theorems: (1) the curve library and SHA-512 are the hypotheses `Lawful`, `Cofactor`,
`OrderExact`, `EncodeCanonical`, `EncodeDecode` (that L is prime is proved: `Iota/Proofs/Primes.lean`); (2) conformance with an independent RFC 9381
implementation is established by the correspondence run (the Lean model instantiated with a from-scratch
curve IS that independent implementation), not by a theorem; (3) full uniqueness ("any accepted proof yields
the same hash") is a random-oracle statement: what is proved is that the output depends on Gamma only
through [8]Gamma and equals the honest output whenever Gamma − [x]H has small order; that an accepted proof
must have such a Gamma is the Chaum–Pedersen soundness argument, which needs the challenge to be
unpredictable and has no counterpart over an arbitrary function `sha512`.
-/
import Iota.Proofs.Ed
import Iota.Proofs.Ed.Witness2
import Iota.Proofs.Primes
import Iota.Props.C07

namespace Iota.Props.C18
open Iota.Proofs.Ed
open Iota.Edwards (Bytes leNat leBytes L)
open Iota.Ed25519 (EdLib newKeyFromSeed)
open Iota

variable {G : Type} [AddCommGroup G] {lib : EdLib G}

/-- **completeness**, every seed and alpha (whenever try-and-increment finds a point, i.e. does not hit
its 256-round panic): `Prove` yields a proof, `Verify` accepts its encoding for the matching public key
with the proof's hash, and `ProofToHash` gives the same hash. -/
theorem complete (h : Lawful lib) (hcof : Cofactor lib) (hcan : EncodeCanonical lib)
    (hord : OrderExact lib) (seed alpha sk : Bytes)
    (hsk : newKeyFromSeed lib seed = some sk) (H : G)
    (hH : Vrf.encodeToCurve lib (sk.drop 32) alpha = some H) :
    ∃ pr, Vrf.prove lib sk alpha = some pr ∧
      Vrf.verify lib (sk.drop 32) alpha (pr.bytes lib) = some (true, pr.hash lib) ∧
      Vrf.proofToHash lib (pr.bytes lib) = some (pr.hash lib) :=
  vrf_complete h hcof hcan hord Iota.Proofs.Primes.prime_L seed alpha sk hsk H hH

/-- the three hash routes agree for ANY accepted proof. -/
theorem hash_routes_agree (h : Lawful lib) (pk alpha pi β : Bytes) (hpk : pk.length = 32)
    (hv : Vrf.verify lib pk alpha pi = some (true, β)) : Vrf.proofToHash lib pi = some β :=
  proofToHash_of_verify h pk alpha pi β hpk hv

/-- **acceptance, characterised**: key decodes canonically to a point not of small order, the proof is a
canonical 80-byte encoding of (Gamma, c, s), try-and-increment succeeds, and the challenge recomputed from
U = [s]B − [c]Y, V = [s]H − [c]Gamma equals c. -/
theorem verify_iff (h : Lawful lib) (pk alpha pi β : Bytes) (hpk : pk.length = 32) :
    Vrf.verify lib pk alpha pi = some (true, β) ↔
      ∃ Y D H, Vrf.pointFromCanonicalBytes lib pk = some Y ∧ (8 : ℕ) • Y ≠ 0 ∧
        Vrf.Proof.setBytes lib pi = some D ∧ Vrf.encodeToCurve lib pk alpha = some H ∧
        D.c = Vrf.challenge lib pk (lib.encode H) D.gamma
          (D.s • lib.base - D.c • Y) (D.s • H - D.c • D.gamma) ∧
        β = D.hash lib := vrf_verify_eq_true_iff h pk alpha pi β hpk

/-- **keys**: non-canonical encodings (y ≥ p, or the two x = 0 encodings with the sign bit), undecodable
keys and small-order keys are rejected whatever the proof. -/
theorem bad_keys_rejected (h : Lawful lib) (pk alpha pi : Bytes) (hpk : pk.length = 32) :
    ((Vrf.isCanonicalY pk = false ∨ pk ∈ Vrf.nonCanonicalSignBytes ∨ lib.decode pk = none) →
      Vrf.verify lib pk alpha pi = some (false, [])) ∧
    (∀ Y, Vrf.pointFromCanonicalBytes lib pk = some Y → (8 : ℕ) • Y = 0 →
      Vrf.verify lib pk alpha pi = some (false, [])) :=
  ⟨vrf_verify_bad_key_encoding pk alpha pi hpk, fun Y hY h8 => vrf_verify_small_order_key h pk alpha pi hpk Y hY h8⟩

theorem honest_key_valid (h : Lawful lib) (hord : OrderExact lib) (seed : Bytes) :
    Vrf.validateKey lib (publicPoint lib seed) = true :=
  validateKey_honest h hord Iota.Proofs.Primes.prime_L seed

/-- the group order L = 2^252 + 27742317777372353535851937790883648493 is prime (Pratt certificate, kernel-checked). -/
theorem order_prime : Nat.Prime L := Iota.Proofs.Primes.prime_L

/-- the canonical-y test is exactly `y < p`. -/
theorem canonicalY_iff (x : Bytes) (hx : x.length = 32) :
    Vrf.isCanonicalY x = true ↔ leNat x % 2 ^ 255 < Iota.Edwards.p := isCanonicalY_iff x hx

omit [AddCommGroup G] in
/-- **codec, decoding**: only 80-byte strings with s < L (c is 16 bytes) decode, and what decodes
re-encodes to itself. -/
theorem decode_canonical (hed : EncodeDecode lib) (b : Bytes) (pr : Vrf.Proof G)
    (hb : Vrf.Proof.setBytes lib b = some pr) :
    b.length = 80 ∧ pr.s < L ∧ pr.c < 2 ^ 128 ∧ pr.bytes lib = b := setBytes_some hed b pr hb

/-- **codec, encoding**: every proof with s < L and c < 2^128 survives the round trip. -/
theorem encode_decode (h : Lawful lib) (hcan : EncodeCanonical lib) (pr : Vrf.Proof G)
    (hs : pr.s < L) (hc : pr.c < 2 ^ 128) : Vrf.Proof.setBytes lib (pr.bytes lib) = some pr :=
  setBytes_bytes h hcan pr hs hc

/-- **uniqueness, algebraic half** (`unique_partial`: see the header for what is missing): an accepted proof
whose Gamma differs from [x]H by a small-order point yields the honest hash for secret scalar x. -/
theorem unique_partial (h : Lawful lib) (pk alpha pi β : Bytes) (hpk : pk.length = 32)
    (x : ℕ) (D : Vrf.Proof G) (H : G)
    (hv : Vrf.verify lib pk alpha pi = some (true, β))
    (hD : Vrf.Proof.setBytes lib pi = some D) (hH : Vrf.encodeToCurve lib pk alpha = some H)
    (hsmall : (8 : ℕ) • (D.gamma - x • H) = 0) :
    β = lib.sha512 (Vrf.suiteString ++ [0x03] ++ lib.encode ((8 : ℕ) • (x • H)) ++ [0x00]) :=
  vrf_unique_algebraic h pk alpha pi β hpk x D H hv hD hH hsmall

/-- the verifier's commitments for key Y = [x]B: both are [u] of the respective base with the same
u = s − c·x, up to the defect c·([x]H − Gamma) (the Chaum–Pedersen identity; no hypotheses). -/
theorem commitments (x c s : ℕ) (B H Γ : G) :
    s • B - c • (x • B) = ((s : ℤ) - c * x) • B ∧
    s • H - c • Γ = ((s : ℤ) - c * x) • H + c • (x • H - Γ) := vrf_commitments x c s B H Γ

/-! ### non-vacuity: all hypotheses are jointly satisfiable -/
example : ∃ (G : Type) (_ : AddCommGroup G) (lib : EdLib G),
    Lawful lib ∧ Cofactor lib ∧ OrderExact lib ∧ EncodeCanonical lib ∧ EncodeDecode lib := lawful_witness_full

/-- the hypotheses are not only jointly satisfiable: there is a lawful library with a NON-constant hash on which
try-and-increment succeeds for every input and, for every 32-byte seed, alpha and message, key generation, `Prove`,
`Verify` (accepting, with the proof's hash), `ProofToHash`, the proof codec and Ed25519 sign-then-verify all go through
— so the hypotheses of `complete`, `verify_iff`, `hash_routes_agree`, `unique_partial` (with x the secret scalar) and
of C07's `sign_then_verify` are met by actual runs. -/
theorem hypotheses_met_by_runs :
    ∃ (G : Type) (_ : AddCommGroup G) (lib : EdLib G),
      Lawful lib ∧ Cofactor lib ∧ OrderExact lib ∧ EncodeCanonical lib ∧ EncodeDecode lib ∧
      (∃ m m', lib.sha512 m ≠ lib.sha512 m') ∧
      (∀ salt alpha, ∃ H, Iota.Vrf.encodeToCurve lib salt alpha = some H) ∧
      (∀ seed alpha : Bytes, seed.length = 32 →
        ∃ sk H D, Iota.Ed25519.newKeyFromSeed lib seed = some sk ∧ (sk.drop 32).length = 32 ∧
          Iota.Vrf.encodeToCurve lib (sk.drop 32) alpha = some H ∧
          Iota.Vrf.prove lib sk alpha = some D ∧
          Iota.Vrf.verify lib (sk.drop 32) alpha (D.bytes lib) = some (true, D.hash lib) ∧
          Iota.Vrf.proofToHash lib (D.bytes lib) = some (D.hash lib) ∧
          Iota.Vrf.Proof.setBytes lib (D.bytes lib) = some D ∧
          (8 : ℕ) • (D.gamma - secretScalar lib seed • H) = 0) ∧
      (∀ seed msg : Bytes, seed.length = 32 →
        ∃ sk sig, Iota.Ed25519.newKeyFromSeed lib seed = some sk ∧ sk.length = 64 ∧
          Iota.Ed25519.sign lib sk msg = some sig ∧ sig.length = 64 ∧
          Iota.Ed25519.verify lib (sk.drop 32) msg sig = some true) :=
  C07.hypotheses_met_by_runs

end Iota.Props.C18
