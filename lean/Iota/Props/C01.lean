/-
C01 — Ed25519 `Verify` accepts exactly the ZIP-215 signature set.

Model: `Iota/Model/Ed25519.lean` (`verify`: the byte-level logic of pkg/ed25519/ed25519.go:Verify) over
an abstract curve library `EdLib G`; proofs: `Iota/Proofs/Ed/{Bytes,Lawful,Verify}.lean`.
PARTIAL in one respect, stated in every theorem: filippo.io/edwards25519 and crypto/sha512 are not
verified; their group law and codec contracts are the hypothesis `Lawful lib` (and `Cofactor lib`
where the hash scalar is left unreduced).  The correspondence run instantiates `lib` with a concrete
Lean implementation of the curve and of SHA-512 and compares verdicts with the real package.
-/
import Iota.Proofs.Ed
import Iota.Proofs.Ed.Witness2

namespace Iota.Props.C01
open Iota.Proofs.Ed
open Iota.Edwards (Bytes leNat leBytes L)
open Iota.Ed25519 (EdLib uniformScalar)

variable {G : Type} [AddCommGroup G] {lib : EdLib G}

/-- **the iff**: for every 32-byte key, message and signature, `Verify` returns true exactly when the
signature is 64 bytes, `S < L`, key and `R` decode, and `[8][S]B = [8]R + [8][k]A` with `k` from SHA-512
over the bytes as given; otherwise it returns false. -/
theorem verify_iff_zip215 (h : Lawful lib) (pk msg sig : Bytes) (hpk : pk.length = 32) :
    (Iota.Ed25519.verify lib pk msg sig = some true ↔
      sig.length = 64 ∧ leNat (sig.drop 32) < L ∧
        ∃ A R, lib.decode pk = some A ∧ lib.decode (sig.take 32) = some R ∧
          (8 : ℕ) • (leNat (sig.drop 32) • lib.base) =
            (8 : ℕ) • R + (8 : ℕ) • (uniformScalar (lib.sha512 (sig.take 32 ++ pk ++ msg)) • A)) ∧
    (Iota.Ed25519.verify lib pk msg sig = some false ↔ ¬ Zip215 lib pk msg sig) :=
  ⟨verify_eq_true_iff h pk msg sig hpk, verify_eq_false_iff h pk msg sig hpk⟩

omit [AddCommGroup G] in
/-- the only other outcome is the documented panic on a key that is not 32 bytes. -/
theorem verify_panics_iff (pk msg sig : Bytes) :
    Iota.Ed25519.verify lib pk msg sig = none ↔ pk.length ≠ 32 := verify_eq_none_iff pk msg sig

/-- with cofactor 8 the hash may equally be read as the unreduced 512-bit integer. -/
theorem verify_iff_zip215_unreduced (h : Lawful lib) (hc : Cofactor lib) (pk msg sig : Bytes)
    (hpk : pk.length = 32) :
    Iota.Ed25519.verify lib pk msg sig = some true ↔
      sig.length = 64 ∧ leNat (sig.drop 32) < L ∧
        ∃ A R, lib.decode pk = some A ∧ lib.decode (sig.take 32) = some R ∧
          (8 : ℕ) • (leNat (sig.drop 32) • lib.base) =
            (8 : ℕ) • R + (8 : ℕ) • (leNat (lib.sha512 (sig.take 32 ++ pk ++ msg)) • A) :=
  verify_eq_true_iff_unreduced h hc pk msg sig hpk

/-- the top-bits pre-check of `S` never rejects a canonical scalar (so it only short-cuts). -/
theorem precheck_is_implied (sig : Bytes) (hlen : sig.length = 64) (hS : leNat (sig.drop 32) < L) :
    (sig.getD 63 0) &&& 224 = 0 := precheck_of_canonical sig hlen hS

/-- **malleability**: a valid `S` plus any non-zero multiple of the order is rejected. -/
theorem s_plus_multiple_of_order_rejected (h : Lawful lib) (pk msg sig : Bytes) (hpk : pk.length = 32)
    (S j : ℕ) (hj : 1 ≤ j) (hS : leNat (sig.drop 32) = S + j * L) :
    Iota.Ed25519.verify lib pk msg sig = some false :=
  verify_malleable_rejected h pk msg sig hpk S j hj hS

/-- **everything crypto/ed25519 accepts is accepted** (the cofactorless check with encoded comparison). -/
theorem std_accepted_is_accepted (h : Lawful lib) (pk msg sig : Bytes)
    (hstd : stdVerify lib pk msg sig = true) : Iota.Ed25519.verify lib pk msg sig = some true :=
  verify_of_stdVerify h pk msg sig hstd

/-- **small-order components do not matter** when the cofactored equation still holds: the equation
sees `A` and `R` only through `[8]A`, `[8]R` … -/
theorem torsion_invisible (S k : ℕ) (A R T T' : G) (hT : (8 : ℕ) • T = 0) (hT' : (8 : ℕ) • T' = 0) :
    (Zip215Eq lib S k A R ↔ (8 : ℕ) • (S • lib.base) = (8 : ℕ) • R + k • ((8 : ℕ) • A)) ∧
    (Zip215Eq lib S k (A + T) (R + T') ↔ Zip215Eq lib S k A R) :=
  ⟨zip215Eq_iff_eight S k A R, zip215Eq_add_torsion S k A R T T' hT hT'⟩

/-- … and so do the verdicts, for key encodings of `A` and `A + T` (given the same hash scalar, which is
computed from the bytes) and for `R` halves encoding `R` and `R + T'`. -/
theorem torsion_verdicts (h : Lawful lib) (pk pk' msg sig sig' : Bytes) (hpk : pk.length = 32)
    (hpk' : pk'.length = 32) :
    (∀ A T, lib.decode pk = some A → lib.decode pk' = some (A + T) → (8 : ℕ) • T = 0 →
      hramScalar lib pk msg sig = hramScalar lib pk' msg sig →
      (Iota.Ed25519.verify lib pk msg sig = some true ↔ Iota.Ed25519.verify lib pk' msg sig = some true)) ∧
    (sig.length = 64 → sig'.length = 64 → sig.drop 32 = sig'.drop 32 →
      ∀ R T', lib.decode (sig.take 32) = some R → lib.decode (sig'.take 32) = some (R + T') →
      (8 : ℕ) • T' = 0 → hramScalar lib pk msg sig = hramScalar lib pk msg sig' →
      (Iota.Ed25519.verify lib pk msg sig = some true ↔ Iota.Ed25519.verify lib pk msg sig' = some true)) :=
  ⟨fun A T hA hA' hT hk => verify_torsion_key h pk pk' msg sig hpk hpk' A T hA hA' hT hk,
   fun hl hl' hSS R T' hR hR' hT' hk => verify_torsion_R h pk msg sig sig' hpk hl hl' hSS R T' hR hR' hT' hk⟩

/-! ### non-vacuity: the hypotheses are satisfiable — `Iota.Proofs.Ed.Witness` builds a lawful library -/
example : ∃ (G : Type) (_ : AddCommGroup G) (lib : EdLib G), Lawful lib ∧ Cofactor lib := lawful_witness

/-- … and the torsion theorems are witnessed with T ≠ 0: a lawful cofactor-8 library (over ℤ/8L) with an 8-torsion
point T ≠ 0 on which, for every honest key and message, two different key encodings (of A and A + T) with the same hash
scalar both make `verify` accept while the cofactorless check accepts only the first — the ZIP-215 set is strictly
larger than crypto/ed25519's — and likewise for R versus R + T. -/
theorem torsion_nonvacuous :
    ∃ (G : Type) (_ : AddCommGroup G) (lib : EdLib G) (T : G),
      Lawful lib ∧ Cofactor lib ∧ (8 : ℕ) • T = 0 ∧ T ≠ 0 ∧
      (∃ (S k : ℕ) (A R : G), Zip215Eq lib S k A R ∧ Zip215Eq lib S k (A + T) R ∧
        S • lib.base = R + k • A ∧ S • lib.base ≠ R + k • (A + T)) ∧
      (∀ (x : ℕ) (msg : Bytes), ∃ (pk pk' sig : Bytes),
        pk.length = 32 ∧ pk'.length = 32 ∧ pk ≠ pk' ∧
        lib.decode pk = some (x • lib.base) ∧ lib.decode pk' = some (x • lib.base + T) ∧
        hramScalar lib pk msg sig = hramScalar lib pk' msg sig ∧
        Iota.Ed25519.verify lib pk msg sig = some true ∧ Iota.Ed25519.verify lib pk' msg sig = some true ∧
        stdVerify lib pk msg sig = true ∧ stdVerify lib pk' msg sig = false) :=
  ⟨ZMod (8 * L), inferInstance, torsLibL, torsT, torsL_lawful, torsL_cofactor, torsT_torsion.1, torsT_torsion.2,
    ⟨_, 1, _, _, zip215_strict torsT_torsion.1 1 1 1 (torsLib_smul_torsion_ne L_pos 1 (by decide))⟩,
    fun x msg => ⟨_, _, _, torsLib_verify_strict (n := L) eight_L_lt rfl x 1 msg⟩⟩

end Iota.Props.C01
