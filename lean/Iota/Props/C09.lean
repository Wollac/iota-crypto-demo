/-
C09 — the BIP-39 seed is PBKDF2 over the normalized sentence and passphrase; sentence parsing.
NFKD (`golang.org/x/text/unicode/norm`) and PBKDF2-HMAC-SHA512 are parameters of the model: what is
proved is the repository's own logic around them.  The correspondence run instantiates PBKDF2 with a
Lean implementation and feeds the NFKD form computed by x/text, so that a dropped normalisation, a
different iteration count, salt or password shows up as a disagreement.
-/
import Iota.Proofs.Fields
import Iota.Props.C03

namespace Iota.Props.C09
open Iota.Bip39 Iota.Mnemonic Iota.Proofs.Fields

section
variable (H : Bytes → Bytes) (W : List Word) (nfkd : Bytes → Bytes) (pbkdf2 : Bytes → Bytes → Nat → Nat → Bytes)

/-- for a valid mnemonic the seed is PBKDF2(password = the words joined by single spaces,
salt = "mnemonic" ++ NFKD(passphrase), 2048 iterations, 64 bytes) … -/
theorem seed_is_pbkdf2 (ms : List Word) (pass e : Bytes) (h : mnemonicToEntropy H W ms = .ok e) :
    mnemonicToSeed H W nfkd pbkdf2 ms pass = .ok (pbkdf2 (join ms) (saltPrefix ++ nfkd pass) 2048 64) := by
  unfold mnemonicToSeed; rw [h]

/-- … and an invalid mnemonic yields the validation error and no seed. -/
theorem invalid_mnemonic_no_seed (ms : List Word) (pass : Bytes) (err : Err) (h : mnemonicToEntropy H W ms = .error err) :
    mnemonicToSeed H W nfkd pbkdf2 ms pass = .error err := by
  unfold mnemonicToSeed; rw [h]

/-- the password is the sentence with exactly one U+0020 between words: it parses back to the words. -/
theorem password_roundtrip (ws : List Bytes) (h : ∀ w ∈ ws, w ≠ [] ∧ SpaceFree w) : fields (join ws) = ws :=
  fields_join ws h

/-- parsing is insensitive to the kind and amount of white space between words … -/
theorem whitespace_kind_and_amount_irrelevant (a b r r' : Bytes) (hr : SpaceRun r) (hr' : SpaceRun r') :
    fields (a ++ r ++ b) = fields (a ++ r' ++ b) := by
  rw [fields_append_run a b r hr, fields_append_run a b r' hr']

/-- … and to leading and trailing white space. -/
theorem leading_trailing_whitespace_irrelevant (a r : Bytes) (hr : SpaceRun r) :
    fields (r ++ a) = fields a ∧ fields (a ++ r) = fields a := by
  constructor
  · simpa [fields_nil] using fields_append_run [] a r hr
  · simpa [fields_nil] using fields_append_run a [] r hr

/-- the words produced by the parser are non-empty and contain no white space … -/
theorem parsed_words_clean (s : Bytes) : ∀ w ∈ fields s, w ≠ [] ∧ SpaceFree w := fields_spaceFree s

/-- … so parsing the printed form of a parsed sentence gives the same sentence.  The hypothesis on the
normalisation map is what NFKD provides (idempotent; the printed form consists of NFKD text and U+0020). -/
theorem parse_print_parse (hfix : ∀ s, nfkd (join (fields (nfkd s))) = join (fields (nfkd s))) (s : Bytes) :
    parseMnemonic nfkd (join (parseMnemonic nfkd s)) = parseMnemonic nfkd s := by
  unfold parseMnemonic
  rw [hfix, fields_idempotent]

/-- insensitivity to Unicode compatibility forms: two inputs with the same NFKD form parse identically. -/
theorem compatibility_forms_irrelevant (s s' : Bytes) (h : nfkd s = nfkd s') :
    parseMnemonic nfkd s = parseMnemonic nfkd s' := by
  unfold parseMnemonic; rw [h]
end

/-! ### non-vacuity -/
-- "a b" and "a \t　b " parse to the same two words
example : fields [97, 32, 98] = [[97], [98]] ∧ fields [97, 32, 9, 0xE3, 0x80, 0x80, 98, 32] = [[97], [98]] := by
  decide +kernel
example : SpaceRun [32] := SpaceRun.one [32] (by decide) (by decide)
example : join [[97], [98, 99]] = [97, 32, 98, 99] := rfl

end Iota.Props.C09
